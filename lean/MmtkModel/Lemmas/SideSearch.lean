import MmtkModel.Model.SideMetaSearch
import MmtkModel.Lemmas.SideTiles
import MmtkModel.Lemmas.ListAux
/-!
# C22: visiting orders, and the scan (`scan_non_zero_values`)

Intervals of positions in visiting order (`up x y` ascending, `down x y` descending), shared by scan and
find-searches; ranges tiling an interval concatenate to it. The scan: what a range scanner must output for a bit
interval (`ScanOk`, additive over adjacent intervals), the specification `scanSpec`, which the naive scan computes,
and the set bits of a 1-bit table read as non-zero regions (`bits_to_regions`). The find-searches are in `SideFind`.
-/
namespace Mmtk.SideMeta
open Mmtk.Mem
open Mmtk.HeaderMeta (ByteMem)

def up (x y : Nat) : List Nat := List.range' x (y - x)

def down (x y : Nat) : List Nat := (up x y).reverse

theorem filterMap_ite {α β : Type} (p : α → Prop) [DecidablePred p] (f : α → β) (l : List α) :
    l.filterMap (fun x => if p x then some (f x) else none) = (l.filter (fun x => decide (p x))).map f := by
  induction l with
  | nil => rfl
  | cons a l ih =>
    by_cases h : p a <;> simp [h, ih]

theorem mem_up {x y p : Nat} : p ∈ up x y ↔ x ≤ p ∧ p < y := by
  unfold up; rw [List.mem_range'_1]; omega

theorem mem_down {x y p : Nat} : p ∈ down x y ↔ x ≤ p ∧ p < y := by
  unfold down; rw [List.mem_reverse, mem_up]

theorem up_self (x : Nat) : up x x = [] := by
  unfold up; rw [Nat.sub_self]; rfl

theorem up_append {x y z : Nat} (h1 : x ≤ y) (h2 : y ≤ z) : up x y ++ up y z = up x z :=
  ListAux.range'_append_sub h1 h2

theorem down_append {x y z : Nat} (h1 : x ≤ y) (h2 : y ≤ z) : down y z ++ down x y = down x z := by
  unfold down; rw [← List.reverse_append, up_append h1 h2]

theorem up_cons {x y : Nat} (h : x < y) : up x y = x :: up (x + 1) y := by
  unfold up
  have e : y - x = (y - (x + 1)) + 1 := by omega
  rw [e, List.range'_succ]

theorem down_cons {x y : Nat} (h : x < y) : down x y = (y - 1) :: down x (y - 1) := by
  have e : down (y - 1) y = [y - 1] := by
    unfold down; rw [up_cons (by omega), Nat.sub_add_cancel (by omega), up_self]; rfl
  rw [← down_append (Nat.le_sub_one_of_lt h) (Nat.sub_le y 1), e]; rfl

theorem up_map_add (c a b : Nat) : (up a b).map (fun i => c + i) = up (c + a) (c + b) := by
  unfold up; rw [List.map_add_range', Nat.add_sub_add_left]

theorem pairwise_up (x y : Nat) : (up x y).Pairwise (· < ·) := List.pairwise_lt_range' ..

theorem pairwise_down (x y : Nat) : (down x y).Pairwise (· > ·) := List.pairwise_reverse.2 (pairwise_up x y)

theorem tiles_up {x y : Nat} {L : List BBR} (h : Tiles x L y) : L.flatMap (fun r => up r.lo r.hi) = up x y := by
  induction L generalizing x with
  | nil => rw [show x = y from h, up_self]; rfl
  | cons r rs ih =>
    obtain ⟨h1, h2, h3⟩ := h
    rw [List.flatMap_cons, ih h3, h1.symm, up_append (Nat.le_of_lt (r.lo_lt_hi h2)) (tiles_le h3)]

theorem tiles_down {x y : Nat} {L : List BBR} (h : Tiles x L y) :
    L.reverse.flatMap (fun r => down r.lo r.hi) = down x y := by
  unfold down; rw [← tiles_up h, List.reverse_flatMap]; rfl

theorem up_flatMap (f : Nat → Nat) (hf : ∀ r r', r ≤ r' → f r ≤ f r') {a b : Nat} (h : a ≤ b) :
    (up a b).flatMap (fun r => up (f r) (f (r + 1))) = up (f a) (f b) := by
  obtain ⟨n, rfl⟩ := Nat.exists_eq_add_of_le h
  clear h
  induction n generalizing a with
  | zero => rw [Nat.add_zero, up_self, up_self]; rfl
  | succ n ih =>
    have e : a + (n + 1) = a + 1 + n := by omega
    rw [up_cons (by omega), List.flatMap_cons, e, ih, up_append (hf _ _ (by omega)) (hf _ _ (by omega))]

theorem down_flatMap (f : Nat → Nat) (hf : ∀ r r', r ≤ r' → f r ≤ f r') {a b : Nat} (h : a ≤ b) :
    (down a b).flatMap (fun r => down (f r) (f (r + 1))) = down (f a) (f b) := by
  unfold down; rw [← up_flatMap f hf h, List.reverse_flatMap]; rfl

def bitsIn (m : Mem) (x y : Nat) : List Nat := (up x y).filter (fun p => bitAt m p)

theorem bitsIn_self (m : Mem) (x : Nat) : bitsIn m x x = [] := by
  unfold bitsIn; rw [up_self]; rfl

theorem bitsIn_append (m : Mem) {x y z : Nat} (h1 : x ≤ y) (h2 : y ≤ z) :
    bitsIn m x y ++ bitsIn m y z = bitsIn m x z := by
  unfold bitsIn
  rw [← List.filter_append, up_append h1 h2]

theorem mem_bitsIn (m : Mem) (x y p : Nat) : p ∈ bitsIn m x y ↔ (x ≤ p ∧ p < y ∧ bitAt m p = true) := by
  unfold bitsIn
  rw [List.mem_filter, mem_up, and_assoc]

theorem bitsIn_shift (m : Mem) (c a b : Nat) :
    bitsIn m (c + a) (c + b) = ((up a b).filter (fun i => bitAt m (c + i))).map (fun i => c + i) := by
  unfold bitsIn; rw [← up_map_add, List.filter_map]; rfl

/-- global bit index of a `(metadata address, bit)` pair (the bit may exceed 7: word scans report
`(word address, bit in word)`). -/
def pos (ab : Nat × Nat) : Nat := 8 * ab.1 + ab.2

/-- what a scanner of the bit interval `[x, y)` must report: exactly the set bits, ascending, each
as a pair whose address is not below the interval's first byte and whose bit index fits a word
(the widest load is a `u64`, hence 64). The address bound is what lets `metaToData` subtract the table
start from it without truncation. -/
def ScanOk (m : Mem) (x y : Nat) (l : List (Nat × Nat)) : Prop :=
  l.map pos = bitsIn m x y ∧ ∀ ab ∈ l, x / 8 ≤ ab.1 ∧ ab.2 < 64

theorem scanOk_nil (m : Mem) (x : Nat) : ScanOk m x x [] := by
  refine ⟨by simp [bitsIn_self], fun ab h => by cases h⟩

theorem scanOk_append (m : Mem) {x y z : Nat} {l1 l2 : List (Nat × Nat)} (h1 : x ≤ y) (h2 : y ≤ z)
    (a : ScanOk m x y l1) (b : ScanOk m y z l2) : ScanOk m x z (l1 ++ l2) := by
  refine ⟨by rw [List.map_append, a.1, b.1, bitsIn_append m h1 h2], fun ab hab => ?_⟩
  rcases List.mem_append.1 hab with h | h
  · exact a.2 ab h
  · have := b.2 ab h
    have : x / 8 ≤ y / 8 := Nat.div_le_div_right h1
    omega

def scanRange (m : Mem) : BBR → List (Nat × Nat)
  | .bytes st en => scanBytes m st en
  | .bits ad bs be => scanBits m ad bs be

theorem scanOk_tiles (m : Mem) (hr : ∀ r : BBR, r.wf → ScanOk m r.lo r.hi (scanRange m r))
    {x y : Nat} {L : List BBR} (h : Tiles x L y) : ScanOk m x y (L.flatMap (scanRange m)) := by
  induction L generalizing x with
  | nil => simp only [Tiles] at h; subst h; exact scanOk_nil m x
  | cons r rs ih =>
    obtain ⟨h1, h2, h3⟩ := h
    rw [List.flatMap_cons]
    have := hr r h2
    rw [h1] at this
    have hlt := r.lo_lt_hi h2
    exact scanOk_append m (by omega) (tiles_le h3) this (ih h3)

/-- The set bits `b0 … b1-1` of the byte (or word) at `a`, read off a predicate `p` that agrees with memory there. -/
theorem scanOk_bits (m : Mem) (a b0 b1 : Nat) (p : Nat → Bool) (hb0 : b0 < 8) (hb1 : b1 ≤ 64)
    (hb : ∀ i, b0 ≤ i → i < b1 → p i = bitAt m (8 * a + i)) :
    ScanOk m (8 * a + b0) (8 * a + b1) (((up b0 b1).filter p).map (fun i => (a, i))) := by
  constructor
  · rw [bitsIn_shift, List.map_map, List.filter_congr (fun i hi => hb i (mem_up.1 hi).1 (mem_up.1 hi).2)]
    rfl
  · intro ab hab
    obtain ⟨i, hi, rfl⟩ := List.mem_map.1 hab
    have := (mem_up.1 (List.mem_filter.1 hi).1).2
    exact ⟨by omega, by omega⟩

/-- no wrap in `contiguous_meta_address_to_address` for fields of at most a byte, when the result fits 64 bits. -/
theorem metaToData_sub (s : Spec) (h3 : s.logBits ≤ 3) (a b : Nat)
    (hlt : (a - s.start) * 2 ^ (3 - s.logBits) * 2 ^ s.logRegion + b * 2 ^ (s.logRegion - s.logBits) < 2 ^ 64) :
    metaToData s a b = (a - s.start) * 2 ^ (3 - s.logBits) * 2 ^ s.logRegion + b * 2 ^ (s.logRegion - s.logBits) := by
  have h1 : (a - s.start) * 2 ^ (3 - s.logBits) ≤ (a - s.start) * 2 ^ (3 - s.logBits) * 2 ^ s.logRegion :=
    Nat.le_mul_of_pos_right _ (Nat.two_pow_pos _)
  unfold metaToData
  simp only [if_pos h3, Nat.shiftLeft_eq]
  rw [Nat.mod_eq_of_lt (by omega : (a - s.start) * 2 ^ (3 - s.logBits) < 2 ^ 64), Nat.mod_eq_of_lt (by omega),
    Nat.mod_eq_of_lt (by omega)]

theorem metaToData_bit (s : Spec) (h0 : s.logBits = 0) (a b : Nat)
    (hlt : ((a - s.start) * 8 + b) * 2 ^ s.logRegion < 2 ^ 64) :
    metaToData s a b = ((a - s.start) * 8 + b) * 2 ^ s.logRegion := by
  rw [Nat.add_mul] at hlt ⊢
  have := metaToData_sub s (by omega) a b
  rw [h0] at this
  exact this hlt

/-- **specification of a scan**: the starts of the regions of `[dStart, dEnd)` whose field is
non-zero, ascending, once each. -/
def scanSpec (s : Spec) (m : Mem) (dStart dEnd : Nat) : List Nat :=
  ((List.range' (dStart / 2 ^ s.logRegion) (dEnd / 2 ^ s.logRegion - dStart / 2 ^ s.logRegion)).map
    (· * 2 ^ s.logRegion)).filter (fun x => decide (load s m x ≠ 0))

theorem scanSimpleLoop_eq (debug : Bool) (env : MapEnv) (s : Spec) (m : Mem) (r1 : Nat) :
    ∀ n fuel r, r + n = r1 → n < fuel →
      (debug = true → ∀ x, r ≤ x → x < r1 → env.mapped (x * 2 ^ s.logRegion) = true) →
      scanSimpleLoop debug env s m (r1 * 2 ^ s.logRegion) fuel (r * 2 ^ s.logRegion) =
        some (((List.range' r n).map (· * 2 ^ s.logRegion)).filter (fun x => decide (load s m x ≠ 0))) := by
  have hR := Nat.two_pow_pos s.logRegion
  intro n
  induction n with
  | zero =>
    intro fuel r hr hf _
    obtain ⟨f, rfl⟩ : ∃ f, fuel = f + 1 := ⟨fuel - 1, by omega⟩
    obtain rfl : r = r1 := by omega
    unfold scanSimpleLoop
    simp
  | succ n ih =>
    intro fuel r hr hf hmap
    obtain ⟨f, rfl⟩ : ∃ f, fuel = f + 1 := ⟨fuel - 1, by omega⟩
    have hlt : r * 2 ^ s.logRegion < r1 * 2 ^ s.logRegion := Nat.mul_lt_mul_of_pos_right (by omega) hR
    have hm' : (debug && !env.mapped (r * 2 ^ s.logRegion)) = false := by
      cases debug with
      | false => rfl
      | true => simp [hmap rfl r (Nat.le_refl _) (by omega)]
    have hnext : r * 2 ^ s.logRegion + 2 ^ s.logRegion = (r + 1) * 2 ^ s.logRegion := (Nat.succ_mul ..).symm
    unfold scanSimpleLoop
    rw [hnext, ih f (r + 1) (by omega) (by omega) (fun hd x hx1 hx2 => hmap hd x (by omega) hx2)]
    simp only [hlt, not_true_eq_false, if_false, hm', Bool.false_eq_true]
    rw [List.range'_succ, List.map_cons, List.filter_cons]
    simp

theorem aligned_mul {x lr : Nat} (h : x % 2 ^ lr = 0) : ∃ q, x = q * 2 ^ lr := by
  obtain ⟨q, hq⟩ := Nat.dvd_of_mod_eq_zero h
  exact ⟨q, hq.trans (Nat.mul_comm ..)⟩

/-- Any field width; in a debug build the `debug_assert!(cursor.is_mapped())` of the loop needs the visited
region starts to be mapped. -/
theorem scanSimple_eq_spec (debug : Bool) (env : MapEnv) (s : Spec) (m : Mem) (dStart dEnd : Nat)
    (h1 : dStart % 2 ^ s.logRegion = 0) (h2 : dEnd % 2 ^ s.logRegion = 0) (hle : dStart ≤ dEnd)
    (hmap : debug = true → ∀ x, dStart ≤ x → x < dEnd → x % 2 ^ s.logRegion = 0 → env.mapped x = true) :
    scanSimple debug env s m dStart dEnd = some (scanSpec s m dStart dEnd) := by
  have hR := Nat.two_pow_pos s.logRegion
  obtain ⟨q0, rfl⟩ := aligned_mul h1
  obtain ⟨q1, rfl⟩ := aligned_mul h2
  have hq : q0 ≤ q1 := Nat.le_of_mul_le_mul_right hle hR
  unfold scanSimple scanSpec
  rw [← Nat.sub_mul, Nat.mul_div_cancel _ hR, Nat.mul_div_cancel _ hR, Nat.mul_div_cancel _ hR]
  apply scanSimpleLoop_eq debug env s m _ _ _ _ (by omega) (by omega)
  intro hd x hx1 hx2
  apply hmap hd
  · exact Nat.mul_le_mul_right _ hx1
  · exact Nat.mul_lt_mul_of_pos_right hx2 hR
  · exact Nat.mul_mod_left ..

theorem bits_to_regions (s : Spec) (hs : s.ok) (h0 : s.logBits = 0) (m : Mem) (hm : ByteMem m) (r0 r1 : Nat)
    (h64 : r1 * 2 ^ s.logRegion ≤ 2 ^ 64) :
    (bitsIn m (fieldBase s r0) (fieldBase s r1)).map (fun p => (p - 8 * s.start) * 2 ^ s.logRegion) =
      ((List.range' r0 (r1 - r0)).map (· * 2 ^ s.logRegion)).filter (fun x => decide (load s m x ≠ 0)) := by
  have hR := Nat.two_pow_pos s.logRegion
  have hfb : ∀ r, fieldBase s r = 8 * s.start + r := fun r => by unfold fieldBase; rw [h0, Nat.pow_zero, Nat.mul_one]
  rw [hfb, hfb, bitsIn_shift, List.map_map, List.filter_map]
  -- `scanSpec` spells the list of regions as `List.range' r0 (r1 - r0)`, which is `up r0 r1` by definition
  show ((up r0 r1).filter _).map _ = ((up r0 r1).filter _).map _
  -- the two filters keep the same regions (a set bit is a non-zero load), and the two maps agree on them
  refine (congrArg _ (List.filter_congr fun r hr => ?_)).trans (List.map_congr_left fun r _ => ?_)
  · have hlt : r * 2 ^ s.logRegion < 2 ^ 64 :=
      Nat.lt_of_lt_of_le (Nat.mul_lt_mul_of_pos_right (mem_up.1 hr).2 hR) h64
    have hz : absArr m s r = 0 ↔ bitAt m (8 * s.start + r) = false := by
      rw [absArr_eq_zero_iff m hm s r, h0, ← hfb r]
      exact ⟨fun h => h 0 (by decide), fun h i hi => by rw [show i = 0 by simpa using hi]; exact h⟩
    simp [load_region s hs m r hlt, hz]
  · simp only [Function.comp]
    congr 1
    omega

end Mmtk.SideMeta
