import MmtkModel.Lemmas.FreeListTab
/-!
# Circular doubly-linked free lists of the table, with a ghost `List Nat` (C26, concrete layer)

`Links t h x l`: starting at `x` (the head `h` itself, or a unit), following `next` visits exactly
the units of `l` in order and then returns to the head `h`; every `prev` pointer is the inverse.
The list of head `h` is `Links t h h l`.  `LinkOK t h x`: `x` is a value a link field of this list can
hold and a unit whose own links can be written.  `add_to_free` pushes at the front (`pLink`,
`Links_push`), `__remove_from_free` unlinks an arbitrary member (`Links_unlink`); both methods are
`.ok` of pure functions (`pAddToFree`, `pRemoveFromFree`) when the nodes they touch are `LinkOK`.
-/
namespace Mmtk.FreeList

def Links (t : Tab) (h : Int) : Int → List Nat → Prop
  | x, [] => nxt t h x = h ∧ prv t h h = x
  | x, y :: r => nxt t h x = (y : Int) ∧ prv t h (y : Int) = x ∧ Links t h (y : Int) r

theorem Links_congr {t t' : Tab} {h : Int} (l : List Nat) : ∀ (x : Int),
    (fNext t' x = fNext t x) → (∀ y ∈ l, fNext t' (y : Int) = fNext t (y : Int)) →
    (fPrev t' h = fPrev t h) → (∀ y ∈ l, fPrev t' (y : Int) = fPrev t (y : Int)) →
    Links t h x l → Links t' h x l := by
  induction l with
  | nil =>
    intro x hx _ hh _ hl
    simp only [Links, nxt, prv] at hl ⊢
    rw [hx, hh]; exact hl
  | cons y r ih =>
    intro x hx hn hh hp hl
    simp only [Links, nxt, prv] at hl ⊢
    rw [hx, hp y (List.mem_cons_self ..)]
    refine ⟨hl.1, hl.2.1, ?_⟩
    exact ih y (hn y (List.mem_cons_self ..)) (fun z hz => hn z (List.mem_cons_of_mem _ hz)) hh
      (fun z hz => hp z (List.mem_cons_of_mem _ hz)) hl.2.2

def firstI (l : List Nat) (h : Int) : Int :=
  match l with
  | [] => h
  | y :: _ => (y : Int)

def lastI (x : Int) : List Nat → Int
  | [] => x
  | y :: r => lastI (y : Int) r

theorem Links_nxt {t : Tab} {h x : Int} {l : List Nat} (hl : Links t h x l) : nxt t h x = firstI l h := by
  cases l <;> exact hl.1

theorem lastI_of {p : Int → Prop} {x : Int} {l : List Nat} (hx : p x) (hl : ∀ y ∈ l, p (y : Int)) : p (lastI x l) := by
  induction l generalizing x with
  | nil => exact hx
  | cons y r ih => exact ih (hl y (List.mem_cons_self ..)) fun z hz => hl z (List.mem_cons_of_mem _ hz)

theorem firstI_of {p : Int → Prop} {h : Int} {l : List Nat} (hh : p h) (hl : ∀ y ∈ l, p (y : Int)) : p (firstI l h) := by
  cases l with
  | nil => exact hh
  | cons y r => exact hl y (List.mem_cons_self ..)

/-- a node of the list of head `h`, seen from the table: the head or a unit (a value `set_next` /
`set_prev` accept and `dl h` decodes to itself), with its entries in range -/
def LinkOK (t : Tab) (h x : Int) : Prop := (x = h ∨ (0 ≤ x ∧ x ≤ MAX_UNITS)) ∧ InR t x

def Units (t : Tab) (l : List Nat) : Prop := ∀ y ∈ l, ((y : Nat) : Int) ≤ MAX_UNITS ∧ InR t (y : Int)

/-- A head's 30-bit pattern lies above `MAX_UNITS`, which is how `dl` recognises it. -/
theorem dl_lk {h x : Int} (hh : -MAX_HEADS ≤ h ∧ h < 0) (hx : x = h ∨ (0 ≤ x ∧ x ≤ MAX_UNITS)) : dl h (lk x) = x := by
  rcases hx with rfl | ⟨h0, h1⟩
  · exact dl_lk_head _ hh.1 hh.2
  · exact dl_lk_unit _ h0 h1

/-- `__remove_from_free(u)`: the predecessor's `next` and the successor's `prev` skip `u`. -/
def pRemoveFromFree (t : Tab) (h u : Int) : Tab :=
  wPrev (wNext t (prv t h u) (nxt t h u)) (nxt t h u) (prv t h u)

@[simp] theorem heads_pRemoveFromFree (t : Tab) (h u : Int) : (pRemoveFromFree t h u).heads = t.heads := by
  simp [pRemoveFromFree]

theorem Links_at {t : Tab} {h : Int} (u : Nat) (l2 l1 : List Nat) : ∀ (x : Int),
    Links t h x (l1 ++ u :: l2) → nxt t h (u : Int) = firstI l2 h ∧ prv t h (u : Int) = lastI x l1 := by
  induction l1 with
  | nil => exact fun _ hl => ⟨Links_nxt hl.2.2, hl.2.1⟩
  | cons z l1 ih => exact fun _ hl => ih z hl.2.2

/-- Unlinking `u`, for any two tables: `t'` has `t`'s `next` fields except at the predecessor of `u` and `t`'s `prev`
fields except at its successor, and links those two to each other. -/
theorem Links_unlink {t t' : Tab} {h : Int} (hh : h < 0) (u : Nat) (l2 : List Nat) : ∀ (l1 : List Nat) (x : Int),
    (l1 ++ u :: l2).Nodup → (∀ y ∈ l1 ++ u :: l2, (y : Int) ≠ x) → Links t h x (l1 ++ u :: l2) →
    (∀ w, w ≠ lastI x l1 → fNext t' w = fNext t w) → (∀ w, w ≠ firstI l2 h → fPrev t' w = fPrev t w) →
    nxt t' h (lastI x l1) = firstI l2 h → prv t' h (firstI l2 h) = lastI x l1 → Links t' h x (l1 ++ l2) := by
  intro l1
  induction l1 with
  | nil =>
    intro x hnd hne hl fn fp hn hp
    cases l2 with
    | nil => exact ⟨hn, hp⟩
    | cons y r =>
      have hyr : y ∉ r := (List.nodup_cons.mp (List.nodup_cons.mp hnd).2).1
      have hm : ∀ z ∈ y :: r, z ∈ [] ++ u :: y :: r := fun z hz => List.mem_cons_of_mem _ hz
      have hy : h ≠ (y : Int) := by omega
      exact ⟨hn, hp, Links_congr r y (fn _ (hne y (hm y (List.mem_cons_self ..))))
        (fun z hz => fn _ (hne z (hm z (List.mem_cons_of_mem _ hz)))) (fp _ hy)
        (fun z hz => fp _ fun e => hyr (Int.ofNat_inj.mp e ▸ hz)) hl.2.2.2.2⟩
  | cons z l1 ih =>
    intro x hnd hne hl fn fp hn hp
    have hnd' := List.nodup_cons.mp hnd
    refine ⟨?_, ?_, ih z hnd'.2 (fun y hy e => hnd'.1 (Int.ofNat_inj.mp e ▸ hy)) hl.2.2 fn fp hn hp⟩
    · have hx : x ≠ lastI (z : Int) l1 :=
        lastI_of (p := fun w => x ≠ w) (fun e => hne z (List.mem_cons_self ..) e.symm)
          fun y hy e => hne y (List.mem_cons_of_mem _ (List.mem_append_left _ hy)) e.symm
      rw [nxt, fn x hx]; exact hl.1
    · have hz : (z : Int) ≠ firstI l2 h :=
        firstI_of (p := fun w => (z : Int) ≠ w) (by omega) fun y hy e =>
          hnd'.1 (Int.ofNat_inj.mp e ▸ List.mem_append_right _ (List.mem_cons_of_mem _ hy))
      rw [prv, fp z hz]; exact hl.2.1

/-- the four link writes of `add_to_free`: `u` goes between the head and its successor -/
def pLink (t : Tab) (h u : Int) : Tab :=
  wPrev (wPrev (wNext (wNext t u (nxt t h h)) h u) u h) (nxt t h h) u

@[simp] theorem heads_pLink (t : Tab) (h u : Int) : (pLink t h u).heads = t.heads := by simp [pLink]

theorem Links_push {t : Tab} {h : Int} (hh : -MAX_HEADS ≤ h ∧ h < 0) (hhR : InR t h) (u : Nat)
    (huU : (u : Int) ≤ MAX_UNITS ∧ InR t (u : Int)) (l : List Nat) (hU : Units t l) (hnd : l.Nodup)
    (hu : u ∉ l) (hl : Links t h h l) :
    Links (pLink t h (u : Int)) h h (u :: l) := by
  unfold pLink
  rw [Links_nxt hl]
  have huh : (u : Int) ≠ h := by omega
  have hhu : h ≠ (u : Int) := by omega
  cases l with
  | nil =>
    simp only [firstI, Links, nxt, prv, fNext_wPrev, fNext_wNext, fPrev_wPrev, fPrev_wNext, InR_wNext, InR_wPrev,
      hhR, huU.2, and_true, if_true, if_neg huh, if_neg hhu]
    exact ⟨dl_lk hh (Or.inr ⟨by omega, huU.1⟩), dl_lk hh (Or.inl rfl), dl_lk hh (Or.inl rfl),
      dl_lk hh (Or.inr ⟨by omega, huU.1⟩)⟩
  | cons y r =>
    obtain ⟨g1, g2, g3⟩ := hl
    have hyU := hU y (List.mem_cons_self ..)
    have hyu : (y : Int) ≠ (u : Int) := fun e => hu (Int.ofNat_inj.mp e ▸ List.mem_cons_self ..)
    have huy : (u : Int) ≠ (y : Int) := fun e => hyu e.symm
    have hyh : (y : Int) ≠ h := by omega
    have hhy : h ≠ (y : Int) := by omega
    have hyr : y ∉ r := (List.nodup_cons.mp hnd).1
    simp only [firstI, Links, nxt, prv, fNext_wPrev, fNext_wNext, fPrev_wPrev, fPrev_wNext, InR_wNext, InR_wPrev,
      hhR, huU.2, hyU.2, and_true, if_true, if_neg huh, if_neg hhu, if_neg hyu, if_neg huy]
    refine ⟨dl_lk hh (Or.inr ⟨by omega, huU.1⟩), dl_lk hh (Or.inl rfl), dl_lk hh (Or.inr ⟨by omega, hyU.1⟩),
      dl_lk hh (Or.inr ⟨by omega, huU.1⟩), ?_⟩
    apply Links_congr r (y : Int) _ _ _ _ g3
    · simp only [fNext_wPrev, fNext_wNext, hyu, hyh, false_and, if_false]
    · intro z hz
      have h1 : (z : Int) ≠ h := by omega
      have h2 : (z : Int) ≠ (u : Int) := fun e => hu (Int.ofNat_inj.mp e ▸ List.mem_cons_of_mem _ hz)
      simp only [fNext_wPrev, fNext_wNext, h1, h2, false_and, if_false]
    · simp only [fPrev_wPrev, fPrev_wNext, hhy, hhu, false_and, if_false]
    · intro z hz
      have h1 : (z : Int) ≠ (y : Int) := fun e => hyr (Int.ofNat_inj.mp e ▸ hz)
      have h2 : (z : Int) ≠ (u : Int) := fun e => hu (Int.ofNat_inj.mp e ▸ List.mem_cons_of_mem _ hz)
      simp only [fPrev_wPrev, fPrev_wNext, h1, h2, false_and, if_false]

/-- `add_to_free(u)`: `set_free`, then the link writes. -/
def pAddToFree (t : Tab) (h u : Int) : Tab := pLink (pSetFree t u true) h u

@[simp] theorem heads_pAddToFree (t : Tab) (h u : Int) : (pAddToFree t h u).heads = t.heads := by simp [pAddToFree]

/-- what the `debug_assert!` of `set_next` / `set_prev` checks -/
theorem LinkOK.range {t : Tab} {h x : Int} (hx : LinkOK t h x) (hh : -t.heads ≤ h ∧ h < 0) :
    -t.heads ≤ x ∧ x ≤ MAX_UNITS := by
  have hm : (0 : Int) ≤ MAX_UNITS := by decide
  rcases hx.1 with e | e
  · rw [e]; omega
  · omega

theorem addToFree_ok {t : Tab} {h : Int} {x e : Nat} (debug : Bool) (hh : -t.heads ≤ h ∧ h < 0) (hhR : InR t h)
    (hs : Sized t x e) (hxe : x < e) (hR : ∀ w : Int, (x : Int) ≤ w → w < e → InR t w) (hx : (x : Int) ≤ MAX_UNITS)
    (hn : LinkOK t h (nxt t h h)) : addToFree debug t h (x : Int) = .ok (pAddToFree t h (x : Int)) := by
  have hu : LinkOK t h (x : Int) := ⟨Or.inr ⟨by omega, hx⟩, hR _ (Int.le_refl _) (by omega)⟩
  unfold addToFree pAddToFree pLink
  rw [setFree_sized hs hxe hR]
  simp only [bind, Except.bind]
  rw [getNext_ok ((InR_pSetFree ..).mpr hhR), nxt_pSetFree]
  -- the bare `simp only []` (here, below and in `split_step`) reduces the `match Except.ok _ with …` left by `bind`
  simp only []
  rw [setNext_ok (by simpa using hu.2) debug fun _ => by simpa using hn.range hh]
  simp only []
  rw [setNext_ok (by simpa using hhR) debug fun _ => by simpa using hu.range hh]
  simp only []
  rw [setPrev_ok (by simpa using hu.2) debug fun _ => by simpa using LinkOK.range (x := h) ⟨Or.inl rfl, hhR⟩ hh]
  simp only []
  rw [setPrev_ok (by simpa using hn.2) debug fun _ => by simpa using hu.range hh]

theorem removeFromFree_ok {t : Tab} {h u : Int} (debug : Bool) (hh : -t.heads ≤ h ∧ h < 0) (huR : InR t u)
    (hn : LinkOK t h (nxt t h u)) (hp : LinkOK t h (prv t h u)) :
    removeFromFree debug t h u = .ok (pRemoveFromFree t h u) := by
  unfold removeFromFree pRemoveFromFree
  rw [getNext_ok huR]
  simp only [bind, Except.bind]
  rw [getPrev_ok huR]
  simp only []
  rw [setNext_ok hp.2 debug fun _ => hn.range hh]
  simp only []
  rw [setPrev_ok (by simpa using hn.2) debug fun _ => by simpa using hp.range hh]

/-- The walk skips the runs that are too small (`l1`) and stops at the first node after them: a run
that fits, or the head again.  What `get_size` answers for a member is a hypothesis here; `RelX`, which
provides it (`RelX.getSize_run`), is defined later. -/
theorem allocLoop_walk {t : Tab} {h : Int} (hh : h < 0) (size : Int) (rest : List Nat)
    (hfit : ∀ y, rest.head? = some y → size ≤ sizeOf t (y : Int)) :
    ∀ (l1 : List Nat) (fuel : Nat) (x : Int) (s : Int), Links t h x (l1 ++ rest) → l1.length < fuel →
    InR t x → (∀ z ∈ l1 ++ rest, InR t (z : Int) ∧ getSize t (z : Int) = .ok (sizeOf t (z : Int))) →
    (∀ z ∈ l1, sizeOf t (z : Int) < size) →
    ∃ s', allocLoop t h size fuel x s = .ok (firstI rest h, s') ∧ ∀ y, rest.head? = some y → s' = sizeOf t (y : Int) := by
  intro l1
  induction l1 with
  | nil =>
    intro fuel x s hl hf hxR hR _
    obtain ⟨fuel, rfl⟩ : ∃ f, fuel = f + 1 := ⟨fuel - 1, by simp at hf; omega⟩
    cases rest with
    | nil =>
      have hne : (h != h) = false := by simp
      exact ⟨s, by simp only [allocLoop, bind, Except.bind, getNext_ok hxR, hl.1, hne, Bool.false_eq_true, if_false,
        pure, Except.pure, firstI], fun _ c => by cases c⟩
    | cons y l2 =>
      have hyR := hR y (List.mem_cons_self ..)
      have hne : ((y : Int) != h) = true := by simp; omega
      have hns : ¬ sizeOf t (y : Int) < size := Int.not_lt.mpr (hfit y rfl)
      exact ⟨sizeOf t (y : Int), by simp only [allocLoop, bind, Except.bind, getNext_ok hxR, hl.1, hne, if_true,
        hyR.2, hns, if_false, pure, Except.pure, firstI], fun _ c => by cases c; rfl⟩
  | cons z l1 ih =>
    intro fuel x s hl hf hxR hR hsm
    obtain ⟨fuel, rfl⟩ : ∃ f, fuel = f + 1 := ⟨fuel - 1, by simp at hf; omega⟩
    have hzR := hR z (List.mem_cons_self ..)
    have hne : ((z : Int) != h) = true := by simp; omega
    have hzs : sizeOf t (z : Int) < size := hsm z (List.mem_cons_self ..)
    simp only [allocLoop, bind, Except.bind, getNext_ok hxR, hl.1, hne, if_true, hzR.2, hzs]
    exact ih fuel (z : Int) _ hl.2.2 (by simp at hf; omega) hzR.1
      (fun w hw => hR w (List.mem_cons_of_mem _ hw)) (fun w hw => hsm w (List.mem_cons_of_mem _ hw))

end Mmtk.FreeList
