import MmtkModel.Lemmas.FreeListRel
/-!
# The steps of `IntArrayFreeList::new` (C26, concrete layer)

`set_sentinel` as a pure function, the all-zero table, what the table holds once the sentinels are
written (`SentOnly`), and the abstract state it represents after the first `set_size`: one allocated
run (`allocAll`).  `new_refines_single` (`Props/C26`) goes on from there with `RelX.add_run`.
-/
namespace Mmtk.FreeList
open Mmtk.Runs

/-- `set_sentinel` as a pure function -/
def wSent (t : Tab) (u : Int) : Tab := updHi (updLo t u (M30 &&& enc u)) u (M30 &&& enc u)

theorem setSentinel_ok {t : Tab} {u : Int} (h : InR t u) : setSentinel t u = .ok (wSent t u) := by
  unfold setSentinel wSent
  simp only [bind, Except.bind, setLo_ok h]
  exact setHi_ok (by simpa using h) _

attribute [simp] wSent

theorem sent_t31 (u : Int) : (M30 &&& enc u).testBit 31 = false := by
  rw [Nat.testBit_and, M30_bits.1, Bool.false_and]
theorem sent_t30 (u : Int) : (M30 &&& enc u).testBit 30 = false := by
  rw [Nat.testBit_and, M30_bits.2.1, Bool.false_and]
theorem sent_lnk (u : Int) : lo30 (M30 &&& enc u) = lk u := by
  rw [Nat.and_comm]; exact and_low_mask _ _ M30_bits.2.2

def zeroTab (H : Int) (n : Nat) : Tab := { heads := H, cells := Array.replicate n 0 }

theorem loC_zero (H : Int) (n : Nat) (w : Int) : loC (zeroTab H n) w = 0 := by
  unfold loC zeroTab; split
  · simp only [Array.getD_eq_getD_getElem?, Array.getElem?_replicate]; split <;> rfl
  · rfl
theorem hiC_zero (H : Int) (n : Nat) (w : Int) : hiC (zeroTab H n) w = 0 := by
  unfold hiC zeroTab; split
  · simp only [Array.getD_eq_getD_getElem?, Array.getElem?_replicate]; split <;> rfl
  · rfl

/-- all flags clear, link fields: the sentinels written so far -/
structure SentOnly (t : Tab) (H : Int) (n : Nat) (P : Int → Prop) : Prop where
  heads : t.heads = H
  size : t.cells.size = n
  free : ∀ w, fFree t w = false
  unc : ∀ w, fUnc t w = false
  multi : ∀ w, fMulti t w = false
  prev : ∀ w, P w → fPrev t w = lk w
  next : ∀ w, P w → fNext t w = lk w

theorem sentOnly_zero (H : Int) (n : Nat) : SentOnly (zeroTab H n) H n (fun _ => False) :=
  ⟨rfl, by simp [zeroTab], fun w => by simp [fFree, loC_zero], fun w => by simp [fUnc, loC_zero],
   fun w => by simp [fMulti, hiC_zero], fun _ f => f.elim, fun _ f => f.elim⟩

theorem sentOnly_wSent {t : Tab} {H : Int} {n : Nat} {P : Int → Prop} (h : SentOnly t H n P) {u : Int}
    (hu : InR t u) : SentOnly (wSent t u) H n (fun w => P w ∨ w = u) := by
  have hu' : InR (updLo t u (M30 &&& enc u)) u := by simpa using hu
  refine ⟨by simp [h.heads], by simp [h.size], fun w => ?_, fun w => ?_, fun w => ?_, fun w hw => ?_, fun w hw => ?_⟩
  · rw [wSent, fFree_updHi, fFree_updLo, sent_t31]; split
    · rfl
    · exact h.free w
  · rw [wSent, fUnc_updHi, fUnc_updLo, sent_t30]; split
    · rfl
    · exact h.unc w
  · rw [wSent, fMulti_updHi, sent_t31, fMulti_updLo]; split
    · rfl
    · exact h.multi w
  · rw [wSent, fPrev_updHi, fPrev_updLo, sent_lnk]; split
    · next c => rw [c.1]
    · next nc => exact h.prev w (hw.resolve_right fun c => nc ⟨c, hu⟩)
  · rw [wSent, fNext_updHi, sent_lnk, fNext_updLo]; split
    · next c => rw [c.1]
    · next nc => exact h.next w (hw.resolve_right fun c => nc ⟨c, hu'⟩)

theorem setHeadSentinels_ok {t : Tab} {H : Int} {n : Nat} (h : SentOnly t H n (fun _ => False))
    (hin : ∀ w : Int, -H ≤ w → w < 0 → InR t w) :
    ∀ k : Nat, (k : Int) ≤ H → ∃ t', setHeadSentinels t k = .ok t' ∧
      SentOnly t' H n (fun w => -(k : Int) ≤ w ∧ w < 0) := by
  intro k
  induction k with
  | zero =>
    intro _
    refine ⟨t, rfl, h.heads, h.size, h.free, h.unc, h.multi, fun w hw => ?_, fun w hw => ?_⟩ <;> omega
  | succ k ih =>
    intro hk
    obtain ⟨t1, e1, s1⟩ := ih (by omega)
    have hR : InR t1 (-((k : Int) + 1)) := by
      have := hin (-((k : Int) + 1)) (by omega) (by omega)
      simpa [InR, s1.heads, s1.size, h.heads, h.size] using this
    refine ⟨wSent t1 (-((k : Int) + 1)), ?_, ?_⟩
    · simp only [setHeadSentinels, bind, Except.bind, e1]
      exact setSentinel_ok hR
    · have := sentOnly_wSent s1 hR
      refine ⟨this.heads, this.size, this.free, this.unc, this.multi, fun w hw => this.prev w ?_, fun w hw => this.next w ?_⟩
      · by_cases c : w = -((k : Int) + 1)
        · exact Or.inr c
        · exact Or.inl ⟨by omega, hw.2⟩
      · by_cases c : w = -((k : Int) + 1)
        · exact Or.inr c
        · exact Or.inl ⟨by omega, hw.2⟩

/-- the abstract state "one allocated run `[0, N)`" that the table represents before the initial
`add_to_free` (owner 0 beyond `N`, like the fresh state, which differs from it inside `[0, N)` only) -/
def allocAll (N : Nat) : AS := ⟨N, fun _ => false, fun u => if u < N then none else some 0, fun _ => false, fun _ => false⟩

theorem allocAll_run {N s e : Nat} (h : IsRun (allocAll N) s e) : s = 0 ∧ e = N := by
  obtain ⟨_, _, h3, h4, _⟩ := h
  simp [allocAll] at h3 h4
  exact ⟨h3, h4⟩

end Mmtk.FreeList
