import MmtkModel.Spec.Runs
import MmtkModel.Lemmas.ListAux
/-!
# Runs of the abstract free-list partition (`Mmtk.Runs`)

`IsRun a s e` reads `units` and the boundaries in `[s, e]` only (`IsRun.congr`), and a run meets no
boundary strictly inside (`IsRun.cut_outside`); so a change of state confined to a window (`Within`)
keeps every run outside it (`Within.isRun_iff`).  From the first two: runs are equal or disjoint, every
unit lies in a run, every run has its neighbours.  `alloc` adds one boundary, inside the run it takes
from or at that run's end where there is one already (`alloc_within`); `free` removes boundaries
strictly inside the coalesced run only (`free_within`).  So every other run stays a run; the new
runs are `alloc_run_taken`, `alloc_run_rest`, `free_run_merged`.
-/
namespace Mmtk.Runs

theorem IsRun.lt_units {a : AS} {s e : Nat} (h : IsRun a s e) : s < a.units ∧ e ≤ a.units :=
  ⟨Nat.lt_of_lt_of_le h.1 h.2.1, h.2.1⟩

theorem IsRun.cut_outside {a : AS} {s e b : Nat} (h : IsRun a s e) (hb : a.cut b = true) : b ≤ s ∨ e ≤ b := by
  rcases Nat.lt_or_ge s b with h1 | h1
  · rcases Nat.lt_or_ge b e with h2 | h2
    · rw [h.2.2.2.2 b h1 h2] at hb; cases hb
    · exact Or.inr h2
  · exact Or.inl h1

/-- The boundary at `units` itself is never read: the end of a run is `units` or a boundary below it. -/
theorem IsRun.congr {a a' : AS} {s e : Nat} (hu : a'.units = a.units)
    (hc : ∀ b, s ≤ b → b ≤ e → b < a.units → a'.cut b = a.cut b) (h : IsRun a s e) : IsRun a' s e := by
  obtain ⟨h1, h2, h3, h4, h5⟩ := h
  refine ⟨h1, hu ▸ h2, ?_, ?_, fun b hb1 hb2 => ?_⟩
  · rw [hc s (Nat.le_refl _) (Nat.le_of_lt h1) (by omega)]; exact h3
  · rcases h4 with h4 | h4
    · exact Or.inl (hu ▸ h4)
    · rcases Nat.lt_or_ge e a.units with h6 | h6
      · rw [hc e (Nat.le_of_lt h1) (Nat.le_refl _) h6]; exact Or.inr h4
      · exact Or.inl (by omega)
  · rw [hc b (Nat.le_of_lt hb1) (Nat.le_of_lt hb2) (by omega)]; exact h5 b hb1 hb2

/-- `a'` differs from `a` only in the boundaries strictly inside the window `(lo, hi)`, the owners of `[lo, hi)`
(and in `touched`, which no run reads): the abstract side of `FreeList.SameOutside`. -/
structure Within (a a' : AS) (lo hi : Nat) : Prop where
  units : a'.units = a.units
  unc : ∀ u, a'.unc u = a.unc u
  cut : ∀ b, b ≤ lo ∨ hi ≤ b → b < a.units → a'.cut b = a.cut b
  own : ∀ u, u < lo ∨ hi ≤ u → a'.own u = a.own u

theorem Within.isRun_iff {a a' : AS} {lo hi s e : Nat} (h : Within a a' lo hi) (hd : e ≤ lo ∨ hi ≤ s) :
    IsRun a' s e ↔ IsRun a s e :=
  ⟨IsRun.congr h.units.symm fun b h1 h2 hu => (h.cut b (by omega) (h.units ▸ hu)).symm,
   IsRun.congr h.units fun b h1 h2 hu => h.cut b (by omega) hu⟩

theorem IsRun.inside_or_outside {a : AS} {s e lo hi : Nat} (h : IsRun a s e)
    (hlo : lo = 0 ∨ a.cut lo = true) (hhi : hi = a.units ∨ a.cut hi = true) :
    e ≤ lo ∨ hi ≤ s ∨ (lo ≤ s ∧ e ≤ hi) := by
  have h1 : lo ≤ s ∨ e ≤ lo := by
    rcases hlo with h0 | hc
    · omega
    · exact h.cut_outside hc
  have h2 : hi ≤ s ∨ e ≤ hi := by
    rcases hhi with h0 | hc
    · have := h.2.1; omega
    · exact h.cut_outside hc
  omega

theorem run_eq_or_disjoint (a : AS) {s e x y : Nat} (h : IsRun a s e) (h' : IsRun a x y) :
    (x = s ∧ y = e) ∨ y ≤ s ∨ e ≤ x := by
  have := h.1
  have := h'.1
  have := h'.inside_or_outside h.2.2.1 h.2.2.2.1
  have := h.inside_or_outside h'.2.2.1 h'.2.2.2.1
  omega

theorem IsRun.start_outside {a : AS} {s e y z : Nat} (hr : IsRun a s e) (hy : IsRun a y z) : y ≤ s ∨ e ≤ y := by
  have := hy.1
  rcases run_eq_or_disjoint a hr hy with ⟨e1, _⟩ | h1 | h1 <;> omega

theorem last_cut_below (a : AS) {t : Nat} (ht : 0 < t) :
    ∃ l, l < t ∧ (l = 0 ∨ a.cut l = true) ∧ ∀ b, l < b → b < t → a.cut b = false := by
  -- the least distance `k` below `t - 1` at which a boundary lies
  obtain ⟨k, ⟨h1, h2⟩, hmin⟩ := ListAux.exists_least (fun k => k < t ∧ (t - 1 - k = 0 ∨ a.cut (t - 1 - k) = true))
    ⟨t - 1, by omega, .inl (by omega)⟩
  refine ⟨t - 1 - k, by omega, h2, fun b hb1 hb2 => ?_⟩
  cases hc : a.cut b with
  | false => rfl
  | true => exact absurd ⟨by omega, .inr (by rwa [show t - 1 - (t - 1 - b) = b by omega])⟩ (hmin (t - 1 - b) (by omega))

theorem first_cut_above (a : AS) {t : Nat} (ht : t < a.units) :
    ∃ r, t < r ∧ r ≤ a.units ∧ (r = a.units ∨ a.cut r = true) ∧ ∀ b, t < b → b < r → a.cut b = false := by
  obtain ⟨r, ⟨h1, h2⟩, hmin⟩ := ListAux.exists_least (fun r => t < r ∧ (r = a.units ∨ a.cut r = true))
    ⟨a.units, ht, .inl rfl⟩
  refine ⟨r, h1, Nat.le_of_not_lt fun h => hmin _ h ⟨ht, .inl rfl⟩, h2, fun b hb1 hb2 => ?_⟩
  cases hc : a.cut b with
  | false => rfl
  | true => exact absurd ⟨hb1, .inr hc⟩ (hmin b hb2)

theorem exists_run_containing (a : AS) {u : Nat} (hu : u < a.units) :
    ∃ s e, IsRun a s e ∧ s ≤ u ∧ u < e := by
  obtain ⟨l, hl, h0, hinl⟩ := last_cut_below a (Nat.succ_pos u)
  obtain ⟨r, hur, hru, hr, hinr⟩ := first_cut_above a hu
  refine ⟨l, r, ⟨by omega, hru, h0, hr, ?_⟩, by omega, hur⟩
  intro b h1 h2
  rcases Nat.lt_or_ge u b with h3 | h3
  · exact hinr b h3 h2
  · exact hinl b h1 (by omega)

theorem exists_run_left (a : AS) {s e : Nat} (h : IsRun a s e) (hs : 0 < s) : ∃ l, IsRun a l s := by
  have hse := h.1
  have heu := h.2.1
  obtain ⟨l, r, hlr, h1, h2⟩ := exists_run_containing a (u := s - 1) (by omega)
  obtain rfl : r = s := by
    rcases hlr.cut_outside (h.2.2.1.resolve_left (by omega)) with g | g <;> omega
  exact ⟨l, hlr⟩

theorem exists_run_right (a : AS) {s e : Nat} (h : IsRun a s e) (he : e < a.units) : ∃ r, IsRun a e r := by
  obtain ⟨l, r, hlr, h1, h2⟩ := exists_run_containing a he
  obtain rfl : l = e := by
    rcases hlr.cut_outside (h.2.2.2.1.resolve_left (by omega)) with g | g <;> omega
  exact ⟨r, hlr⟩

theorem alloc_cut (a : AS) (k s n e b : Nat) :
    (apply a (.alloc k s n e)).cut b = if b = s + n then true else a.cut b := rfl

theorem alloc_units (a : AS) (k s n e : Nat) : (apply a (.alloc k s n e)).units = a.units := rfl

theorem alloc_own (a : AS) (k s n e u : Nat) :
    (apply a (.alloc k s n e)).own u = if s ≤ u ∧ u < s + n then none else a.own u := rfl

theorem alloc_touched (a : AS) (k s n e b : Nat) :
    (apply a (.alloc k s n e)).touched b = if b = s ∨ b = s + n then true else a.touched b := rfl

theorem alloc_within (a : AS) {k s n e : Nat} (h : IsRun a s e) (hn : 1 ≤ n) (hf : s + n ≤ e) :
    Within a (apply a (.alloc k s n e)) s e := by
  refine ⟨rfl, fun _ => rfl, fun b hb hu => ?_, fun u hu => if_neg (by omega)⟩
  rw [alloc_cut]
  split
  · rcases h.2.2.2.1 with he | he
    · omega
    · have : b = e := by omega
      rw [this, he]
  · rfl

theorem alloc_run_taken (a : AS) {k s n e : Nat} (h : IsRun a s e) (hn : 1 ≤ n) (hf : s + n ≤ e) :
    IsRun (apply a (.alloc k s n e)) s (s + n) := by
  have hse := h.1
  refine ⟨by omega, Nat.le_trans hf h.2.1, ?_, Or.inr (if_pos rfl), fun b h1 h2 => ?_⟩
  · rw [alloc_cut, if_neg (by omega)]; exact h.2.2.1
  · rw [alloc_cut, if_neg (by omega)]; exact h.2.2.2.2 b h1 (by omega)

theorem alloc_run_rest (a : AS) {k s n e : Nat} (h : IsRun a s e) (hf : s + n < e) :
    IsRun (apply a (.alloc k s n e)) (s + n) e := by
  refine ⟨hf, h.2.1, Or.inr (if_pos rfl), ?_, fun b h1 h2 => ?_⟩
  · rcases h.2.2.2.1 with he | he
    · exact Or.inl he
    · rw [alloc_cut, if_neg (by omega)]; exact Or.inr he
  · rw [alloc_cut, if_neg (by omega)]; exact h.2.2.2.2 b (by omega) h2

theorem free_cut (a : AS) (k s e b : Nat) :
    (apply a (.free k s e)).cut b =
      if (b = s ∧ mergeL a s) ∨ (b = e ∧ mergeR a e) then false else a.cut b := rfl

theorem free_units (a : AS) (k s e : Nat) : (apply a (.free k s e)).units = a.units := rfl

theorem free_own (a : AS) (k s e u : Nat) :
    (apply a (.free k s e)).own u = if s ≤ u ∧ u < e then some k else a.own u := rfl

theorem free_cut_false (a : AS) (k s e : Nat) {b : Nat} (h : a.cut b = false) :
    (apply a (.free k s e)).cut b = false := by
  rw [free_cut]; split
  · rfl
  · exact h

theorem free_cut_ne (a : AS) (k s e : Nat) {b : Nat} (hs : b = s → ¬ mergeL a s)
    (he : b = e → ¬ mergeR a e) : (apply a (.free k s e)).cut b = a.cut b := by
  rw [free_cut, if_neg]
  rintro (⟨h1, h2⟩ | ⟨h1, h2⟩)
  · exact hs h1 h2
  · exact he h1 h2

/-- `l` is where the run that `free` of `[s, _)` makes starts: at the start of the left neighbour if
that is absorbed (`mergeL`), else at `s`. -/
def MergeStart (a : AS) (s l : Nat) : Prop := if mergeL a s then IsRun a l s else l = s

/-- `r` is where it ends: at the end of the right neighbour if that is absorbed (`mergeR`), else at `e`. -/
def MergeEnd (a : AS) (e r : Nat) : Prop := if mergeR a e then IsRun a e r else r = e

/-- what `MergeStart a s l` says of the start `l` of the coalesced run (`left_facts`) -/
structure LeftEnd (a : AS) (s l : Nat) : Prop where
  le : l ≤ s
  cut : l = 0 ∨ a.cut l = true
  inside : ∀ b, l < b → b < s → a.cut b = false
  merged : l < s → mergeL a s
  unmerged : l = s → ¬ mergeL a s

/-- what `MergeEnd a e r` says of its end `r` (`right_facts`) -/
structure RightEnd (a : AS) (e r : Nat) : Prop where
  le : e ≤ r
  le_units : r ≤ a.units
  cut : r = a.units ∨ a.cut r = true
  inside : ∀ b, e < b → b < r → a.cut b = false
  merged : e < r → mergeR a e
  unmerged : r = e → ¬ mergeR a e

theorem left_facts (a : AS) {s e l : Nat} (h : IsRun a s e) (hl : MergeStart a s l) : LeftEnd a s l := by
  unfold MergeStart at hl
  by_cases hm : mergeL a s
  · rw [if_pos hm] at hl
    have h1 := hl.1
    exact ⟨Nat.le_of_lt h1, hl.2.2.1, hl.2.2.2.2, fun _ => hm, fun h2 => by omega⟩
  · rw [if_neg hm] at hl
    rw [hl]
    exact ⟨Nat.le_refl _, h.2.2.1, fun b h1 h2 => by omega, fun h1 => by omega, fun _ => hm⟩

theorem right_facts (a : AS) {s e r : Nat} (h : IsRun a s e) (hr : MergeEnd a e r) : RightEnd a e r := by
  unfold MergeEnd at hr
  by_cases hm : mergeR a e
  · rw [if_pos hm] at hr
    have h1 := hr.1
    exact ⟨Nat.le_of_lt h1, hr.2.1, hr.2.2.2.1, hr.2.2.2.2, fun _ => hm, fun h2 => by omega⟩
  · rw [if_neg hm] at hr
    rw [hr]
    exact ⟨Nat.le_refl _, h.2.1, h.2.2.2.1, fun b h1 h2 => by omega, fun h1 => by omega, fun _ => hm⟩

theorem free_within (a : AS) {k s e l r : Nat} (h : IsRun a s e)
    (hl : MergeStart a s l) (hr : MergeEnd a e r) : Within a (apply a (.free k s e)) l r := by
  have hL := left_facts a h hl
  have hR := right_facts a h hr
  have hls := hL.le
  have her := hR.le
  have hse := h.1
  exact ⟨rfl, fun _ => rfl,
    fun b hb _ => free_cut_ne a k s e (fun hbs => hL.unmerged (by omega)) (fun hbe => hR.unmerged (by omega)),
    fun u hu => if_neg (by omega)⟩

theorem free_run_merged (a : AS) {k s e l r : Nat} (h : IsRun a s e)
    (hl : MergeStart a s l) (hr : MergeEnd a e r) :
    IsRun (apply a (.free k s e)) l r := by
  obtain ⟨hls, hl0, hlin, hlm, hlnm⟩ := left_facts a h hl
  obtain ⟨her, hru, hr1, hrin, hrm, hrnm⟩ := right_facts a h hr
  obtain ⟨hse, heu, hs, he, hin⟩ := h
  refine ⟨by omega, hru, ?_, ?_, ?_⟩
  · rcases hl0 with h0 | hc
    · exact Or.inl h0
    · right
      rw [free_cut_ne a k s e hlnm (fun h1 => by omega)]; exact hc
  · rcases hr1 with h0 | hc
    · exact Or.inl h0
    · right
      rw [free_cut_ne a k s e (fun h1 => by omega) hrnm]; exact hc
  · intro b h1 h2
    by_cases hbs : b = s
    · rw [free_cut, if_pos (Or.inl ⟨hbs, hlm (by omega)⟩)]
    · by_cases hbe : b = e
      · rw [free_cut, if_pos (Or.inr ⟨hbe, hrm (by omega)⟩)]
      · apply free_cut_false
        rcases Nat.lt_or_ge b s with h3 | h3
        · exact hlin b h1 h3
        · rcases Nat.lt_or_ge b e with h4 | h4
          · exact hin b (by omega) h4
          · exact hrin b (by omega) h2

end Mmtk.Runs
