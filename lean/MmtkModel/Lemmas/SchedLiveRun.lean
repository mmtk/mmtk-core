import MmtkModel.Lemmas.SchedStep
import MmtkModel.Lemmas.ListAux
/-!
# Fair runs of the scheduler model

`FairRun c tr act`: an infinite run `tr 0 →(act 0) tr 1 →(act 1) …` (`act k = none` is a stutter step)
from a reachable state in which the *scheduler-loop* actions of every worker are weakly fair.
The fairness classes (`FairAct`) are, for each worker `w`:

* `finish w`   — `execEnd w`: a running packet terminates (packet execution is finite);
* `take w`     — some `pollBucket w · ·` / `popLocal w ·` / `popDesig w ·` / `steal w · ·`: a polling
                 worker that can get a packet eventually gets one;
* `look w k`   — `observeEmpty w k`: a polling worker eventually looks into every container;
* `miss w`, `park w` (any tag), `wake w`, `surrender w`.

Weak fairness of a class: it is not continuously enabled from some point on without being taken.
Everything else (what a running packet does, mutator / binding actions, spurious wake-ups) is
unconstrained by `FairRun`; the liveness theorems carry the explicit extra hypotheses
`FiniteSpawn`, `FiniteEnv`, `NoAssert`.

All liveness arguments use fairness through the rule `wf1`.  Nothing here looks inside `step`.
-/
namespace Mmtk.Sched

inductive FairAct
  | finish (w : Nat)
  | take (w : Nat)
  | look (w : Nat) (k : Cont)
  | miss (w : Nat)
  | park (w : Nat)
  | wake (w : Nat)
  | surrender (w : Nat)

def FairAct.mem : FairAct → Act → Prop
  | .finish w, a => a = .execEnd w
  | .take w, a => (∃ b p, a = .pollBucket w b p) ∨ (∃ p, a = .popLocal w p) ∨ (∃ p, a = .popDesig w p) ∨
      (∃ v p, a = .steal w v p)
  | .look w k, a => a = .observeEmpty w k
  | .miss w, a => a = .pollMiss w
  | .park w, a => ∃ tag, a = .park w tag
  | .wake w, a => a = .wake w
  | .surrender w, a => a = .surrender w

def Enabled (c : Cfg) (s : State) (f : FairAct) : Prop := ∃ a, f.mem a ∧ (step c s a).isSome = true
def Taken (act : Nat → Option Act) (j : Nat) (f : FairAct) : Prop := ∃ a, act j = some a ∧ f.mem a

def StepOf (c : Cfg) (s s' : State) : Option Act → Prop
  | some a => step c s a = some s'
  | none => s' = s

structure FairRun (c : Cfg) (tr : Nat → State) (act : Nat → Option Act) : Prop where
  start : Reachable c (tr 0)
  next : ∀ k, StepOf c (tr k) (tr (k+1)) (act k)
  fair : ∀ (f : FairAct) (k : Nat), ∃ j, k ≤ j ∧ (Taken act j f ∨ ¬ Enabled c (tr j) f)

/-- mutator / binding actions and spurious wake-ups (everything that is not done by a GC worker
thread in its loop or inside a packet) -/
def Act.isEnv : Act → Bool
  | .spurious _ | .requestFlag | .makeRequest _ _ | .mutPush _ _ | .mutNotifyOne _ _ | .initSetEnabled _ _
  | .prepareSurrender | .respawn => true
  | _ => false

def FiniteEnv (act : Nat → Option Act) : Prop := ∃ K, ∀ j a, K ≤ j → act j = some a → a.isEnv = false
def FiniteSpawn (tr : Nat → State) : Prop := ∃ N, ∀ j, (tr j).added ≤ N
/-- no debug assertion of `on_last_parked` / `inc_parked_workers` fires: a worker that is about to
park can always do so (the model disables `park` exactly where the code would panic).  A real restriction: a Gc request made
after `clear_request` while the collection is still in progress leads to a reachable state in which the last parker's `park` is
disabled for good ("GC request sent to WorkerMonitor while GC is still in progress"); such runs are assumed away here. -/
def NoAssert (c : Cfg) (tr : Nat → State) : Prop :=
  ∀ j w, w < c.n → (tr j).pc w = .parking → ∃ tag, (step c (tr j) (.park w tag)).isSome = true

theorem FairRun.step_at {c : Cfg} {tr : Nat → State} {act : Nat → Option Act} (R : FairRun c tr act) {k : Nat} {a : Act}
    (ha : act k = some a) : step c (tr k) a = some (tr (k+1)) := by
  have := R.next k; rw [ha] at this; exact this

theorem FairRun.stutter_at {c : Cfg} {tr : Nat → State} {act : Nat → Option Act} (R : FairRun c tr act) {k : Nat}
    (ha : act k = none) : tr (k+1) = tr k := by
  have := R.next k; rw [ha] at this; exact this

theorem FairRun.until {c : Cfg} {tr : Nat → State} {act : Nat → Option Act} (R : FairRun c tr act) {Q : State → Prop}
    (J : Nat) (h0 : Q (tr 0))
    (hstep : ∀ j a, j < J → act j = some a → step c (tr j) a = some (tr (j+1)) → Q (tr j) → Q (tr (j+1))) :
    ∀ i, i ≤ J → Q (tr i) := by
  intro i
  induction i with
  | zero => exact fun _ => h0
  | succ i ih =>
    intro hi
    cases ha : act i with
    | none => rw [R.stutter_at ha]; exact ih (Nat.le_of_succ_le hi)
    | some a => exact hstep i a hi ha (R.step_at ha) (ih (Nat.le_of_succ_le hi))

theorem FairRun.always {c : Cfg} {tr : Nat → State} {act : Nat → Option Act} (R : FairRun c tr act) {Q : State → Prop}
    (h0 : Q (tr 0)) (hstep : ∀ j a, act j = some a → step c (tr j) a = some (tr (j+1)) → Q (tr j) → Q (tr (j+1)))
    (j : Nat) : Q (tr j) :=
  R.until j h0 (fun i a _ => hstep i a) j (Nat.le_refl j)

theorem FairRun.reach {c : Cfg} {tr : Nat → State} {act : Nat → Option Act} (R : FairRun c tr act) (k : Nat) :
    Reachable c (tr k) :=
  R.always (Q := Reachable c) R.start (fun _ _ _ hs ih => reachable_step ih hs) k

theorem FairRun.shift {c : Cfg} {tr : Nat → State} {act : Nat → Option Act} (R : FairRun c tr act) (K : Nat) :
    FairRun c (fun j => tr (K + j)) (fun j => act (K + j)) where
  start := R.reach K
  next := fun k => R.next (K + k)
  fair := fun f k => by
    obtain ⟨j, hj, h⟩ := R.fair f (K + k)
    obtain ⟨d, rfl⟩ := Nat.exists_eq_add_of_le (Nat.le_trans (Nat.le_add_right K k) hj)
    exact ⟨d, Nat.le_of_add_le_add_left hj, h⟩

theorem FiniteSpawn.shift {tr : Nat → State} (h : FiniteSpawn tr) (K : Nat) : FiniteSpawn (fun j => tr (K + j)) := by
  obtain ⟨N, hN⟩ := h; exact ⟨N, fun j => hN (K + j)⟩
theorem FiniteEnv.shift {act : Nat → Option Act} (h : FiniteEnv act) (K : Nat) : FiniteEnv (fun j => act (K + j)) := by
  obtain ⟨K0, h0⟩ := h; exact ⟨K0, fun j a hj ha => h0 (K + j) a (by omega) ha⟩
theorem NoAssert.shift {c : Cfg} {tr : Nat → State} (h : NoAssert c tr) (K : Nat) : NoAssert c (fun j => tr (K + j)) :=
  fun j => h (K + j)

/-- the rule WF1 (a stutter step keeps everything) -/
theorem wf1 {c : Cfg} {tr : Nat → State} {act : Nat → Option Act} (R : FairRun c tr act) (f : FairAct)
    (P : State → Prop) (k : Nat) (h0 : P (tr k))
    (hstab : ∀ j a, k ≤ j → act j = some a → P (tr j) → ¬ f.mem a → P (tr (j+1)))
    (hen : ∀ j, k ≤ j → P (tr j) → Enabled c (tr j) f) :
    ∃ j, k ≤ j ∧ P (tr j) ∧ Taken act j f := by
  obtain ⟨j, hkj, h⟩ := R.fair f k
  -- `P` holds from `k` on for as long as `f` has not been taken
  have key : ∀ m, k ≤ m → (∃ i, k ≤ i ∧ P (tr i) ∧ Taken act i f) ∨ P (tr m) := fun m hm => by
    induction hm with
    | refl => exact Or.inr h0
    | @step m hm ih =>
      rcases ih with h1 | h1
      · exact Or.inl h1
      · cases ha : act m with
        | none => rw [R.stutter_at ha]; exact Or.inr h1
        | some a =>
          by_cases ht : f.mem a
          · exact Or.inl ⟨m, hm, h1, a, ha, ht⟩
          · exact Or.inr (hstab m a hm ha h1 ht)
  rcases key j hkj with h1 | h1
  · exact h1
  · rcases h with h | h
    · exact ⟨j, hkj, h1, h⟩
    · exact absurd (hen j hkj h1) h

theorem first_change (f : Nat → Nat) (h : ∃ j, f j ≠ f 0) : ∃ j, f (j+1) ≠ f j ∧ ∀ i, i ≤ j → f i = f 0 := by
  obtain ⟨j, hj, hmin⟩ := ListAux.exists_least _ h
  cases j with
  | zero => exact absurd rfl hj
  | succ j =>
    have hall : ∀ i, i ≤ j → f i = f 0 := fun i hi => Decidable.not_not.1 (hmin i (Nat.lt_succ_of_le hi))
    exact ⟨j, by rw [hall j (Nat.le_refl j)]; exact hj, hall⟩

theorem mono_of_step {f : Nat → Nat} (hm : ∀ j, f j ≤ f (j+1)) {k j : Nat} (h : k ≤ j) : f k ≤ f j := by
  induction h with
  | refl => exact Nat.le_refl _
  | step _ ih => exact Nat.le_trans ih (hm _)

theorem mono_bounded_const (f : Nat → Nat) (B : Nat) (hm : ∀ j, f j ≤ f (j+1)) (hb : ∀ j, f j ≤ B) :
    ∃ K, ∀ j, K ≤ j → f j = f K := by
  obtain ⟨d, ⟨K, hK⟩, hmin⟩ := ListAux.exists_least (fun d => ∃ K, B - f K = d) ⟨_, 0, rfl⟩
  refine ⟨K, fun j hj => ?_⟩
  have h1 := mono_of_step hm hj
  have h2 : ¬ B - f j < d := fun hlt => hmin _ hlt ⟨j, rfl⟩
  have := hb j
  omega

theorem gained_once (P : Nat → Prop) (h : ∀ j, P j → P (j+1)) : ∃ K, ∀ j, K ≤ j → P (j+1) → P j := by
  by_cases e : ∃ K, P K
  · obtain ⟨K, hK⟩ := e
    have hall : ∀ j, K ≤ j → P j := fun j hj => by
      induction hj with
      | refl => exact hK
      | step _ ih => exact h _ ih
    exact ⟨K, fun j hj _ => hall j hj⟩
  · exact ⟨0, fun j _ hp => absurd ⟨j+1, hp⟩ e⟩

theorem eventually_forall_lt (n : Nat) (Q : Nat → Nat → Prop) (h : ∀ w, w < n → ∃ J, ∀ j, J ≤ j → Q w j) :
    ∃ J, ∀ w, w < n → ∀ j, J ≤ j → Q w j := by
  induction n with
  | zero => exact ⟨0, fun w hw => absurd hw (Nat.not_lt_zero w)⟩
  | succ n ih =>
    obtain ⟨J1, h1⟩ := ih (fun w hw => h w (Nat.lt_succ_of_lt hw))
    obtain ⟨J2, h2⟩ := h n (Nat.lt_succ_self n)
    refine ⟨max J1 J2, fun w hw j hj => ?_⟩
    rcases Nat.lt_succ_iff_lt_or_eq.1 hw with hw | rfl
    · exact h1 w hw j (Nat.le_trans (Nat.le_max_left ..) hj)
    · exact h2 j (Nat.le_trans (Nat.le_max_right ..) hj)

end Mmtk.Sched
