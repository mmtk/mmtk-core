import MmtkModel.Model.Map32
/-!
# `allocate` and `freeNoLock` of `Model/Map32.lean` characterised, and what is read off a normal return

`allocate_val_iff` / `freeNoLock_eq_some_iff`: when `allocate_contiguous_chunks` /
`free_contiguous_chunks_no_lock` return normally, and the state they return, as one record; single fields
of it are read by the projections here and in C29.  The `PR.*` lemmas reduce a normal return of a
page-resource operation to normal returns of these two.  That a call does return normally is shown in C29 /
C29PR.  `freeAll_preserves` is for a predicate of the state alone that one free preserves; for one that also
speaks of the bookkeeping, C29's `FreeStable` / `freeAll_spec_gen` walk the same two loops again and say what
each frees.
-/
namespace Mmtk.Map32

/-- Inverts a chain of early exits one exit at a time: `f` is a component in which the exit's value differs
from the result. -/
theorem of_ite_ne {α β : Type} (f : α → β) {c : Prop} [Decidable c] {a rest t : α}
    (h : (if c then a else rest) = t) (hne : f a ≠ f t) : ¬ c ∧ rest = t := by
  by_cases hc : c
  · rw [if_pos hc] at h; exact absurd (congrArg f h) hne
  · rw [if_neg hc] at h; exact ⟨hc, h⟩

/-- From "it returns some value, and that value satisfies `P`" to `P` of the value a call is known to have. -/
theorem of_eq_some {α : Type} {o : Option α} {P : α → Prop} (h : ∃ a, o = some a ∧ P a) {a : α}
    (ha : o = some a) : P a := by
  obtain ⟨b, hb, hP⟩ := h
  rw [ha] at hb
  cases hb
  exact hP

theorem of_eq_some₂ {α β : Type} {o : Option (α × β)} {P : α → β → Prop}
    (h : ∃ a b, o = some (a, b) ∧ P a b) {a : α} {b : β} (ha : o = some (a, b)) : P a b :=
  of_eq_some (P := fun q => P q.1 q.2) (let ⟨a, b, e, hP⟩ := h; ⟨(a, b), e, hP⟩) ha

theorem any_desc_ne_zero {st : St} {c k : Nat} :
    ((List.range' c k).any fun x => st.desc x != 0) = true ↔ ¬ ∀ x, c ≤ x → x < c + k → st.desc x = 0 := by
  simp only [List.any_eq_true, List.mem_range'_1, bne_iff_ne, ne_eq]
  exact ⟨fun ⟨x, hx, hd⟩ hall => hd (hall x hx.1 hx.2), fun hn =>
    Classical.byContradiction fun hex => hn fun x h1 h2 =>
      Classical.byContradiction fun hd => hex ⟨x, ⟨h1, h2⟩, hd⟩⟩

/-- `allocate_contiguous_chunks(d, k, head)` returns normally with `c` iff the region map is exhausted
(`c = 0`, nothing changes) or its first-fit `alloc` found `c` and no assertion fires: `insert` finds
every descriptor of `[c, c + k)` empty; in debug builds `c ≠ 0`, `prev[c] = 0`, and `next[c] = 0` (no
head) resp. `c ≠ head` (`prev[c]` is asserted after `prev[head] = c` was written). -/
theorem allocate_val_iff {debug : Bool} {st st' : St} {d k head c : Nat} :
    allocate debug st d k head = (st', .val c) ↔
      ((st.fl.alloc k).1 = none ∧ c = 0 ∧ st' = st) ∨
      ((st.fl.alloc k).1 = some c ∧ (∀ x, c ≤ x → x < c + k → st.desc x = 0) ∧
        (debug = true → c ≠ 0 ∧ st.prev c = 0 ∧ if head = 0 then st.next c = 0 else c ≠ head) ∧
        st' = { st with fl := (st.fl.alloc k).2, avail := st.avail - k,
                        desc := fun x => if c ≤ x ∧ x < c + k then d else st.desc x,
                        next := if head = 0 then st.next else upd st.next c head,
                        prev := if head = 0 then st.prev else upd st.prev head c }) := by
  unfold allocate
  split
  · rename_i o fl heq
    simp only [heq, Prod.mk.injEq, R.val.injEq, reduceCtorEq, false_and, or_false]
    exact ⟨fun h => ⟨trivial, h.2.symm, h.1.symm⟩, fun h => ⟨h.2.2.symm, h.2.1.symm⟩⟩
  · rename_i chunk fl heq
    rw [heq]
    have hA : (debug && chunk == 0) = true ↔ debug = true ∧ chunk = 0 := by
      rw [Bool.and_eq_true, beq_iff_eq]
    have hD : ∀ v : Nat, (debug && v != 0) = true ↔ debug = true ∧ v ≠ 0 := by
      intro v; rw [Bool.and_eq_true, bne_iff_ne]
    constructor
    · -- no assertion fired, in the order of the code (`split` is slow on this term)
      intro h
      refine Or.inr ?_
      obtain ⟨h1, h⟩ := of_ite_ne (·.2) h nofun
      obtain ⟨h2, h⟩ := of_ite_ne (·.2) h nofun
      have hd0 := Classical.not_not.1 (mt any_desc_ne_zero.2 h2)
      by_cases hh : head = 0
      · rw [if_pos (beq_iff_eq.2 hh)] at h
        obtain ⟨h3, h⟩ := of_ite_ne (·.2) h nofun
        obtain ⟨h4, h⟩ := of_ite_ne (·.2) h nofun
        cases h
        refine ⟨rfl, hd0, fun hdb => ?_, by simp only [if_pos hh]⟩
        rw [if_pos hh]
        exact ⟨fun e => h1 (hA.2 ⟨hdb, e⟩), Classical.not_not.1 fun e => h4 ((hD _).2 ⟨hdb, e⟩),
          Classical.not_not.1 fun e => h3 ((hD _).2 ⟨hdb, e⟩)⟩
      · rw [if_neg (mt beq_iff_eq.1 hh)] at h
        obtain ⟨h4, h⟩ := of_ite_ne (·.2) h nofun
        cases h
        refine ⟨rfl, hd0, fun hdb => ?_, by simp only [if_neg hh]⟩
        rw [if_neg hh]
        have hc0 : c ≠ 0 := fun e => h1 (hA.2 ⟨hdb, e⟩)
        have hp : upd st.prev head c c = 0 := Classical.not_not.1 fun e => h4 ((hD _).2 ⟨hdb, e⟩)
        unfold upd at hp
        by_cases hch : c = head
        · rw [if_pos hch] at hp; exact absurd hp hc0
        · rw [if_neg hch] at hp; exact ⟨hc0, hp, hch⟩
    · rintro (⟨h, -⟩ | ⟨h, hd0, hdb, rfl⟩)
      · cases h
      cases h
      rw [if_neg (fun h => (hdb (hA.1 h).1).1 (hA.1 h).2), if_neg (mt any_desc_ne_zero.1 (not_not_intro hd0))]
      by_cases hh : head = 0
      · simp only [if_pos hh] at hdb ⊢
        rw [if_pos (beq_iff_eq.2 hh), if_neg (fun h => ((hD _).1 h).2 (hdb ((hD _).1 h).1).2.2),
          if_neg (fun h => ((hD _).1 h).2 (hdb ((hD _).1 h).1).2.1)]
      · simp only [if_neg hh] at hdb ⊢
        rw [if_neg (mt beq_iff_eq.1 hh), if_neg]
        intro h
        obtain ⟨h5, h6⟩ := (hD _).1 h
        obtain ⟨-, h7, h8⟩ := hdb h5
        exact h6 (by unfold upd; rw [if_neg h8]; exact h7)

/-- Whatever `allocate` returns, panics included, the SFT map is as before: `growSpace` writes it
afterwards, in `sftUpdate`. -/
theorem allocate_sft (debug : Bool) (st st' : St) (d k head : Nat) (r : R)
    (h : allocate debug st d k head = (st', r)) : st'.sft = st.sft := by
  have : (allocate debug st d k head).1.sft = st.sft := by
    unfold allocate
    cases st.fl.alloc k with
    | mk o fl =>
      cases o with
      | none => rfl
      | some c => simp only [apply_ite Prod.fst, apply_ite St.sft, ite_self]
  rw [h] at this; exact this

/-- `free_contiguous_chunks_no_lock(c)` returns normally iff `debug_assert!(!get_free(unit))` does not fire. -/
theorem freeNoLock_eq_some_iff {debug : Bool} {st st' : St} {c n : Nat} :
    freeNoLock debug st c = some (st', n) ↔
      ¬ (debug = true ∧ st.fl.isFree c = true) ∧ n = st.fl.sizeOf c ∧
      st' = { st with fl := (st.fl.freeRun c).2, avail := st.avail + n,
                      prev := upd (if st.next c ≠ 0 then upd st.prev (st.next c) (st.prev c) else st.prev) c 0,
                      next := upd (if st.prev c ≠ 0 then upd st.next (st.prev c) (st.next c) else st.next) c 0,
                      desc := fun x => if c ≤ x ∧ x < c + n then 0 else st.desc x,
                      sft := fun x => if c ≤ x ∧ x < c + n then 0 else st.sft x } := by
  unfold freeNoLock
  rw [← Bool.and_eq_true]
  split
  · rename_i h; exact ⟨fun e => (by cases e), fun e => absurd h e.1⟩
  · rename_i h
    simp only [Option.some.injEq, Prod.mk.injEq, bne_iff_ne, ne_eq]
    constructor
    · rintro ⟨rfl, rfl⟩; exact ⟨h, rfl, rfl⟩
    · rintro ⟨-, rfl, rfl⟩; exact ⟨rfl, rfl⟩

theorem freeNoLock_clears_descriptors (debug : Bool) (st st' : St) (c n : Nat)
    (h : freeNoLock debug st c = some (st', n)) :
    ∀ x, st'.desc x = if c ≤ x ∧ x < c + n then 0 else st.desc x := by
  obtain ⟨_, _, rfl⟩ := freeNoLock_eq_some_iff.1 h
  exact fun _ => rfl

theorem freeNoLock_fl (debug : Bool) (st st' : St) (c n : Nat)
    (h : freeNoLock debug st c = some (st', n)) : st'.fl = (st.fl.freeRun c).2 := by
  obtain ⟨_, _, rfl⟩ := freeNoLock_eq_some_iff.1 h
  rfl

theorem freeNoLock_sft (debug : Bool) (st st' : St) (c n : Nat)
    (h : freeNoLock debug st c = some (st', n)) :
    ∀ x, st'.sft x = if c ≤ x ∧ x < c + n then 0 else st.sft x := by
  obtain ⟨_, _, rfl⟩ := freeNoLock_eq_some_iff.1 h
  exact fun _ => rfl

theorem freeAllLoop_preserves {P : St → Prop} {debug : Bool}
    (hP : ∀ {st st' : St} {c n : Nat}, P st → freeNoLock debug st c = some (st', n) → P st')
    (sel : St → Nat → Nat) : ∀ (fuel : Nat) {st st' : St} {c : Nat},
    P st → freeAllLoop debug sel fuel st c = some st' → P st' := by
  intro fuel
  induction fuel with
  | zero => intro st st' c hS h; cases h; exact hS
  | succ fuel ih =>
    intro st st' c hS h
    rw [freeAllLoop] at h
    by_cases hs : (sel st c != 0) = true
    · rw [if_pos hs] at h
      cases hf : freeNoLock debug st (sel st c) with
      | none => rw [hf] at h; cases h
      | some q => rw [hf] at h; exact ih (hP hS hf) h
    · rw [if_neg hs] at h; cases h; exact hS

theorem freeAll_preserves {P : St → Prop} {debug : Bool}
    (hP : ∀ {st st' : St} {c n : Nat}, P st → freeNoLock debug st c = some (st', n) → P st')
    {st st' : St} {c fuel : Nat} (hS : P st) (h : freeAll debug st c fuel = some st') : P st' := by
  unfold freeAll at h
  by_cases hc : (c == 0) = true
  · rw [if_pos hc] at h; cases h; exact hS
  rw [if_neg hc] at h
  cases h1 : freeAllLoop debug (fun s c => s.next c) fuel st c with
  | none => rw [h1] at h; cases h
  | some st1 =>
    rw [h1] at h; dsimp only at h
    cases h2 : freeAllLoop debug (fun s c => s.prev c) fuel st1 c with
    | none => rw [h2] at h; cases h
    | some st2 =>
      rw [h2] at h; dsimp only at h
      cases h3 : freeNoLock debug st2 c with
      | none => rw [h3] at h; cases h
      | some q =>
        rw [h3] at h; cases h
        exact hP (freeAllLoop_preserves hP _ fuel (freeAllLoop_preserves hP _ fuel hS h1) h2) h3

theorem PR.grow_val {debug : Bool} {p p' : PR} {sp d k c : Nat} (h : p.grow debug sp d k = (p', .val c)) :
    allocate debug p.st d k (p.heads sp) = (p'.st, .val c) ∧
    p'.heads = if c = 0 then p.heads else upd p.heads sp c := by
  unfold PR.grow at h
  cases hal : allocate debug p.st d k (p.heads sp) with
  | mk st1 r =>
    rw [hal] at h
    cases r with
    | val c1 =>
      dsimp only at h
      by_cases hc : c1 = 0
      · rw [if_pos (beq_iff_eq.2 hc)] at h; cases h; exact ⟨by rw [hc], by rw [if_pos rfl]⟩
      · rw [if_neg (mt beq_iff_eq.1 hc)] at h; cases h; exact ⟨rfl, by rw [if_neg hc]⟩
    | panicAssert => cases h
    | panicOther => cases h

theorem PR.growSpace_val {debug : Bool} {p p' : PR} {sp d k c : Nat} {ok : Bool}
    (h : p.growSpace debug sp d k = (p', .val c, ok)) :
    ∃ p1, p.grow debug sp d k = (p1, .val c) ∧
      if c = 0 then p' = p1 ∧ ok = true
      else sftUpdate debug p1.st d c k = (p'.st, ok) ∧ p'.heads = p1.heads := by
  unfold PR.growSpace at h
  cases hg : p.grow debug sp d k with
  | mk p1 r =>
    rw [hg] at h
    cases r with
    | val c1 =>
      dsimp only at h
      by_cases hc : c1 = 0
      · subst hc; rw [if_pos (beq_self_eq_true 0)] at h; cases h; exact ⟨_, rfl, by rw [if_pos rfl]; exact ⟨rfl, rfl⟩⟩
      · rw [if_neg (mt beq_iff_eq.1 hc)] at h; cases h; exact ⟨_, rfl, by rw [if_neg hc]; exact ⟨rfl, rfl⟩⟩
    | panicAssert => cases h
    | panicOther => cases h

theorem PR.release_spec {debug : Bool} {p p' : PR} {sp c : Nat} (h : p.release debug sp c = some p') :
    ∃ n, freeNoLock debug p.st c = some (p'.st, n) ∧
      p'.heads = if c = p.heads sp then upd p.heads sp (nextRegion p.st c) else p.heads := by
  unfold PR.release at h
  cases hf : freeNoLock debug p.st c with
  | none => rw [hf] at h; cases h
  | some q =>
    rw [hf] at h; cases h
    exact ⟨q.2, rfl, by simp only [beq_iff_eq]⟩

theorem PR.releaseAll_spec {debug : Bool} {p p' : PR} {sp : Nat} (h : p.releaseAll debug sp = some p') :
    freeAll debug p.st (p.heads sp) 4096 = some p'.st ∧ p'.heads = upd p.heads sp 0 := by
  unfold PR.releaseAll at h
  cases hf : freeAll debug p.st (p.heads sp) with
  | none => rw [hf] at h; cases h
  | some st' => rw [hf] at h; cases h; exact ⟨rfl, rfl⟩

end Mmtk.Map32
