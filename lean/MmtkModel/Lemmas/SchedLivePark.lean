import MmtkModel.Lemmas.SchedCount
import MmtkModel.Lemmas.SchedLiveRun
import MmtkModel.Lemmas.SchedLiveStep
/-!
# The progress lemma: in a fair run with a goal pending, the last worker eventually parks

Statement: `first_last_park` (and `last_park_eventually`, the form C14 quotes).  The argument, by contradiction: if no
worker ever parks as the last one, `Pending` holds forever.  With finitely many packets and environment actions the
counters `started` / `ended` settle, no worker runs a packet any more (fairness of `finish`), and every step is *quiet*
(`QuietEff`: a look into a container, a `batchMove`, `pollMiss`, a `park` that is not the last, a `wake`).  In such a run
(`Stuck`) a polling worker that has yet to look into a container holding something for it could take a packet from then
on, and by fairness of `take` would (`Cov`); so containers look empty to whoever looks, every worker walks
polling → parking → waiting and stays there — and all workers waiting with a request pending contradicts the invariant
that the last parker never goes to sleep on a request.

The first half (`eventually_quiet`) is shared with the proof that a GC in progress completes (`Lemmas/SchedLive.lean`).
-/
namespace Mmtk.Sched

theorem woken_leads_to_wake {c : Cfg} {tr : Nat → State} {act : Nat → Option Act} (R : FairRun c tr act) {x j : Nat}
    (hx : x < c.n) (h : (tr j).pc x = .woken) : ∃ m, j ≤ m ∧ (tr m).pc x = .woken ∧ act m = some (.wake x) := by
  obtain ⟨m, hm, hP, a, ha, rfl⟩ := wf1 R (.wake x) (fun s => s.pc x = .woken) j h
    (fun m a _ ha hP hnt => (step_woken_stable (R.reach m) hx (R.step_at ha) hP).resolve_right hnt)
    (fun m _ hP => by
      refine ⟨.wake x, rfl, ?_⟩
      have hpos : 0 < (tr m).parked := by
        rw [(reachable_invA (R.reach m)).parked_eq]
        exact countW_pos c.n _ x hx (by rw [hP]; rfl)
      simp [step, hx, hP, hpos])
  exact ⟨m, hm, hP, ha⟩

/-- the effect of a quiet step while no exit goal is current -/
inductive QuietEff (c : Cfg) (s : State) : Act → State → Prop
  | observe (w : Nat) (k : Cont) (seen : List Cont) : w < c.n → s.pc w = .polling seen → looksEmpty s w k = true →
      QuietEff c s (.observeEmpty w k) (setPc s w (.polling (k :: seen)))
  | batch (w b : Nat) (p : Pkt) (seen : List Cont) : w < c.n → b < c.L → s.pc w = .polling seen →
      (s.bkt b).enabled = true → (s.bkt b).isOpen = true → p ∈ (s.bkt b).q →
      QuietEff c s (.batchMove w b p)
        (setPc (setBuf (setBkt s b { s.bkt b with q := removeP (s.bkt b).q p }) w (p :: s.buf w)) w (.polling []))
  | miss (w : Nat) (seen : List Cont) : w < c.n → s.pc w = .polling seen → (∀ k, k ∈ allConts c → k ∈ seen) →
      QuietEff c s (.pollMiss w) (setPc s w .parking)
  | park (w tag : Nat) : w < c.n → s.pc w = .parking →
      QuietEff c s (.park w tag) (setPc { s with parked := s.parked + 1, trace := [] } w .waiting)
  | wake (w : Nat) : w < c.n → s.pc w = .woken → 0 < s.parked →
      QuietEff c s (.wake w) (setPc { s with parked := s.parked - 1 } w (.polling []))

theorem quiet_step {c : Cfg} (hn : 0 < c.n) {s s' : State} {a : Act} (hr : Reachable c s) (hs : step c s a = some s')
    (henv : a.isEnv = false) (hst : s'.started = s.started) (hex : ∀ w, w < c.n → (s.pc w).isExec = false)
    (hlp : ¬ IsLastPark c s (some a)) (hnx : NoExit s) : QuietEff c s a s' := by
  cases step_eff hs with
  | poll w seen hw hpc hP =>
    cases hP with
    | observe k hle => exact .observe w k seen hw hpc hle
    | batchMove b p hb h1 h2 h3 => exact .batch w b p seen hw hb hpc h1 h2 h3
    | pollMiss hall => exact .miss w seen hw hpc (fun k hk => by simpa using List.all_eq_true.1 hall k hk)
    | _ => exact absurd hst (Nat.succ_ne_self _)
  | work w hw hx | bucketNotifyOne w _ _ _ hw hx | bucketNotifyAll w _ hw hx | wakeAll w hw hx =>
    rw [hex w hw] at hx; cases hx
  | execEnd w p hw hpc => have := hex w hw; rw [hpc] at this; cases this
  | park w tag hw hpc => exact .park w tag hw hpc
  | parkLast w tag _ _ _ _ _ _ hl => exact absurd ⟨w, tag, rfl, hl⟩ hlp
  | wake w p hw hpc hpos hp => rw [hp.noExit hnx]; exact .wake w hw hpc hpos
  | surrender w _ _ hw hpc | surrenderLast w _ _ hw hpc => exact absurd hpc (noExit_not_exited hn hr hnx w hw)
  | mutator hM => cases hM <;> cases henv
  | _ => cases henv

theorem quietEff_not_take {c : Cfg} {s s' : State} {a : Act} (h : QuietEff c s a s') (x : Nat) :
    ¬ (FairAct.take x).mem a := by
  intro hm
  simp only [FairAct.mem] at hm
  cases h <;> (rcases hm with ⟨_, _, e⟩ | ⟨_, e⟩ | ⟨_, e⟩ | ⟨_, _, e⟩ <;> cases e)

theorem quietEff_desig {c : Cfg} {s s' : State} {a : Act} (he : QuietEff c s a s') : s'.desig = s.desig := by
  cases he <;> rfl

theorem quietEff_flags {c : Cfg} {s s' : State} {a : Act} (he : QuietEff c s a s') (b : Nat) :
    (s'.bkt b).isOpen = (s.bkt b).isOpen ∧ (s'.bkt b).sentinel = (s.bkt b).sentinel := by
  cases he with
  | batch w b' p seen _ _ _ _ _ _ =>
    simp only [setPc, setBuf, setBkt]
    split
    · rename_i e; subst e; exact ⟨rfl, rfl⟩
    · exact ⟨rfl, rfl⟩
  | _ => exact ⟨rfl, rfl⟩

theorem runnable_facts {k : Bucket} (h : k.runnable = true) : k.enabled = true ∧ k.isOpen = true ∧ k.q ≠ [] := by
  simp only [Bucket.runnable, Bucket.isEmpty, Bool.and_eq_true, Bool.not_eq_true'] at h
  refine ⟨h.1.1, h.1.2, ?_⟩
  intro e; rw [e] at h; simp at h

def OwnMove (c : Cfg) (s : State) (x : Nat) (a : Act) : PC → PC → Prop
  | .polling seen, p' =>
    (∃ k, a = .observeEmpty x k ∧ looksEmpty s x k = true ∧ p' = .polling (k :: seen)) ∨
    (∃ b p, a = .batchMove x b p ∧ p' = .polling []) ∨
    (a = .pollMiss x ∧ (∀ k, k ∈ allConts c → k ∈ seen) ∧ p' = .parking)
  | .parking, p' => (∃ tag, a = .park x tag) ∧ p' = .waiting
  | .woken, p' => a = .wake x ∧ p' = .polling []
  | _, _ => False

theorem quietEff_pc {c : Cfg} {s s' : State} {a : Act} (he : QuietEff c s a s') (x : Nat) :
    s'.pc x = s.pc x ∨ OwnMove c s x a (s.pc x) (s'.pc x) := by
  have key : ∀ {t : State} {w : Nat} {p p' : PC}, t.pc = s.pc → s.pc w = p → OwnMove c s w a p p' →
      (setPc t w p').pc x = s.pc x ∨ OwnMove c s x a (s.pc x) ((setPc t w p').pc x) := by
    intro t w p p' ht hp hm
    by_cases e : x = w
    · subst e; rw [hp, setPc_self]; exact Or.inr hm
    · rw [setPc_other _ _ e, ht]; exact Or.inl rfl
  cases he with
  | observe w k seen _ hpw hle => exact key rfl hpw (Or.inl ⟨k, rfl, hle, rfl⟩)
  | batch w b p seen _ _ hpw => exact key rfl hpw (Or.inr (Or.inl ⟨b, p, rfl, rfl⟩))
  | miss w seen _ hpw hall => exact key rfl hpw (Or.inr (Or.inr ⟨rfl, hall, rfl⟩))
  | park w tag _ hpw => exact key rfl hpw ⟨⟨tag, rfl⟩, rfl⟩
  | wake w _ hpw => exact key rfl hpw ⟨rfl, rfl⟩

/-- `x` polls, has not yet seen `k`, and would find something there.  Unlike `covers` (the invariant `InvC`) it asks for
a polling worker, not a running one, and carries the non-emptiness with it. -/
def Cov (s : State) (x : Nat) (k : Cont) : Prop :=
  looksEmpty s x k = false ∧ ∃ seen, s.pc x = .polling seen ∧ k ∉ seen

/-- quiet steps keep `Cov`: nothing is taken out of a container except by a `batchMove` out of a bucket, and a
polling worker gives up on `k` only after it has seen `k` empty -/
theorem cov_stable {c : Cfg} {s s' : State} {a : Act} {x : Nat} {k : Cont} (he : QuietEff c s a s')
    (hk : k ∈ allConts c) (hb : ∀ w b p, a = .batchMove w b p → k ≠ .bucket b) (h : Cov s x k) : Cov s' x k := by
  obtain ⟨hne, seen, hpc, hns⟩ := h
  have hne' : looksEmpty s' x k = false := by
    cases he with
    | batch w b p sn _ _ _ _ _ _ =>
      cases k with
      | bucket b' =>
        have e : b' ≠ b := fun e => hb w b p rfl (by rw [e])
        simpa [looksEmpty, setPc, setBuf, setBkt, e] using hne
      | buf v =>
        show (if v = w then p :: s.buf w else s.buf v).isEmpty = false
        split
        · rfl
        · exact hne
      | desig => exact hne
    | _ => cases k <;> exact hne
  refine ⟨hne', ?_⟩
  rcases quietEff_pc he x with e | hm
  · exact ⟨seen, by rw [e]; exact hpc, hns⟩
  · rw [hpc] at hm
    rcases hm with ⟨k', _, hle, hp'⟩ | ⟨_, _, _, hp'⟩ | ⟨_, hall, _⟩
    · refine ⟨_, hp', fun hmem => ?_⟩
      rcases List.mem_cons.1 hmem with e | e
      · subst e; rw [hle] at hne; cases hne
      · exact hns e
    · exact ⟨[], hp', List.not_mem_nil⟩
    · exact absurd (hall k hk) hns

theorem cov_enabled {c : Cfg} {s : State} {x : Nat} {k : Cont} (hx : x < c.n) (hk : k ∈ allConts c) (h : Cov s x k) :
    Enabled c s (.take x) := by
  obtain ⟨hne, seen, hpc, _⟩ := h
  cases k with
  | bucket b =>
    have hb : b < c.L := by simpa [allConts] using hk
    obtain ⟨h1, h2, h3⟩ := runnable_facts (k := s.bkt b) (by simpa [looksEmpty] using hne)
    obtain ⟨p, l, hq⟩ := List.exists_cons_of_ne_nil h3
    exact ⟨.pollBucket x b p, Or.inl ⟨b, p, rfl⟩, by simp [step, hpc, hx, hb, h1, h2, hq]⟩
  | buf v =>
    have hv : v < c.n := by simpa [allConts] using hk
    obtain ⟨p, l, hq⟩ := List.exists_cons_of_ne_nil (l := s.buf v) (by intro e; simp [looksEmpty, e] at hne)
    by_cases e : v = x
    · subst e; exact ⟨.popLocal v p, Or.inr (Or.inl ⟨p, rfl⟩), by simp [step, hpc, hx, hq]⟩
    · exact ⟨.steal x v p, Or.inr (Or.inr (Or.inr ⟨v, p, rfl⟩)), by simp [step, hpc, hx, hv, hq, e]⟩
  | desig =>
    obtain ⟨p, l, hq⟩ := List.exists_cons_of_ne_nil (l := s.desig x) (by intro e; simp [looksEmpty, e] at hne)
    exact ⟨.popDesig x p, Or.inr (Or.inr (Or.inl ⟨p, rfl⟩)), by simp [step, hpc, hx, hq]⟩

theorem quietEff_park {c : Cfg} {s s' : State} {w tag : Nat} (he : QuietEff c s (.park w tag) s') :
    s'.pc w = .waiting := by
  cases he; exact setPc_self _ _ _
theorem quietEff_wake {c : Cfg} {s s' : State} {w : Nat} (he : QuietEff c s (.wake w) s') :
    s'.pc w = .polling [] := by
  cases he; exact setPc_self _ _ _
theorem quietEff_miss {c : Cfg} {s s' : State} {w : Nat} (he : QuietEff c s (.pollMiss w) s') :
    s'.pc w = .parking := by
  cases he; exact setPc_self _ _ _
theorem quietEff_observe {c : Cfg} {s s' : State} {w : Nat} {k : Cont} (he : QuietEff c s (.observeEmpty w k) s') :
    ∃ seen, s.pc w = .polling seen ∧ s'.pc w = .polling (k :: seen) := by
  cases he with
  | observe _ _ seen _ hpw _ => exact ⟨seen, hpw, setPc_self _ _ _⟩
theorem quietEff_batch {c : Cfg} {s s' : State} {w b : Nat} {p : Pkt} (he : QuietEff c s (.batchMove w b p) s') :
    w < c.n ∧ s'.pc w = .polling [] ∧ looksEmpty s' w (.buf w) = false := by
  cases he with
  | batch _ _ _ _ hw _ _ _ _ _ =>
    refine ⟨hw, setPc_self _ _ _, ?_⟩
    show (if w = w then p :: s.buf w else _).isEmpty = false
    rw [if_pos rfl]; rfl

/-- a fair run in which nothing ever happens but quiet steps although a goal is requested or current -/
structure Stuck (c : Cfg) (tr : Nat → State) (act : Nat → Option Act) : Prop where
  run : FairRun c tr act
  eff : ∀ j a, act j = some a → QuietEff c (tr j) a (tr (j+1))
  noexec : ∀ j w, w < c.n → ((tr j).pc w).isExec = false
  noexit : ∀ j, NoExit (tr j)
  nosurr : ∀ j w, w < c.n → (tr j).pc w ≠ .surrendered
  noassert : NoAssert c tr
  pending : ∀ j, anyRequested (tr j) = true ∨ (tr j).current ≠ none

section stuck
variable {c : Cfg} {tr : Nat → State} {act : Nat → Option Act}

/-- in a stuck run no polling worker has yet to look into a container that holds something for it: it could take
a packet from then on, and by fairness would -/
theorem Stuck.not_cov (S : Stuck c tr act) {x : Nat} (hx : x < c.n) {k : Cont} (hk : k ∈ allConts c)
    (hb : (∃ b, k = .bucket b) → ∀ j w b p, act j ≠ some (.batchMove w b p)) (j : Nat) : ¬ Cov (tr j) x k := by
  intro h
  obtain ⟨m, _, _, a, ha, hT⟩ := wf1 S.run (.take x) (fun s => Cov s x k) j h
    (fun m a _ ha hP _ =>
      cov_stable (S.eff m a ha) hk (fun w b p e1 e2 => hb ⟨b, e2⟩ m w b p (by rw [ha, e1])) hP)
    (fun m _ hP => cov_enabled hx hk hP)
  exact quietEff_not_take (S.eff m a ha) x hT

/-- no `batchMove` happens: the mover would be left polling with a packet in its own deque -/
theorem Stuck.no_batch (S : Stuck c tr act) (j w b : Nat) (p : Pkt) : act j ≠ some (.batchMove w b p) := by
  intro ha
  obtain ⟨hw, hpc, hbuf⟩ := quietEff_batch (S.eff j _ ha)
  exact S.not_cov hw (mem_allConts_buf hw) (fun ⟨_, e⟩ => by cases e) (j+1) ⟨hbuf, [], hpc, List.not_mem_nil⟩

theorem Stuck.looks_empty (S : Stuck c tr act) {j w : Nat} (hw : w < c.n) {k : Cont} (hk : k ∈ allConts c)
    {seen : List Cont} (hpc : (tr j).pc w = .polling seen) (hns : k ∉ seen) : looksEmpty (tr j) w k = true := by
  cases h : looksEmpty (tr j) w k with
  | true => rfl
  | false => exact absurd ⟨h, seen, hpc, hns⟩ (S.not_cov hw hk (fun _ => S.no_batch) j)

theorem Stuck.waiting_forever (S : Stuck c tr act) (w j : Nat) (h : (tr j).pc w = .waiting) :
    ∀ i, j ≤ i → (tr i).pc w = .waiting := by
  intro i hi
  induction hi with
  | refl => exact h
  | @step i _ ih =>
    cases ha : act i with
    | none => rw [S.run.stutter_at ha]; exact ih
    | some a =>
      rcases quietEff_pc (S.eff i a ha) w with e | hm
      · rw [e]; exact ih
      · rw [ih] at hm; exact hm.elim

theorem Stuck.parking_to_waiting (S : Stuck c tr act) (w j : Nat) (hw : w < c.n) (h : (tr j).pc w = .parking) :
    ∃ i, j ≤ i ∧ (tr i).pc w = .waiting := by
  obtain ⟨m, hm, _, a, ha, tag, rfl⟩ := wf1 S.run (.park w) (fun s => s.pc w = .parking) j h
    (fun m a _ ha hP hnt => by
      rcases quietEff_pc (S.eff m a ha) w with e | hmv
      · rw [e]; exact hP
      · rw [hP] at hmv; exact absurd hmv.1 hnt)
    (fun m _ hP => by
      obtain ⟨tag, ht⟩ := S.noassert m w hw hP
      exact ⟨.park w tag, ⟨tag, rfl⟩, ht⟩)
  exact ⟨m + 1, by omega, quietEff_park (S.eff m _ ha)⟩

theorem Stuck.polling_seen (S : Stuck c tr act) (w : Nat) (hw : w < c.n) (l : List Cont) (hl : ∀ k, k ∈ l → k ∈ allConts c) :
    ∀ j seen, (tr j).pc w = .polling seen →
      ∃ i seen', j ≤ i ∧ (tr i).pc w = .polling seen' ∧ ∀ k, k ∈ l → k ∈ seen' := by
  induction l with
  | nil => intro j seen h; exact ⟨j, seen, Nat.le_refl _, h, fun k hk => by cases hk⟩
  | cons k l ih =>
    intro j seen h
    obtain ⟨i, seen', hji, hpc, hall⟩ := ih (fun k' hk' => hl k' (List.mem_cons_of_mem _ hk')) j seen h
    by_cases hk : k ∈ seen'
    · exact ⟨i, seen', hji, hpc, fun k' hk' => (List.mem_cons.1 hk').elim (fun e => e ▸ hk) (hall k')⟩
    · have hkc : k ∈ allConts c := hl k (List.mem_cons_self ..)
      -- until `w` looks into `k` it keeps polling, what it has seen only grows, and `k` looks empty to it
      obtain ⟨m, hm, ⟨sn, hp, hal, _⟩, a, ha, rfl⟩ := wf1 S.run (.look w k)
        (fun s => ∃ sn, s.pc w = .polling sn ∧ (∀ k', k' ∈ l → k' ∈ sn) ∧ k ∉ sn) i ⟨seen', hpc, hall, hk⟩
        (fun m a _ ha ⟨sn, hp, hal, hkn⟩ hnt => by
          rcases quietEff_pc (S.eff m a ha) w with e | hmv
          · exact ⟨sn, by rw [e]; exact hp, hal, hkn⟩
          · rw [hp] at hmv
            rcases hmv with ⟨k2, rfl, _, hp2⟩ | ⟨b, p, rfl, _⟩ | ⟨_, hall2, _⟩
            · refine ⟨_, hp2, fun k' hk' => List.mem_cons_of_mem _ (hal k' hk'), fun hmem => ?_⟩
              rcases List.mem_cons.1 hmem with e | e
              · subst e; exact hnt rfl
              · exact hkn e
            · exact absurd ha (S.no_batch m w b p)
            · exact absurd (hall2 k hkc) hkn)
        (fun m _ ⟨sn, hp, _, hkn⟩ =>
          ⟨.observeEmpty w k, rfl, by simp [step, hp, hw, S.looks_empty hw hkc hp hkn]⟩)
      obtain ⟨sn0, hp0, hp1⟩ := quietEff_observe (S.eff m _ ha)
      rw [hp] at hp0; injection hp0 with hp0; subst hp0
      exact ⟨m + 1, _, by omega, hp1, fun k' hk' =>
        (List.mem_cons.1 hk').elim (fun e => e ▸ List.mem_cons_self ..) (fun e => List.mem_cons_of_mem _ (hal k' e))⟩

theorem Stuck.polling_to_parking (S : Stuck c tr act) (w j : Nat) (hw : w < c.n)
    (seen : List Cont) (h : (tr j).pc w = .polling seen) : ∃ i, j ≤ i ∧ (tr i).pc w = .parking := by
  obtain ⟨i, seen', hji, hpc, hall⟩ := S.polling_seen w hw (allConts c) (fun k hk => hk) j seen h
  obtain ⟨m, hm, _, a, ha, rfl⟩ := wf1 S.run (.miss w)
    (fun s => ∃ sn, s.pc w = .polling sn ∧ ∀ k, k ∈ allConts c → k ∈ sn) i ⟨seen', hpc, hall⟩
    (fun m a _ ha ⟨sn, hp, hal⟩ hnt => by
      rcases quietEff_pc (S.eff m a ha) w with e | hmv
      · exact ⟨sn, by rw [e]; exact hp, hal⟩
      · rw [hp] at hmv
        rcases hmv with ⟨k2, _, _, hp2⟩ | ⟨b, p, rfl, _⟩ | ⟨rfl, _, _⟩
        · exact ⟨_, hp2, fun k' hk' => List.mem_cons_of_mem _ (hal k' hk')⟩
        · exact absurd ha (S.no_batch m w b p)
        · exact absurd rfl hnt)
    (fun m _ ⟨sn, hp, hal⟩ => by
      refine ⟨.pollMiss w, rfl, ?_⟩
      have : (allConts c).all (fun k => decide (k ∈ sn)) = true := by
        rw [List.all_eq_true]; intro k hk; simpa using hal k hk
      simp only [step, hp]
      rw [if_pos ⟨hw, this⟩]; rfl)
  exact ⟨m + 1, by omega, quietEff_miss (S.eff m _ ha)⟩

theorem Stuck.eventually_waiting (S : Stuck c tr act) (hn : 0 < c.n) (w : Nat) (hw : w < c.n) :
    ∃ J, ∀ j, J ≤ j → (tr j).pc w = .waiting := by
  have fromParking : ∀ j, (tr j).pc w = .parking → ∃ J, ∀ j, J ≤ j → (tr j).pc w = .waiting := by
    intro j h
    obtain ⟨i, _, hi⟩ := S.parking_to_waiting w j hw h
    exact ⟨i, S.waiting_forever w i hi⟩
  have fromPolling : ∀ j seen, (tr j).pc w = .polling seen → ∃ J, ∀ j, J ≤ j → (tr j).pc w = .waiting := by
    intro j seen h
    obtain ⟨i, _, hi⟩ := S.polling_to_parking w j hw seen h
    exact fromParking i hi
  cases hp : (tr 0).pc w with
  | polling seen => exact fromPolling 0 seen hp
  | exec p => have := S.noexec 0 w hw; rw [hp] at this; cases this
  | parking => exact fromParking 0 hp
  | waiting => exact ⟨0, S.waiting_forever w 0 hp⟩
  | woken =>
    obtain ⟨m, _, _, ha⟩ := woken_leads_to_wake S.run hw hp
    exact fromPolling (m + 1) [] (quietEff_wake (S.eff m _ ha))
  | exited => exact absurd hp (noExit_not_exited hn (S.run.reach 0) (S.noexit 0) w hw)
  | surrendered => exact absurd hp (S.nosurr 0 w hw)

/-- every worker ends up waiting, and then (invariant B: the last parker never sleeps on a request) nothing is
requested and no goal is current -/
theorem Stuck.false (S : Stuck c tr act) (hn : 0 < c.n) : False := by
  obtain ⟨J, hJ⟩ := eventually_forall_lt c.n (fun w j => (tr j).pc w = .waiting)
    (fun w hw => S.eventually_waiting hn w hw)
  have hb := reachable_invB hn (S.run.reach J) (fun x hx => hJ x hx J (Nat.le_refl _))
  rcases S.pending J with h | h
  · rw [hb.1] at h; cases h
  · exact h hb.2

end stuck

/-- `started` and `ended` only grow and are bounded by the number of packets -/
theorem counters_settle {c : Cfg} {tr : Nat → State} {act : Nat → Option Act} (hu : c.unconIdx < c.L)
    (R : FairRun c tr act) (hN : FiniteSpawn tr) :
    ∃ K, ∀ j, K ≤ j → (tr (j+1)).started = (tr j).started ∧ (tr (j+1)).ended = (tr j).ended := by
  obtain ⟨N, hN⟩ := hN
  have hmono : ∀ j, (tr j).started ≤ (tr (j+1)).started ∧ (tr j).ended ≤ (tr (j+1)).ended := by
    intro j
    cases ha : act j with
    | none => rw [R.stutter_at ha]; exact ⟨Nat.le_refl _, Nat.le_refl _⟩
    | some a => exact step_counters_mono (R.step_at ha)
  obtain ⟨K, hK⟩ := mono_bounded_const (fun j => (tr j).started + (tr j).ended) (2 * N)
    (fun j => Nat.add_le_add (hmono j).1 (hmono j).2)
    (fun j => by
      have k := reachable_invK hu (R.reach j)
      have := k.added_eq; have := k.started_eq; have := hN j
      show _ + _ ≤ _; omega)
  refine ⟨K, fun j hj => ?_⟩
  have h1 : _ + _ = _ + _ := hK j hj
  have h2 : _ + _ = _ + _ := hK (j+1) (Nat.le_succ_of_le hj)
  have := hmono j
  omega

theorem eventually_quiet {c : Cfg} {tr : Nat → State} {act : Nat → Option Act} (hn : 0 < c.n) (hu : c.unconIdx < c.L)
    (R : FairRun c tr act) (hN : FiniteSpawn tr) (hE : FiniteEnv act) :
    ∃ K, ∀ j, K ≤ j → (∀ w, w < c.n → ((tr j).pc w).isExec = false) ∧
      ∀ a, act j = some a → NoExit (tr j) → ¬ IsLastPark c (tr j) (some a) → QuietEff c (tr j) a (tr (j+1)) := by
  obtain ⟨K1, hconst⟩ := counters_settle hu R hN
  obtain ⟨K2, hK2⟩ := hE
  have hnoexec : ∀ j, max K1 K2 ≤ j → ∀ w, w < c.n → ((tr j).pc w).isExec = false := fun j hj w hw => by
    -- a worker that still runs a packet would end it (fairness of `finish`), and `ended` would grow
    cases hx : ((tr j).pc w).isExec with
    | false => rfl
    | true =>
      exfalso
      obtain ⟨m, hm, _, a, ha, rfl⟩ := wf1 R (.finish w) (fun s => (s.pc w).isExec = true) j hx
        (fun m a hm ha hPm hnt => by
          rcases step_isExec_stable (R.step_at ha) w hPm with h | rfl | rfl
          · exact h
          · exact absurd rfl hnt
          · have := hK2 m _ (by omega) ha; cases this)
        (fun m _ hPm => by
          refine ⟨.execEnd w, rfl, ?_⟩
          cases hp : (tr m).pc w with
          | exec p => simp [step, hp, hw]
          | _ => rw [hp] at hPm; cases hPm)
      have := step_execEnd_ended (R.step_at ha)
      have := (hconst m (by omega)).2
      omega
  exact ⟨max K1 K2, fun j hj => ⟨hnoexec j hj, fun a ha hnx hnl =>
    quiet_step hn (R.reach j) (R.step_at ha) (hK2 j a (by omega) ha) (hconst j (by omega)).1 (hnoexec j hj) hnl hnx⟩⟩

theorem some_last_park {c : Cfg} {tr : Nat → State} {act : Nat → Option Act}
    (hn : 0 < c.n) (hu : c.unconIdx < c.L)
    (R : FairRun c tr act) (hN : FiniteSpawn tr) (hE : FiniteEnv act) (hA : NoAssert c tr) (hP : Pending c (tr 0)) :
    ∃ j, IsLastPark c (tr j) (act j) := by
  apply Classical.byContradiction
  intro hno
  have hnl : ∀ j a, act j = some a → ¬ IsLastPark c (tr j) (some a) := fun j a ha h => hno ⟨j, ha ▸ h⟩
  have hpend : ∀ j, Pending c (tr j) :=
    R.always (Q := Pending c) hP (fun j a ha hs ih => pending_step hn (R.reach j) ih hs (hnl j a ha))
  obtain ⟨K, hK⟩ := eventually_quiet hn hu R hN hE
  exact Stuck.false (c := c) (tr := fun j => tr (K + j)) (act := fun j => act (K + j)) {
    run := R.shift K
    eff := fun j a ha => (hK _ (Nat.le_add_right ..)).2 a ha (hpend _).2.1 (hnl _ a ha)
    noexec := fun j => (hK _ (Nat.le_add_right ..)).1
    noexit := fun j => (hpend (K + j)).2.1
    nosurr := fun j => (hpend (K + j)).2.2
    noassert := fun j => hA (K + j)
    pending := fun j => (hpend (K + j)).1.imp id (fun h => by rw [h]; simp) } hn

/-- what holds of `s` as long as no last parker has parked since `s0`: `Pending`, the same goal and `gcDone`; requests
and the prepared pool are not taken back -/
def Kept (c : Cfg) (s0 s : State) : Prop :=
  Pending c s ∧ s.current = s0.current ∧ s.gcDone = s0.gcDone ∧
  (s0.reqGc = true → s.reqGc = true) ∧ (s0.reqShutdown = true → s.reqShutdown = true) ∧
  (s0.reqFork = true → s.reqFork = true) ∧ ((∃ k, s0.creation = .surrendered k) → ∃ k, s.creation = .surrendered k)

theorem first_last_park {c : Cfg} {tr : Nat → State} {act : Nat → Option Act}
    (hn : 0 < c.n) (hu : c.unconIdx < c.L)
    (R : FairRun c tr act) (hN : FiniteSpawn tr) (hE : FiniteEnv act) (hA : NoAssert c tr) (hP : Pending c (tr 0)) :
    ∃ j w tag, act j = some (.park w tag) ∧ (tr j).parked + 1 = c.n ∧ ∀ i, i ≤ j → Kept c (tr 0) (tr i) := by
  obtain ⟨j0, ⟨w, tag, hact, hlast⟩, hleast⟩ :=
    ListAux.exists_least (fun j => IsLastPark c (tr j) (act j)) (some_last_park hn hu R hN hE hA hP)
  refine ⟨j0, w, tag, hact, hlast, R.until (Q := Kept c (tr 0)) j0 ⟨hP, rfl, rfl, id, id, id, id⟩ ?_⟩
  intro i a hi ha hs ⟨hp, h1, h2, h3, h4, h5, h6⟩
  have hnl : ¬ IsLastPark c (tr i) (some a) := ha ▸ hleast i hi
  obtain ⟨f1, f2, f3, f4, f5⟩ := nonlast_step_frame hn (R.reach i) hp.2.1 hs hnl
  exact ⟨pending_step hn (R.reach i) hp hs hnl, f1.trans h1, f5.trans h2, f2 ∘ h3, f3 ∘ h4, f4 ∘ h5,
    fun hk => creation_prepared_step hn (R.reach i) hp hs (h6 hk)⟩

theorem last_park_eventually {c : Cfg} {tr : Nat → State} {act : Nat → Option Act}
    (hn : 0 < c.n) (hu : c.unconIdx < c.L)
    (R : FairRun c tr act) (hN : FiniteSpawn tr) (hE : FiniteEnv act) (hA : NoAssert c tr) (hP : Pending c (tr 0)) :
    ∃ j, IsLastPark c (tr j) (act j) ∧ ∀ i, i ≤ j → Pending c (tr i) := by
  obtain ⟨j, w, tag, ha, hl, hpre⟩ := first_last_park hn hu R hN hE hA hP
  exact ⟨j, ⟨w, tag, ha, hl⟩, fun i hi => (hpre i hi).1⟩


end Mmtk.Sched
