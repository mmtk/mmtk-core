import MmtkModel.Lemmas.SchedCount
/-!
# Uniqueness of packet ids in the scheduler model (used by Props/C15)

Packet ids are generated by the model itself: every packet creation is `newPkt s b tag = ⟨s.nextId, b, tag⟩`
followed by `bump` (`nextId + 1`, `added + 1`).  So freshness is *derived*: in every reachable state the
multiset of ids that are queued (bucket queues, sentinel slots, local deques, designated queues),
running (`pc = exec p`) or ended (`endedIds`) is exactly `{0, …, nextId − 1}`, each id once (`InvU`).

The invariant is the id-indexed form of `InvK` (`Lemmas/SchedCount.lean`): for a fixed id `i` the number
of occurrences of `i` in all containers is `1` if `i < nextId` and `0` otherwise.  Both are instances of
`step_weight`: `occ i` is the queued plus the running weight for the indicator of the id `i`, plus the
occurrences of `i` in `endedIds`.
-/
namespace Mmtk.Sched

def bktIds (k : Bucket) : List Nat := k.q.map Pkt.id ++ k.sentinel.toList.map Pkt.id

def pcIds : PC → List Nat
  | .exec p => [p.id]
  | _ => []

def queuedIds (c : Cfg) (s : State) : List Nat :=
  (List.range c.L).flatMap (fun b => bktIds (s.bkt b)) ++ (List.range c.n).flatMap (fun w => (s.buf w).map Pkt.id)
    ++ (List.range c.n).flatMap (fun w => (s.desig w).map Pkt.id)

def runningIds (c : Cfg) (s : State) : List Nat := (List.range c.n).flatMap (fun w => pcIds (s.pc w))

def allIds (c : Cfg) (s : State) : List Nat := queuedIds c s ++ runningIds c s ++ s.endedIds

def bktCntI (i : Nat) (k : Bucket) : Nat := (bktIds k).count i

def qBktI (i : Nat) (c : Cfg) (s : State) : Nat := sumW c.L (fun b => bktCntI i (s.bkt b))
def qBufI (i : Nat) (c : Cfg) (s : State) : Nat := sumW c.n (fun w => ((s.buf w).map Pkt.id).count i)
def qDesI (i : Nat) (c : Cfg) (s : State) : Nat := sumW c.n (fun w => ((s.desig w).map Pkt.id).count i)
def runI (i : Nat) (c : Cfg) (s : State) : Nat := sumW c.n (fun w => (pcIds (s.pc w)).count i)

def occ (i : Nat) (c : Cfg) (s : State) : Nat :=
  qBktI i c s + qBufI i c s + qDesI i c s + runI i c s + s.endedIds.count i

def InvU (c : Cfg) (s : State) : Prop := s.added = s.nextId ∧ ∀ i, occ i c s = if i < s.nextId then 1 else 0

theorem count_range_flatMap (n : Nat) (f : Nat → List Nat) (i : Nat) :
    ((List.range n).flatMap f).count i = sumW n (fun x => (f x).count i) := List.count_flatMap

theorem count_allIds (i : Nat) (c : Cfg) (s : State) : (allIds c s).count i = occ i c s := by
  unfold allIds queuedIds runningIds occ qBktI qBufI qDesI runI bktCntI
  simp only [List.count_append, count_range_flatMap]

theorem count_queuedIds (i : Nat) (c : Cfg) (s : State) : (queuedIds c s).count i = qBktI i c s + qBufI i c s + qDesI i c s := by
  unfold queuedIds qBktI qBufI qDesI bktCntI
  simp only [List.count_append, count_range_flatMap]

theorem count_runningIds (i : Nat) (c : Cfg) (s : State) : (runningIds c s).count i = runI i c s := by
  unfold runningIds runI
  exact count_range_flatMap _ _ _

theorem pcIds_of_not_exec {p : PC} (h : p.isExec = false) : pcIds p = [] := by
  cases p <;> first | rfl | cases h

theorem pcIds_exec_count (i : Nat) (p : Pkt) : (pcIds (.exec p)).count i = if p.id = i then 1 else 0 := by
  simp [pcIds, List.count_cons]

theorem runI_setPc (i : Nat) (c : Cfg) (s : State) (w : Nat) (p : PC) (hw : w < c.n) :
    runI i c (setPc s w p) + (pcIds (s.pc w)).count i = runI i c s + (pcIds p).count i :=
  sumW_set c.n (fun p => (pcIds p).count i) s.pc w p hw

theorem wList_ind (i : Nat) (l : List Pkt) : wList (fun p => if p.id = i then 1 else 0) l = (l.map Pkt.id).count i :=
  Sums.sum_map_indicator Pkt.id i l

theorem weight_ind (i : Nat) (c : Cfg) (s : State) :
    wQ (fun p => if p.id = i then 1 else 0) c s + wR (fun p => if p.id = i then 1 else 0) c s + s.endedIds.count i =
      occ i c s := by
  unfold wQ wR occ qBktI qBufI qDesI runI
  congr 1
  congr 1
  · congr 1
    · congr 1
      · refine sumW_congr _ _ _ (fun b _ => ?_)
        show wList _ _ + wList _ _ = List.count i (_ ++ _)
        rw [wList_ind, wList_ind, List.count_append]
      · exact sumW_congr _ _ _ (fun w _ => wList_ind i _)
    · exact sumW_congr _ _ _ (fun w _ => wList_ind i _)
  · refine sumW_congr _ _ _ (fun w _ => ?_)
    cases s.pc w <;> first | rfl | exact (pcIds_exec_count i _).symm

theorem step_invU (c : Cfg) (hu : c.unconIdx < c.L) (s s' : State) (a : Act) (hA : InvA c s) (h : InvU c s)
    (hs : step c s a = some s') : InvU c s' := by
  obtain ⟨new, taken, old, k⟩ := step_weight hu hA hs
  refine ⟨by rw [k.added, k.nextId, h.1], fun i => ?_⟩
  have hq := k.wq (fun p => if p.id = i then 1 else 0)
  have hr := k.wr (fun p => if p.id = i then 1 else 0)
  have e3 : s'.endedIds.count i = wList (fun p => if p.id = i then 1 else 0) old + s.endedIds.count i := by
    rw [k.endedIds, List.count_append, wList_ind]
  have hi := h.2 i
  rw [← weight_ind] at hi ⊢
  rw [k.nextId]
  rcases new with _ | ⟨p, _ | ⟨q, l⟩⟩
  · rw [show wList _ [] = 0 from rfl] at hq
    show _ = if i < s.nextId then 1 else 0
    omega
  · have hp : p.id = s.nextId := k.fresh p (List.mem_singleton.mpr rfl)
    rw [show wList (fun p => if p.id = i then 1 else 0) [p] = if p.id = i then 1 else 0 by simp [wList], hp] at hq
    show _ = if i < s.nextId + 1 then 1 else 0
    by_cases h1 : s.nextId = i
    · rw [if_pos h1] at hq
      rw [if_neg (show ¬ i < s.nextId by omega)] at hi
      rw [if_pos (show i < s.nextId + 1 by omega)]
      omega
    · rw [if_neg h1] at hq
      by_cases h2 : i < s.nextId
      · rw [if_pos h2] at hi; rw [if_pos (show i < s.nextId + 1 by omega)]; omega
      · rw [if_neg h2] at hi; rw [if_neg (show ¬ i < s.nextId + 1 by omega)]; omega
  · exact absurd k.one (by simp)

theorem init_invU (c : Cfg) : InvU c (init c) := by
  refine ⟨rfl, fun i => ?_⟩
  have z1 : qBktI i c (init c) = 0 := sumW_zero _ _ (fun b _ => by simp [init, initBucket, bktCntI, bktIds])
  have z2 : qBufI i c (init c) = 0 := sumW_zero _ _ (fun b _ => by simp [init])
  have z3 : qDesI i c (init c) = 0 := sumW_zero _ _ (fun b _ => by simp [init])
  have z4 : runI i c (init c) = 0 := sumW_zero _ _ (fun b _ => by simp [init, pcIds])
  unfold occ
  rw [z1, z2, z3, z4]
  simp [init]

theorem reachable_invU {c : Cfg} (hu : c.unconIdx < c.L) {s : State} (h : Reachable c s) : InvU c s :=
  h.induct (init_invU c) (fun s s' a hr hi hs => step_invU c hu s s' a (reachable_invA hr) hi hs)

theorem step_endedIds (c : Cfg) (s s' : State) (a : Act) (hs : step c s a = some s') :
    s'.endedIds = s.endedIds ∨ ∃ w p, a = .execEnd w ∧ s.pc w = .exec p ∧ s'.endedIds = p.id :: s.endedIds := by
  cases step_eff hs with
  | execEnd w p _ hpc => exact .inr ⟨w, p, rfl, hpc, rfl⟩
  | poll _ _ _ _ hP => exact .inl (by rw [hP.same])
  | work _ _ _ hW => exact .inl (by rw [hW.same])
  | mutator hM => exact .inl (by rw [hM.same])
  | parkLast _ _ s1 r _ _ _ _ _ hl => exact .inl (onLastParked_lpFrame hl).endedIds
  | _ => exact .inl rfl

end Mmtk.Sched
