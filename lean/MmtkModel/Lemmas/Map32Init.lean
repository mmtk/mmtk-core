import MmtkModel.Lemmas.Map32FL
/-!
# `finalize_static_space_map` (C29): the region map it builds

`finalize maxChunks first last` runs the code's own sequence of free-list calls (block out
`[0, first)`, allocate the chunks `first ..= last` one by one, allocate the rest, free the chunks one
by one).  `finalize_fl`: for `0 < first ≤ last < maxChunks` the result is a well-formed map whose only
free run is `[first, last + 1)` (so all free runs lie in the discontiguous range).
-/
namespace Mmtk.Map32

theorem foldl_range_inv {α : Type} (P : Nat → α → Prop) (f : α → Nat → α) (a : α) : ∀ n : Nat,
    P 0 a → (∀ i, i < n → ∀ x, P i x → P (i + 1) (f x i)) → P n ((List.range n).foldl f a)
  | 0, h0, _ => h0
  | n + 1, h0, hs => by
    rw [List.range_succ, List.foldl_append]
    exact hs n (Nat.lt_succ_self n) _
      (foldl_range_inv P f a n h0 (fun i hi x hx => hs i (Nat.lt_succ_of_lt hi) x hx))

theorem foldl_range'_inv {α : Type} (P : Nat → α → Prop) (f : α → Nat → α) (a : α) (s n : Nat)
    (h0 : P 0 a) (hs : ∀ i, i < n → ∀ x, P i x → P (i + 1) (f x (s + i))) :
    P n ((List.range' s n).foldl f a) := by
  rw [List.range'_eq_map_range, List.foldl_map]
  exact foldl_range_inv P (fun x i => f x (s + i)) a n h0 hs

/-- The situation of every `alloc` in `finalize`: the map has one free run. -/
theorem alloc_single {lo hi : Nat} {fl : FL} (h : FLInv lo hi fl) {u s n : Nat}
    (hF : (⟨u, s, true⟩ : Run) ∈ fl.runs) (honly : ∀ r ∈ fl.runs, r.free = true → r = ⟨u, s, true⟩)
    (hn : 1 ≤ n) (hns : n ≤ s) :
    FLInv lo hi (fl.alloc n).2 ∧
    (∀ r, r ∈ (fl.alloc n).2.runs ↔
      (r ∈ fl.runs ∧ r.start ≠ u) ∨ r = ⟨u, n, false⟩ ∨ (n < s ∧ r = ⟨u + n, s - n, true⟩)) ∧
    (∀ r ∈ (fl.alloc n).2.runs, r.free = true → n < s ∧ r = ⟨u + n, s - n, true⟩) := by
  cases ha : (fl.alloc n).1 with
  | none =>
    have := (alloc_none_iff h).1 ha _ hF rfl
    dsimp only at this; omega
  | some u' =>
    obtain ⟨s', hF', _, hinv, hmem⟩ := alloc_spec h hn ha
    have := honly _ hF' rfl
    simp only [Run.mk.injEq, and_true] at this
    obtain ⟨rfl, rfl⟩ := this
    refine ⟨hinv, hmem, fun r hr hrf => ?_⟩
    rcases (hmem r).1 hr with ⟨hr', hne⟩ | rfl | hrem
    · exact absurd (congrArg Run.start (honly r hr' hrf)) hne
    · cases hrf
    · exact hrem

/-- After blocking out `[0, first)` and allocating `i` chunks of the range. -/
def Ph1 (M first i : Nat) (fl : FL) : Prop :=
  FLInv 0 M fl ∧ (∀ c, first ≤ c → c < first + i → (⟨c, 1, false⟩ : Run) ∈ fl.runs) ∧
  (∀ r ∈ fl.runs, r.free = true → r = ⟨first + i, M - (first + i), true⟩) ∧
  (first + i < M → (⟨first + i, M - (first + i), true⟩ : Run) ∈ fl.runs)

/-- After freeing `j` chunks of the range. -/
def Ph2 (M first last j : Nat) (fl : FL) : Prop :=
  FLInv 0 M fl ∧ (∀ c, first + j ≤ c → c ≤ last → (⟨c, 1, false⟩ : Run) ∈ fl.runs) ∧
  (∀ r ∈ fl.runs, r.free = true → 0 < j ∧ r = ⟨first, j, true⟩) ∧
  (0 < j → (⟨first, j, true⟩ : Run) ∈ fl.runs)

theorem ph1_init {M first : Nat} (h1 : 0 < first) (h3 : first < M) :
    Ph1 M first 0 (({ runs := [⟨0, M, true⟩], order := [0] } : FL).alloc first).2 := by
  have h0 : FLInv 0 M ({ runs := [⟨0, M, true⟩], order := [0] } : FL) := by
    refine ⟨?_, ?_, ?_, ?_, ?_⟩
    · intro r hr; simp at hr; subst hr; dsimp only; omega
    · simp
    · simp
    · intro u; simp
      constructor
      · rintro rfl; rfl
      · intro e; exact e.symm
    · intro r hr _; simp at hr; subst hr; dsimp only; omega
  obtain ⟨hinv, hmem, hfree⟩ := alloc_single h0 (u := 0) (s := M) (n := first) (by simp)
    (by intro r hr _; simpa using hr) h1 (Nat.le_of_lt h3)
  refine ⟨hinv, ?_, ?_, ?_⟩
  · intro c hc1 hc2; omega
  · intro r hr hrf
    rw [(hfree r hr hrf).2]; simp
  · intro _
    refine (hmem _).2 (Or.inr (Or.inr ⟨h3, ?_⟩))
    simp

theorem ph1_step {M first i : Nat} {fl : FL} (h : Ph1 M first i fl) (hi : first + i < M) :
    Ph1 M first (i + 1) (fl.alloc 1).2 := by
  obtain ⟨hinv, hunits, honly, hF⟩ := h
  obtain ⟨hinv', hmem, hfree⟩ := alloc_single hinv (hF hi) honly (Nat.le_refl 1) (by omega)
  -- the remainder of the free run after one more chunk
  have hrem : (⟨first + i + 1, M - (first + i) - 1, true⟩ : Run) =
      ⟨first + (i + 1), M - (first + (i + 1)), true⟩ := by rw [Nat.sub_sub, Nat.add_assoc]
  refine ⟨hinv', ?_, ?_, ?_⟩
  · intro c hc1 hc2
    by_cases hc : c = first + i
    · subst hc; exact (hmem _).2 (Or.inr (Or.inl rfl))
    · exact (hmem _).2 (Or.inl ⟨hunits c hc1 (by omega), hc⟩)
  · intro r hr hrf
    rw [(hfree r hr hrf).2]; exact hrem
  · intro hlt
    exact (hmem _).2 (Or.inr (Or.inr ⟨by omega, hrem.symm⟩))

theorem ph2_init {M first last : Nat} {fl : FL} (h2 : first ≤ last) (h3 : last < M)
    (h : Ph1 M first (last + 1 - first) fl) : Ph2 M first last 0 (fl.alloc (M - (last + 1))).2 := by
  obtain ⟨hinv, hunits, honly, hF⟩ := h
  have he : first + (last + 1 - first) = last + 1 := by omega
  rw [he] at hunits honly hF
  by_cases hM : last + 1 < M
  · obtain ⟨hinv', hmem, hfree⟩ := alloc_single hinv (hF hM) honly (n := M - (last + 1)) (by omega) (Nat.le_refl _)
    refine ⟨hinv', ?_, ?_, ?_⟩
    · intro c hc1 hc2
      exact (hmem _).2 (Or.inl ⟨hunits c (by omega) (by omega), by dsimp only; omega⟩)
    · intro r hr hrf
      exact absurd (hfree r hr hrf).1 (Nat.lt_irrefl _)
    · intro h0; omega
  · -- nothing after the range: there is no free run (it would be empty) and `alloc(0)` fails (`none` = −1;
    -- the code's `debug_assert!` on the returned unit fires here, which `finalize` does not model)
    have hnofree : ∀ r ∈ fl.runs, r.free = true → False := by
      intro r hr hrf
      have hp := hinv.pos r hr
      rw [honly r hr hrf] at hp
      dsimp only at hp; omega
    have hnone : (fl.alloc (M - (last + 1))).1 = none :=
      (alloc_none_iff hinv).2 fun r hr hrf => (hnofree r hr hrf).elim
    rw [alloc_none hnone]
    exact ⟨hinv, fun c hc1 hc2 => hunits c (by omega) (by omega), fun r hr hrf => (hnofree r hr hrf).elim,
      fun h0 => absurd h0 (Nat.lt_irrefl 0)⟩

theorem ph2_step {M first last j : Nat} {fl : FL} (h : Ph2 M first last j fl) (hj : first + j ≤ last)
    (h3 : last < M) : Ph2 M first last (j + 1) (fl.freeRun (first + j)).2 := by
  obtain ⟨hinv, hunits, honly, hF⟩ := h
  have hrun := hunits (first + j) (Nat.le_refl _) hj
  obtain ⟨ns, es, hL, hR, heq⟩ := freeRun_eq_strong hinv hrun
  obtain ⟨_, hinv', hmemA⟩ := freeRun_spec hinv hrun (Nat.zero_le _) (by omega)
  have hns : ns = first := by
    rcases hL with ⟨e, hno⟩ | ⟨l, hl, hlf, hls, hle⟩
    · by_cases hj0 : j = 0
      · omega
      · exact absurd (by dsimp only) (hno _ (hF (by omega)) rfl)
    · have := (honly l hl hlf).2
      rw [this] at hls; exact hls.symm
  have hes : es = 0 := by
    rcases hR with ⟨e, _⟩ | ⟨r, hr, hrf, hrs, _⟩
    · exact e
    · have := (honly r hr hrf).2
      rw [this] at hrs; dsimp only at hrs; omega
  have hsz : first + j + 1 + 0 - first = j + 1 := by omega
  rw [hns, hes, hsz] at heq
  refine ⟨hinv', ?_, ?_, ?_⟩
  · intro c hc1 hc2
    exact (hmemA ⟨c, 1, false⟩ rfl).2 ⟨hunits c (by omega) hc2, by dsimp only; omega⟩
  · intro r hr hrf
    rw [heq] at hr
    rcases mem_merged.1 hr with ⟨hr', hout⟩ | rfl
    · obtain ⟨hj0, e⟩ := honly r hr' hrf
      rw [e] at hout; dsimp only at hout; omega
    · exact ⟨Nat.succ_pos _, rfl⟩
  · intro _
    rw [heq]
    exact mem_merged.2 (Or.inr rfl)

theorem finalize_fl {M first last : Nat} (h1 : 0 < first) (h2 : first ≤ last) (h3 : last < M) :
    FLInv first (last + 1) (finalize M first last).fl ∧
    (∀ r ∈ (finalize M first last).fl.runs, r.free = true → r = ⟨first, last + 1 - first, true⟩) ∧
    (⟨first, last + 1 - first, true⟩ : Run) ∈ (finalize M first last).fl.runs := by
  have hfl : (finalize M first last).fl =
      (List.range' first (last + 1 - first)).foldl (fun fl c => (fl.freeRun c).2)
        (((List.range (last + 1 - first)).foldl (fun fl _ => (fl.alloc 1).2)
          (({ runs := [⟨0, M, true⟩], order := [0] } : FL).alloc first).2).alloc (M - (last + 1))).2 := rfl
  have p1 := foldl_range_inv (fun i fl => Ph1 M first i fl) (fun fl _ => (fl.alloc 1).2) _
    (last + 1 - first) (ph1_init h1 (by omega)) (fun i hi x hx => ph1_step hx (by omega))
  have p2 := ph2_init h2 h3 p1
  have p3 := foldl_range'_inv (fun j fl => Ph2 M first last j fl) (fun fl c => (fl.freeRun c).2) _
    first (last + 1 - first) p2 (fun j hj x hx => ph2_step hx (by omega) h3)
  rw [← hfl] at p3
  obtain ⟨hinv, _, honly, hF⟩ := p3
  refine ⟨⟨hinv.pos, hinv.disj, hinv.nodup, hinv.order_iff, ?_⟩, fun r hr hrf => (honly r hr hrf).2,
    hF (by omega)⟩
  intro r hr hrf
  rw [(honly r hr hrf).2]; dsimp only; omega

end Mmtk.Map32
