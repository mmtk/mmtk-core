import MmtkModel.Lemmas.SchedBase
/-!
# Invariants of the scheduler model (used by Props/C11, C13, C14, C15, C16)

Each invariant is a predicate of the state kept by every step.  Its step lemma is a case analysis over `Eff`
(`Lemmas/SchedStep.lean`): actions that do not write what the invariant reads are settled by the frame equations,
notifications by `Notified`, bucket updates by `BktOp`, and the `park` of the last worker by the inversion of
`on_last_parked` (`Lemmas/SchedLastParked.lean`).  `Reachable.induct` and the first invariant, `InvA` the counters, are in `Lemmas/SchedBase.lean`.
The invariants, in the order of the file: `InvB` no lost request, `InvC` no stranded packet (C14);
what `on_last_parked` opens and closes under a well-formed stage table `Cfg.WF` (C15); `InvF` the local deques, `InvE`
the exit protocol (C16); `InvS` the stop-the-world bracket (C11); `InvD` designated work (C14); sentinel slots (C13).
-/
namespace Mmtk.Sched

def AllWaiting (c : Cfg) (s : State) : Prop := ∀ x, x < c.n → s.pc x = .waiting

def InvB (c : Cfg) (s : State) : Prop := AllWaiting c s → (anyRequested s = false ∧ s.current = none)

theorem invB_nonwaiting {c : Cfg} {s' : State} {w : Nat} (hw : w < c.n) (h : s'.pc w ≠ .waiting) : InvB c s' :=
  fun ha => absurd (ha w hw) h

theorem invB_same {c : Cfg} {s s' : State} (h : InvB c s) (hpc : s'.pc = s.pc) (hr : anyRequested s' = anyRequested s)
    (hc : s'.current = s.current) : InvB c s' := by
  intro ha; rw [hr, hc]; apply h; intro x hx; rw [← hpc]; exact ha x hx

theorem respond_parkSelf {c : Cfg} {s s' : State} {tag : Nat} (h : respond c s tag = some (s', .parkSelf)) :
    anyRequested s' = false ∧ s'.current = none := by
  obtain ⟨hc, h⟩ := respond_cases h
  rcases h with ⟨_, _, e⟩ | ⟨_, _, _, e⟩ | ⟨_, _, _, _, e⟩ | ⟨h1, h2, h3, rfl, _⟩
  · cases e
  · cases e
  · cases e
  · exact ⟨by simp [anyRequested, h1, h2, h3], hc⟩

theorem onLastParked_parkSelf {c : Cfg} {s s' : State} {tag : Nat} (h : onLastParked c s tag = some (s', .parkSelf)) :
    anyRequested s' = false ∧ s'.current = none := by
  rcases onLastParked_cases h with ⟨_, h⟩ | ⟨_, _, _, h⟩
  · exact respond_parkSelf h
  · cases h with
    | finished s3 _ _ _ _ he =>
      rcases he with ⟨_, _, e⟩ | ⟨_, h⟩
      · cases e
      · exact respond_parkSelf h

theorem notifyOne_awake {c : Cfg} {s s' : State} {x : Option Nat} (hn : 0 < c.n) (h : notifyOne c s x = some s') :
    ∃ w, w < c.n ∧ s'.pc w ≠ .waiting := by
  rcases notifyOne_cases h with ⟨x0, _, hx0, _, rfl⟩ | ⟨_, hnw, rfl⟩
  · exact ⟨x0, hx0, by rw [setPc_self]; nofun⟩
  · have := List.all_eq_true.1 hnw 0 (List.mem_range.mpr hn)
    exact ⟨0, hn, by simpa using this⟩

theorem exec_ne_waiting {p : PC} (h : p.isExec = true) : p ≠ .waiting := by
  intro e; rw [e] at h; cases h

theorem notifyAll_exec (s : State) (w : Nat) (h : (s.pc w).isExec = true) : (notifyAll s).pc w ≠ .waiting := by
  rcases notifyAll_pc s w with e | ⟨_, e⟩ <;> rw [e]
  · exact exec_ne_waiting h
  · nofun

/-- Every worker action leaves its worker outside `wait`; a notification finds a waiter or nobody
waits; a mutator action without notification changes nothing `InvB` speaks of.  The last parker waits
only after `respond_to_requests` found nothing (`onLastParked_parkSelf`); a parker that is not the last
is not the last to wait either, by the count of parked workers. -/
theorem step_invB (c : Cfg) (hn : 0 < c.n) (s s' : State) (a : Act) (hA : InvA c s) (h : InvB c s)
    (hs : step c s a = some s') : InvB c s' := by
  cases step_eff hs with
  | poll w seen hw _ hP =>
    rcases hP.pc_self with ⟨l, e⟩ | ⟨p, e⟩ | e <;> exact invB_nonwaiting hw (by rw [e]; nofun)
  | work w hw hx hW => exact invB_nonwaiting hw (by rw [hW.pc]; exact exec_ne_waiting hx)
  | bucketNotifyOne _ _ _ _ _ _ _ _ _ hn' | mutNotifyOne _ _ _ _ _ _ hn' | makeRequest _ _ _ _ _ hn' =>
    obtain ⟨x, hx, hne⟩ := notifyOne_awake hn hn'
    exact invB_nonwaiting hx hne
  | bucketNotifyAll w _ hw hx | wakeAll w hw hx => exact invB_nonwaiting hw (notifyAll_exec s w hx)
  | execEnd w p hw => exact invB_nonwaiting hw (by rw [setPc_self]; nofun)
  | park w tag hw hpc _ hnl =>
    intro ha
    refine absurd ?_ hnl
    rw [hA.parked_eq]
    refine (countW_all_but c.n _ w hw (by rw [hpc]; rfl)).mpr (fun x hx hxw => ?_)
    have := ha x hx
    rw [setPc_other _ _ hxw] at this
    show (s.pc x).isParked = true
    rw [this]; rfl
  | parkLast w tag s1 r pcs k hw _ _ hl hu =>
    rcases hu.cases with ⟨rfl, _, _⟩ | ⟨_, t, p, _, hp, rfl, _⟩
    · exact fun _ => (onLastParked_parkSelf hl : anyRequested s1 = false ∧ s1.current = none)
    · exact invB_nonwaiting hw (by rw [setPc_self]; rcases hp.pc with rfl | rfl <;> nofun)
  | spurious w hw => exact invB_nonwaiting hw (by rw [setPc_self]; nofun)
  | wake w p hw _ _ hp => exact invB_nonwaiting hw (by rw [setPc_self]; rcases hp.pc with rfl | rfl <;> nofun)
  | surrender _ _ _ hw | surrenderLast _ _ _ hw => exact invB_nonwaiting hw (by rw [setPc_self]; nofun)
  | mutator hM => exact invB_same h hM.pc (by rw [hM.same]; rfl) (by rw [hM.same])
  | respawn => exact invB_nonwaiting hn (by show (if 0 < c.n then _ else _) ≠ _; rw [if_pos hn]; nofun)

theorem init_invB (c : Cfg) (hn : 0 < c.n) : InvB c (init c) :=
  invB_nonwaiting hn (by simp [init])

theorem reachable_invB {c : Cfg} (hn : 0 < c.n) {s : State} (h : Reachable c s) : InvB c s :=
  h.induct (init_invB c hn) (fun s s' a hr hi hs => step_invB c hn s s' a (reachable_invA hr) hi hs)

/-- worker `x` will still look into container `k` before it can park: it runs a packet (and polls
afterwards), or it polls and has not yet seen `k` empty -/
def covers (s : State) (x : Nat) (k : Cont) : Prop :=
  match s.pc x with
  | .exec _ => True
  | .polling seen => k ∉ seen
  | _ => False

theorem covers_iff {s : State} {x : Nat} {k : Cont} :
    covers s x k ↔ (s.pc x).isExec = true ∨ ∃ seen, s.pc x = .polling seen ∧ k ∉ seen := by
  unfold covers
  cases s.pc x <;> simp [PC.isExec]

/-- `.desig` never counts: designated work is kept in sight by the Gc goal, not by a poller (`InvD`) -/
def NonEmpty (c : Cfg) (s : State) : Cont → Prop
  | .bucket b => b < c.L ∧ (s.bkt b).runnable = true
  | .buf v => v < c.n ∧ s.buf v ≠ []
  | .desig => False

def InvC (c : Cfg) (s : State) : Prop := ∀ k, NonEmpty c s k → ∃ x, x < c.n ∧ covers s x k

theorem covers_of_exec {s : State} {x : Nat} (k : Cont) (h : (s.pc x).isExec = true) : covers s x k := by
  unfold covers
  cases hp : s.pc x <;> simp_all [PC.isExec]

theorem covers_polling_nil {s : State} {x : Nat} (k : Cont) (h : s.pc x = .polling []) : covers s x k := by
  unfold covers; rw [h]; simp

theorem invC_cover_all {c : Cfg} {s' : State} {w : Nat} (hw : w < c.n) (h : ∀ k, covers s' w k) : InvC c s' :=
  fun k _ => ⟨w, hw, h k⟩

theorem invC_mono {c : Cfg} {s s' : State} (h : InvC c s) (hne : ∀ k, NonEmpty c s' k → NonEmpty c s k)
    (hcov : ∀ x k, x < c.n → NonEmpty c s' k → covers s x k → covers s' x k) : InvC c s' := by
  intro k hk
  obtain ⟨x, hx, hc⟩ := h k (hne k hk)
  exact ⟨x, hx, hcov x k hx hk hc⟩

theorem covers_pc_eq {s s' : State} {x : Nat} {k : Cont} (h : s'.pc x = s.pc x) (hc : covers s x k) : covers s' x k := by
  unfold covers at *; rw [h]; exact hc

theorem nonEmpty_eq {c : Cfg} {s s' : State} (hb : s'.bkt = s.bkt) (hf : s'.buf = s.buf) (k : Cont)
    (h : NonEmpty c s' k) : NonEmpty c s k := by
  cases k <;> simp only [NonEmpty] at * <;> first | (rw [← hb]; exact h) | (rw [← hf]; exact h)

/-- only `w` moves and the containers stay: `w` may give up a cover only for a container that is empty -/
theorem invC_setPc {c : Cfg} {s s' : State} {w : Nat} {p : PC} (h : InvC c s) (hpc : s'.pc = (setPc s w p).pc)
    (hb : s'.bkt = s.bkt) (hf : s'.buf = s.buf) (hw : ∀ k, NonEmpty c s' k → covers s w k → covers s' w k) : InvC c s' := by
  refine invC_mono h (nonEmpty_eq hb hf) (fun x k _ hk hc => ?_)
  by_cases hxw : x = w
  · subst hxw; exact hw k hk hc
  · exact covers_pc_eq (by rw [hpc]; exact setPc_other _ _ hxw) hc

theorem not_covers_of {s : State} {w : Nat} {p : PC} (hpc : s.pc w = p) (h : p.isExec = false) (h2 : ∀ seen, p ≠ .polling seen) :
    ∀ k, ¬ covers s w k := by
  intro k hc
  unfold covers at hc
  rw [hpc] at hc
  cases p <;> first | exact hc | exact h2 _ rfl | cases h

theorem invC_notified {c : Cfg} {s t : State} (h : InvC c s) (hn : Notified s t.pc) (hb : t.bkt = s.bkt) (hf : t.buf = s.buf) :
    InvC c t :=
  invC_mono h (nonEmpty_eq hb hf) fun x k _ _ hc => by
    rcases hn x with e | ⟨e, _⟩
    · exact covers_pc_eq e hc
    · unfold covers at hc; rw [e] at hc; exact hc.elim

theorem mem_allConts_buf {c : Cfg} {v : Nat} (h : v < c.n) : Cont.buf v ∈ allConts c := by
  simp [allConts, h]

theorem nonEmpty_mem_allConts {c : Cfg} {s : State} {k : Cont} (h : NonEmpty c s k) : k ∈ allConts c := by
  cases k with
  | bucket b => simp [allConts, h.1]
  | buf v => exact mem_allConts_buf h.1
  | desig => exact h.elim

theorem nonEmpty_not_looksEmpty {c : Cfg} {s : State} {w : Nat} {k : Cont} (h : NonEmpty c s k) : looksEmpty s w k = false := by
  cases k with
  | bucket b => simp [looksEmpty, h.2]
  | buf v =>
    simp only [looksEmpty]
    have := h.2
    cases hb : s.buf v <;> simp_all
  | desig => exact h.elim

theorem others_parked_when_last {c : Cfg} {s : State} {w : Nat} (hA : InvA c s) (hw : w < c.n) (hpc : s.pc w = .parking)
    (hlast : s.parked + 1 = c.n) : ∀ x, x < c.n → x ≠ w → (s.pc x).isParked = true :=
  (countW_all_but c.n (fun x => (s.pc x).isParked) w hw (by rw [hpc]; rfl)).mp
    (by have := hA.parked_eq; unfold parkedCount at this; omega)

theorem no_cover_when_last {c : Cfg} {s : State} {w : Nat} (hA : InvA c s) (hw : w < c.n) (hpc : s.pc w = .parking)
    (hlast : s.parked + 1 = c.n) : ∀ x k, x < c.n → ¬ covers s x k := by
  intro x k hx hc
  unfold covers at hc
  by_cases hxw : x = w
  · rw [hxw, hpc] at hc; exact hc
  · have := others_parked_when_last hA hw hpc hlast x hx hxw
    cases hp : s.pc x <;> rw [hp] at hc this <;> first | exact hc | cases this

theorem noRun_of_invC {c : Cfg} {s : State} (h : InvC c s) (hno : ∀ x k, x < c.n → ¬ covers s x k) :
    NoRun c s ∧ ∀ v, v < c.n → s.buf v = [] := by
  constructor
  · intro b hb
    cases hr : (s.bkt b).runnable with
    | false => rfl
    | true => obtain ⟨x, hx, hc⟩ := h (.bucket b) ⟨hb, hr⟩; exact absurd hc (hno x _ hx)
  · intro v hv
    cases hbv : s.buf v with
    | nil => rfl
    | cons p l => obtain ⟨x, hx, hc⟩ := h (.buf v) ⟨hv, by rw [hbv]; simp⟩; exact absurd hc (hno x _ hx)

theorem invC_of_empty {c : Cfg} {s : State} (h1 : NoRun c s) (h2 : ∀ v, v < c.n → s.buf v = []) : InvC c s := by
  intro k hk
  cases k with
  | bucket b => have := h1 b hk.1; rw [hk.2] at this; cases this
  | buf v => exact absurd (h2 v hk.1) hk.2
  | desig => exact hk.elim

theorem invC_same_pc {c : Cfg} {s s' : State} (h : InvC c s) (hpc : s'.pc = s.pc)
    (hne : ∀ k, NonEmpty c s' k → NonEmpty c s k) : InvC c s' :=
  invC_mono h hne (fun x k _ _ hc => covers_pc_eq (by rw [hpc]) hc)

theorem invC_same {c : Cfg} {s s' : State} (h : InvC c s) (hpc : s'.pc = s.pc) (hb : s'.bkt = s.bkt)
    (hf : s'.buf = s.buf) : InvC c s' :=
  invC_same_pc h hpc (nonEmpty_eq hb hf)

theorem invC_setBkt {c : Cfg} {s : State} {b : Nat} {k : Bucket} (h : InvC c s) (hk : k.runnable = true → (s.bkt b).runnable = true)
    {s' : State} (hpc : s'.pc = s.pc) (hb : s'.bkt = (setBkt s b k).bkt) (hf : s'.buf = s.buf) : InvC c s' := by
  refine invC_same_pc h hpc (fun k' hk' => ?_)
  cases k' with
  | bucket b' =>
    refine ⟨hk'.1, ?_⟩
    have h2 : ((if b' = b then k else s.bkt b')).runnable = true := by have := hk'.2; rw [hb] at this; exact this
    by_cases e : b' = b
    · rw [if_pos e] at h2; rw [e]; exact hk h2
    · rw [if_neg e] at h2; exact h2
  | buf v => exact ⟨hk'.1, by rw [← hf]; exact hk'.2⟩
  | desig => exact hk'

/-- Whoever acts as a worker and goes on polling or running covers everything.  A poller that has seen
a container empty gives up a cover only for a container that is empty; a worker that leaves the poll
loop was no cover; a mutator cannot make a packet runnable (`hmut`).  The last parker saw everything
empty (`no_cover_when_last`) and either leaves nothing runnable or polls again (`onLastParked_noRun`). -/
theorem step_invC (c : Cfg) (hmut : c.mutAddOpen = false) (s s' : State) (a : Act) (hA : InvA c s) (h : InvC c s)
    (hs : step c s a = some s') : InvC c s' := by
  have exec : ∀ {w : Nat}, w < c.n → (s'.pc w).isExec = true → InvC c s' :=
    fun hw hx => invC_cover_all hw (fun k => covers_of_exec k hx)
  have fresh : ∀ {w : Nat}, w < c.n → s'.pc w = .polling [] → InvC c s' :=
    fun hw hx => invC_cover_all hw (fun k => covers_polling_nil k hx)
  have idle : ∀ {w : Nat} {p p' : PC}, s.pc w = p → p.isExec = false → (∀ l, p ≠ .polling l) →
      s'.pc = (setPc s w p').pc → s'.bkt = s.bkt → s'.buf = s.buf → InvC c s' :=
    fun hpc h1 h2 e hb hf => invC_setPc h e hb hf fun k _ hc => absurd hc (not_covers_of hpc h1 h2 k)
  cases step_eff hs with
  | poll w seen hw hpc hP =>
    cases hP with
    | observe k0 hk0 =>
      refine invC_setPc h rfl rfl rfl (fun k hk hc => ?_)
      unfold covers at hc ⊢
      rw [hpc] at hc; rw [setPc_self]
      intro hmem
      rcases List.mem_cons.mp hmem with e | e
      · subst e
        have := nonEmpty_not_looksEmpty (w := w) hk
        rw [show looksEmpty (setPc s w (PC.polling (k :: seen))) w k = looksEmpty s w k from by cases k <;> rfl, hk0] at this
        cases this
      · exact hc e
    | pollMiss hall =>
      refine invC_setPc h rfl rfl rfl (fun k hk hc => ?_)
      unfold covers at hc; rw [hpc] at hc
      have := (List.all_eq_true.mp hall) k (nonEmpty_mem_allConts hk)
      exact absurd (by simpa using this) hc
    | batchMove => exact fresh hw (setPc_self _ w _)
    | _ => exact exec hw ((congrArg PC.isExec (setPc_self _ w _)).trans rfl)
  | work w hw hx hW => exact exec hw (by rw [hW.pc]; exact hx)
  | bucketNotifyOne _ _ _ _ _ _ _ _ _ hn | mutNotifyOne _ _ _ _ _ _ hn | makeRequest _ _ _ _ _ hn =>
    exact invC_notified h (notifyOne_pc hn) rfl rfl
  | bucketNotifyAll | wakeAll => exact invC_notified h (notifyAll_pc s) rfl rfl
  | execEnd w p hw => exact fresh hw (setPc_self _ w _)
  | park _ _ _ hpc | spurious _ _ hpc | wake _ _ _ hpc | surrender _ _ _ _ hpc | surrenderLast _ _ _ _ hpc =>
    exact idle hpc rfl nofun rfl rfl rfl
  | parkLast w tag s1 r pcs k hw hpc hlast hl hu =>
    have f := frame_onLastParked hl
    obtain ⟨hnr, hbuf⟩ := noRun_of_invC h (no_cover_when_last hA hw hpc hlast)
    rcases onLastParked_noRun (s := { s with parked := s.parked + 1, trace := [] }) (noRun_of_bkt hnr rfl) hl with n1 | ⟨hr, hcur⟩
    · exact invC_of_empty (noRun_of_bkt n1 rfl) (fun v hv => by show s1.buf v = []; rw [f.buf]; exact hbuf v hv)
    · rcases hu.cases with ⟨e, _⟩ | ⟨_, t, p, _, hp, rfl, _⟩
      · exact absurd e hr
      · rcases hp with ⟨⟨g, hg, hx⟩, _⟩ | ⟨_, rfl⟩
        · rw [hcur g hg] at hx; cases hx
        · exact fresh hw (setPc_self _ w _)
  | mutator hM =>
    cases hM with
    | flagSeen => exact h
    | mutPush b tag _ hg =>
      refine invC_setBkt (b := b) h (fun hr => ?_) rfl rfl rfl
      rcases hg with hm | hno
      · rw [hmut] at hm; cases hm
      · simp only [Bucket.runnable, Bool.and_eq_true] at hr; exact absurd ⟨hr.1.1, hr.1.2⟩ hno
    | initSetEnabled b v _ _ hg =>
      refine invC_setBkt (b := b) h (fun hr => ?_) rfl rfl rfl
      simp only [Bucket.runnable, Bool.and_eq_true] at hr ⊢
      rcases hg with hv | hno
      · rw [hv] at hr; exact absurd hr.1.1 nofun
      · exact absurd hr.1.2 hno
    | _ => exact invC_same h rfl rfl rfl
  | respawn =>
    intro k hk
    -- a non-empty container has an index below `c.n`, or is a bucket with a cover in `s`: a worker exists
    have ⟨x, hx⟩ : ∃ x, x < c.n := by
      cases k with
      | bucket b => obtain ⟨x, hx, _⟩ := h (.bucket b) hk; exact ⟨x, hx⟩
      | buf v => exact ⟨v, hk.1⟩
      | desig => exact hk.elim
    exact ⟨x, hx, covers_polling_nil k (if_pos hx)⟩

theorem init_invC (c : Cfg) : InvC c (init c) := by
  intro k hk
  cases k with
  | bucket b => have := hk.2; simp [init, initBucket, Bucket.runnable, Bucket.isEmpty] at this
  | buf v => exact absurd rfl hk.2
  | desig => exact hk.elim

/-- the invariants behind C14's safety part (the field is `c'` because `c` is the configuration) -/
structure Inv (c : Cfg) (s : State) : Prop where
  a : InvA c s
  b : InvB c s
  c' : InvC c s

theorem reachable_inv {c : Cfg} (hn : 0 < c.n) (hmut : c.mutAddOpen = false) {s : State} (h : Reachable c s) : Inv c s :=
  ⟨reachable_invA h, reachable_invB hn h,
   h.induct (init_invC c) (fun s s' a hr hi hs => step_invC c hmut s s' a (reachable_invA hr) hi hs)⟩

/-- at least one worker, and a well-formed stage table (the generated one is: `generated_wf`, `Props/C15Stages.lean`) -/
structure Cfg.WF (c : Cfg) : Prop where
  npos : 0 < c.n
  conc_not_stw : (c.info c.concIdx).isStw = false
  uncon_not_stw : (c.info c.unconIdx).isStw = false
  seq_def : ∀ b, (c.info b).isSeq = ((c.info b).isStw && !(c.info b).isFirstStw)
  first_is_stw : ∀ b, (c.info b).isFirstStw = true → (c.info b).isStw = true

theorem onGcFinished_closed (c : Cfg) (hwf : c.WF) (s s' : State) (h : onGcFinished c s = some s') :
    ∀ b, b < c.L → (c.info b).isStw = true → (s'.bkt b).isOpen = false ∧ (s'.bkt b).q = [] := by
  obtain ⟨_, hall, s1, hc, rfl⟩ := onGcFinished_cases h
  intro b hb hstw
  have hne : b ≠ c.concIdx := fun e => by rw [e, hwf.conc_not_stw] at hstw; cases hstw
  have hbk : (resume (schedConcurrent c s1)).bkt b = s1.bkt b := (schedConcurrent_bkt c s1 b).trans (if_neg hne)
  rw [hbk, closeLoop_bkt c _ _ _ hc b, if_pos ⟨List.mem_range.mpr hb, hstw⟩]
  refine ⟨rfl, ?_⟩
  have := (List.all_eq_true.mp hall) b (List.mem_range.mpr hb)
  rw [hstw] at this
  show (s.bkt b).q = []
  simpa [Bucket.isEmpty] using this

/-- `on_last_parked` either leaves the stop-the-world bracket alone, or the GC ends: all stop-the-world
buckets closed and empty, `stopped = false`, one more `resume_mutators`, one more GC done -/
theorem onLastParked_stopped (c : Cfg) (hwf : c.WF) (s s' : State) (tag : Nat) (r : LPR)
    (h : onLastParked c s tag = some (s', r)) :
    (s'.stopped = s.stopped ∧ s'.resumes = s.resumes ∧ s'.gcDone = s.gcDone ∧ s'.stops = s.stops) ∨
    (s'.stopped = false ∧ s'.resumes = s.resumes + 1 ∧ s'.gcDone = s.gcDone + 1 ∧ s'.stops = s.stops ∧
      s.current = some .gc ∧ ∀ b, b < c.L → (c.info b).isStw = true → (s'.bkt b).isOpen = false ∧ (s'.bkt b).q = []) := by
  rcases onLastParked_cases h with ⟨_, h⟩ | ⟨hcur, _⟩
  · left; rw [respond_same h]; exact ⟨rfl, rfl, rfl, rfl⟩
  · rcases (onLastParked_gc h hcur).2 with ⟨hd, _⟩ | ⟨_, s3, hg, he⟩
    · have sb := (onLastParked_gc_unfinished h hcur hd).2.1
      exact .inl ⟨sb.stopped, sb.counters.1, hd, sb.counters.2.1⟩
    · have e3 := onGcFinished_same hg
      refine .inr ⟨by rw [he.same, e3], by rw [he.same, e3], by rw [he.same, e3], by rw [he.same, e3], hcur, fun b hb hs => ?_⟩
      rcases he.bkt b with e | ⟨e, _⟩
      · rw [e]; exact onGcFinished_closed c hwf _ _ hg b hb hs
      · rw [e, hwf.uncon_not_stw] at hs; cases hs

/-- if `on_last_parked` completes a GC, every stop-the-world bucket is closed and empty afterwards; otherwise `gcDone` is
unchanged -/
theorem onLastParked_gc_end (c : Cfg) (hwf : c.WF) (s s' : State) (tag : Nat) (r : LPR)
    (h : onLastParked c s tag = some (s', r)) :
    s'.gcDone = s.gcDone ∨
    (s'.gcDone = s.gcDone + 1 ∧ s.current = some .gc ∧
      ∀ b, b < c.L → (c.info b).isStw = true → (s'.bkt b).isOpen = false ∧ (s'.bkt b).q = []) :=
  (onLastParked_stopped c hwf s s' tag r h).imp (·.2.2.1) (fun h => ⟨h.2.2.1, h.2.2.2.2.1, h.2.2.2.2.2⟩)

/-- the last conjunct of `OpenCond` for a well-formed table (a first stop-the-world bucket is never sequential):
when `on_last_parked` opens a sequential bucket, every enabled first stop-the-world bucket is open already -/
theorem onLastParked_opens_first (c : Cfg) (hwf : c.WF) (s s' : State) (tag : Nat) (r : LPR)
    (h : onLastParked c s tag = some (s', r)) (b : Nat) (hb : (c.info b).isSeq = true)
    (h1 : (s.bkt b).isOpen = false) (h2 : (s'.bkt b).isOpen = true)
    (f : Nat) (hf : f < c.L) (hfirst : (c.info f).isFirstStw = true) (hen : (s.bkt f).enabled = true) :
    (s.bkt f).isOpen = true :=
  -- a sequentially opened bucket is stop-the-world and not the first one (`seq_def`): it is not `Concurrent`, and no first
  -- stop-the-world bucket is sequential
  have hbc : b ≠ c.concIdx := fun e => by rw [e, hwf.seq_def, hwf.conc_not_stw] at hb; cases hb
  ((onLastParked_opens c s s' tag r h b hbc).2 h1 h2).2.2.2 f hf hfirst
    (by rw [hwf.seq_def, hfirst, Bool.not_true, Bool.and_false]) hen

theorem setBkt_flags {s : State} {b0 : Nat} {k : Bucket} (h1 : k.isOpen = (s.bkt b0).isOpen) (h2 : k.enabled = (s.bkt b0).enabled)
    (b : Nat) : ((setBkt s b0 k).bkt b).isOpen = (s.bkt b).isOpen ∧ ((setBkt s b0 k).bkt b).enabled = (s.bkt b).enabled := by
  show (if b = b0 then k else s.bkt b).isOpen = _ ∧ (if b = b0 then k else s.bkt b).enabled = _
  split
  · rename_i e; rw [h1, h2, e]; exact ⟨rfl, rfl⟩
  · exact ⟨rfl, rfl⟩

theorem Eff.bkts {c : Cfg} {s s' : State} {a : Act} (h : Eff c s a s') :
    (∃ w tag, a = .park w tag) ∨
    (s'.gcDone = s.gcDone ∧ s'.resumes = s.resumes ∧ ∀ b, BktOp c s b (s.bkt b) (s'.bkt b)) := by
  cases h with
  | park w tag | parkLast w tag => exact .inl ⟨w, tag, rfl⟩
  | poll _ _ _ _ h | work _ _ _ h | mutator h => exact .inr ⟨by rw [h.same], by rw [h.same], h.bktOp⟩
  | _ => exact .inr ⟨rfl, rfl, fun _ => .same _⟩

/-- a step other than `park` completes no GC, resumes nothing and opens no bucket except a first stop-the-world one
(`notify_mutators_paused`) -/
theorem step_other (c : Cfg) (s s' : State) (a : Act) (hs : step c s a = some s') :
    (∃ w tag, a = .park w tag) ∨
    (s'.gcDone = s.gcDone ∧ s'.resumes = s.resumes ∧
      ∀ b, (s'.bkt b).isOpen = true → (s.bkt b).isOpen = true ∨ (c.info b).isFirstStw = true) :=
  (step_eff hs).bkts.imp_right fun ⟨h1, h2, h3⟩ =>
    ⟨h1, h2, fun b hb => (h3 b).isOpen.imp (fun e => by rw [← e]; exact hb) (·.1)⟩

def bufOk (s : State) (x : Nat) : Prop :=
  match s.pc x with
  | .exec _ => True
  | .polling seen => Cont.buf x ∈ seen → s.buf x = []
  | _ => s.buf x = []

/-- a local deque is empty unless its owner runs a packet, or polls and has not yet seen it empty; so the deques of parking, parked,
exited and surrendered workers are empty (C16 `no_work_lost`) -/
def InvF (c : Cfg) (s : State) : Prop := ∀ x, x < c.n → bufOk s x

theorem bufOk_of_eq {s s' : State} {x : Nat} (h : bufOk s x) (hpc : s'.pc x = s.pc x) (hb : s'.buf x = s.buf x) : bufOk s' x := by
  unfold bufOk at *; rw [hpc, hb]; exact h

theorem bufOk_exec {s : State} {x : Nat} (h : (s.pc x).isExec = true) : bufOk s x := by
  unfold bufOk; cases hp : s.pc x <;> simp_all [PC.isExec]

theorem bufOk_polling_nil {s : State} {x : Nat} (h : s.pc x = .polling []) : bufOk s x := by
  unfold bufOk; rw [h]; intro hm; cases hm

theorem invF_same {c : Cfg} {s s' : State} (h : InvF c s) (hpc : s'.pc = s.pc) (hb : s'.buf = s.buf) : InvF c s' :=
  fun x hx => bufOk_of_eq (h x hx) (by rw [hpc]) (by rw [hb])

theorem invF_setPc {c : Cfg} {s s' : State} {w : Nat} {p : PC} (h : InvF c s) (hpc : s'.pc = (setPc s w p).pc)
    (hb : ∀ x, x ≠ w → s'.buf x = s.buf x) (hw : bufOk s' w) : InvF c s' := by
  intro x hx
  by_cases e : x = w
  · subst e; exact hw
  · exact bufOk_of_eq (h x hx) (by rw [hpc]; exact setPc_other _ _ e) (hb x e)

theorem bufOk_waiting_of {s : State} {x : Nat} (h : bufOk s x) (hp : ∀ q, s.pc x ≠ .exec q) (hq : ∀ seen, s.pc x ≠ .polling seen) :
    s.buf x = [] := by
  unfold bufOk at h
  cases hpc : s.pc x <;> rw [hpc] at h <;> first | exact h | exact absurd hpc (hp _) | exact absurd hpc (hq _)

theorem invF_notified {c : Cfg} {s t : State} (h : InvF c s) (hn : Notified s t.pc) (hf : t.buf = s.buf) : InvF c t := by
  intro x hx
  have hx0 := h x hx
  rcases hn x with e | ⟨e1, e2⟩
  · exact bufOk_of_eq hx0 e (by rw [hf])
  · unfold bufOk at hx0 ⊢
    rw [e1] at hx0; rw [e2, hf]; exact hx0

theorem bufOk_erase {s s' : State} {x : Nat} {p : Pkt} (h : bufOk s x) (hpc : s'.pc x = s.pc x)
    (hb : s'.buf x = (s.buf x).erase p) : bufOk s' x := by
  unfold bufOk at *
  rw [hpc, hb]
  cases hp : s.pc x <;> rw [hp] at h <;> simp only at h ⊢
  · intro hm; rw [h hm]; rfl
  all_goals (rw [h]; rfl)

theorem bufOk_nonrunning {s' : State} {x : Nat} (hb : s'.buf x = []) : bufOk s' x := by
  unfold bufOk
  cases hp : s'.pc x <;> simp only <;> first | trivial | exact hb | (intro _; exact hb)

theorem Work.buf_other {c : Cfg} {s t : State} {w x : Nat} {a : Act} (h : Work c s w a t) (hx : x ≠ w) :
    t.buf x = s.buf x := by
  cases h with
  | batchMove | pushLocal => exact if_neg hx
  | _ => rfl

/-- Only a worker that runs a packet, or is about to, gets anything into its deque; a poller records its
own deque as seen only when it is empty, and parks only after that; a thief leaves the victim's deque
a sub-list. -/
theorem step_invF (c : Cfg) (s s' : State) (a : Act) (h : InvF c s) (hs : step c s a = some s') : InvF c s' := by
  have empty : ∀ {w : Nat} {p : PC}, w < c.n → s.pc w = p → (∀ q, p ≠ .exec q) → (∀ l, p ≠ .polling l) → s.buf w = [] :=
    fun hw hpc h1 h2 => bufOk_waiting_of (h _ hw) (hpc ▸ h1) (hpc ▸ h2)
  have idle : ∀ {w : Nat} {p p' : PC}, w < c.n → s.pc w = p → (∀ q, p ≠ .exec q) → (∀ l, p ≠ .polling l) →
      s'.pc = (setPc s w p').pc → s'.buf = s.buf → InvF c s' :=
    fun hw hpc h1 h2 e hf => invF_setPc h e (fun _ _ => by rw [hf])
      (bufOk_nonrunning (by rw [hf]; exact empty hw hpc h1 h2))
  cases step_eff hs with
  | poll w seen hw hpc hP =>
    have hw0 := h w hw
    cases hP with
    | observe k hk =>
      refine invF_setPc h rfl (fun _ _ => rfl) ?_
      unfold bufOk at hw0 ⊢
      rw [hpc] at hw0; rw [setPc_self]
      intro hm
      rcases List.mem_cons.mp hm with e | e
      · subst e; exact List.isEmpty_iff.mp hk
      · exact hw0 e
    | pollBucket | popDesig =>
      exact invF_setPc (s := s) h rfl (fun _ _ => rfl) (bufOk_exec (congrArg PC.isExec (setPc_self _ w _)))
    | batchMove b p =>
      intro x hx
      by_cases e : x = w
      · subst e; exact bufOk_polling_nil (setPc_self _ x _)
      · exact bufOk_of_eq (h x hx) (setPc_other _ _ e) (if_neg e)
    | popLocal p =>
      exact invF_setPc (s := s) h rfl (fun _ hxw => if_neg hxw) (bufOk_exec (congrArg PC.isExec (setPc_self _ w _)))
    | steal v p =>
      intro x hx
      by_cases e : x = w
      · subst e; exact bufOk_exec (congrArg PC.isExec (setPc_self _ x _))
      · by_cases e2 : x = v
        · subst e2; exact bufOk_erase (p := p) (h x hx) (setPc_other _ _ e) (if_pos rfl)
        · exact bufOk_of_eq (h x hx) (setPc_other _ _ e) (if_neg e2)
    | pollMiss hall =>
      refine invF_setPc h rfl (fun _ _ => rfl) (bufOk_nonrunning ?_)
      unfold bufOk at hw0; rw [hpc] at hw0
      exact hw0 (by simpa using (List.all_eq_true.mp hall) (.buf w) (mem_allConts_buf hw))
  | work w hw hx hW =>
    intro x hx'
    by_cases e : x = w
    · subst e; exact bufOk_exec (by rw [hW.pc]; exact hx)
    · exact bufOk_of_eq (h x hx') (by rw [hW.pc]) (hW.buf_other e)
  | bucketNotifyOne _ _ _ _ _ _ _ _ _ hn | mutNotifyOne _ _ _ _ _ _ hn | makeRequest _ _ _ _ _ hn =>
    exact invF_notified h (notifyOne_pc hn) rfl
  | bucketNotifyAll | wakeAll => exact invF_notified h (notifyAll_pc s) rfl
  | execEnd w p hw => exact invF_setPc (s := s) h rfl (fun _ _ => rfl) (bufOk_polling_nil (setPc_self _ w _))
  | park _ _ hw hpc | spurious _ hw hpc | wake _ _ hw hpc | surrender _ _ _ hw hpc | surrenderLast _ _ _ hw hpc =>
    exact idle hw hpc nofun nofun rfl rfl
  | parkLast w tag s1 r pcs k hw hpc _ hl hu =>
    have f := frame_onLastParked hl
    have hbw : s1.buf w = [] := by rw [f.buf]; exact empty hw hpc nofun nofun
    have h1 : InvF c s1 := invF_same (s := s) h f.pc f.buf
    rcases hu.cases with ⟨_, rfl, _⟩ | ⟨_, t, p, ht, _, rfl, _⟩
    · exact invF_setPc h1 rfl (fun _ _ => rfl) (bufOk_nonrunning hbw)
    · exact invF_setPc (s := { s1 with pc := t }) (invF_notified h1 ht rfl) rfl (fun _ _ => rfl) (bufOk_nonrunning hbw)
  | mutator hM => exact invF_same h hM.pc (by rw [hM.same])
  | respawn => exact fun x hx => bufOk_polling_nil (if_pos hx)

theorem init_invF (c : Cfg) : InvF c (init c) := fun _ _ => bufOk_polling_nil rfl

theorem reachable_invF {c : Cfg} {s : State} (h : Reachable c s) : InvF c s :=
  h.induct (init_invF c) (fun s s' a _ hi hs => step_invF c s s' a hi hs)

structure InvE (c : Cfg) (s : State) : Prop where
  exited : ∀ x, x < c.n → s.pc x = .exited → ∃ g, s.current = some g ∧ g.isExit = true
  done : s.creation = .surrendered c.n → s.current = none

theorem Eff.goal_kept {c : Cfg} {s s' : State} {a : Act} (h : Eff c s a s') (ha : a.changesClass = false) :
    s'.current = s.current ∧ (s'.creation = s.creation ∨ s'.creation = .surrendered 0) := by
  cases h with
  | poll _ _ _ _ hP => rw [hP.same]; exact ⟨rfl, .inl rfl⟩
  | work _ _ _ hW => rw [hW.same]; exact ⟨rfl, .inl rfl⟩
  | mutator hM => exact ⟨by rw [hM.same], hM.creation.imp id (·.2)⟩
  | park | parkLast | wake | surrender | surrenderLast | respawn => cases ha
  | _ => exact ⟨rfl, .inl rfl⟩

/-- only `park`, `wake`, `surrender` and `respawn` change which workers are `exited` and which `surrendered` -/
theorem step_other_exsu (c : Cfg) (s s' : State) (a : Act) (hs : step c s a = some s') :
    (∃ w tag, a = .park w tag) ∨ (∃ w, a = .wake w) ∨ (∃ w, a = .surrender w) ∨ a = .respawn ∨
    ∀ x, (s'.pc x = .exited ↔ s.pc x = .exited) ∧ (s'.pc x = .surrendered ↔ s.pc x = .surrendered) :=
  by
  cases a with
  | park w tag => exact .inl ⟨w, tag, rfl⟩
  | wake w => exact .inr (.inl ⟨w, rfl⟩)
  | surrender w => exact .inr (.inr (.inl ⟨w, rfl⟩))
  | respawn => exact .inr (.inr (.inr (.inl rfl)))
  | _ => exact .inr (.inr (.inr (.inr fun x => ((step_eff hs).sameClass rfl x).2)))

/-- one lemma for `park`, the last parker's `park` and `wake`: `t` is `s` after the notifications, then `w` alone moves to `p`.
Nobody else becomes `exited`, and `w` was not surrendered, so the pool is not full. -/
theorem invE_setPc {c : Cfg} {s t s' : State} {w : Nat} {p : PC} (hA : InvA c s) (h : InvE c s) (hw : w < c.n)
    (ht : Notified s t.pc) (hpc : s'.pc = (setPc t w p).pc) (hns : s.pc w ≠ .surrendered) (hcr : s'.creation = s.creation)
    (hg : (∃ g, s.current = some g ∧ g.isExit = true) → ∃ g, s'.current = some g ∧ g.isExit = true)
    (hp : p = .exited → ∃ g, s'.current = some g ∧ g.isExit = true) : InvE c s' := by
  refine ⟨fun x hx hxe => ?_, fun e => absurd (all_surrendered_of_pool_full hA (hcr ▸ e) w hw) hns⟩
  rw [hpc] at hxe
  by_cases e : x = w
  · subst e; rw [setPc_self] at hxe; exact hp hxe
  · rw [setPc_other _ _ e] at hxe
    rcases ht x with e1 | ⟨_, e2⟩
    · exact hg (h.exited x hx (e1 ▸ hxe))
    · rw [e2] at hxe; cases hxe

/-- A worker becomes `exited` only by leaving the monitor while an exit goal is current
(`Unparks`), and `on_last_parked` does not run while one is (`onLastParked_current_exit`); the goal
is completed by the last `surrender`, when nobody is `exited` any more. -/
theorem step_invE (c : Cfg) (hn : 0 < c.n) (s s' : State) (a : Act) (hA : InvA c s) (h : InvE c s)
    (hs : step c s a = some s') : InvE c s' := by
  have hA' := step_invA c s s' a hA hs
  have he := step_eff hs
  cases hm : a.changesClass with
  | false =>
    obtain ⟨h1, h2⟩ := he.goal_kept hm
    refine ⟨fun x hx hxe => by rw [h1]; exact h.exited x hx ((he.sameClass hm x).2.1.1 hxe), fun e => ?_⟩
    rw [h1]
    rcases h2 with h2 | h2
    · exact h.done (h2 ▸ e)
    · rw [h2] at e; injection e with e; omega  -- `0 = c.n` against `hn`: an empty pool is not the full one
  | true =>
    -- a worker that leaves the monitor `exited` saw an exit goal
    have unparks : ∀ {s1 : State} {p : PC}, Unparks s1 p → p = .exited → ∃ g, s1.current = some g ∧ g.isExit = true :=
      fun hp e => hp.elim (·.1) fun hp => by rw [hp.2] at e; cases e
    cases he with
    | park w tag hw hpc =>
      exact invE_setPc (t := { s with parked := s.parked + 1, trace := [] }) hA h hw (.refl s) rfl (by rw [hpc]; nofun) rfl id nofun
    | parkLast w tag s1 r pcs k hw hpc _ hl hu =>
      have f := frame_onLastParked hl
      -- `on_last_parked` ran, so no exit goal was current and nobody was `exited`
      have hne := onLastParked_current_exit hl
      rcases hu.cases with ⟨_, rfl, _⟩ | ⟨_, t, p, ht, hp, rfl, _⟩
      · exact invE_setPc (t := s1) hA h hw ((Notified.refl s1).of_pc f.pc) rfl (by rw [hpc]; nofun) f.creation (absurd · hne) nofun
      · exact invE_setPc (t := { s1 with pc := t }) hA h hw (ht.of_pc f.pc) rfl (by rw [hpc]; nofun) f.creation (absurd · hne) (unparks hp)
    | wake w p hw hpc _ hp =>
      exact invE_setPc (t := { s with parked := s.parked - 1 }) hA h hw (.refl s) rfl (by rw [hpc]; nofun) rfl id (unparks hp)
    | surrender w k hcr hw hpc hk =>
      refine ⟨fun x hx hxe => ?_, fun e => ?_⟩
      · by_cases e : x = w
        · subst e; rw [setPc_self] at hxe; cases hxe
        · rw [setPc_other _ _ e] at hxe; exact h.exited x hx hxe
      · injection e with e; exact absurd e hk
    | surrenderLast w k hcr hw hpc hk =>
      refine ⟨fun x hx hxe => ?_, fun _ => rfl⟩
      -- all structs are in the pool now: nobody is `exited`
      have := all_surrendered_of_pool_full hA' (show Creation.surrendered (k + 1) = _ by rw [hk]) x hx
      rw [this] at hxe; cases hxe
    | respawn =>
      refine ⟨fun x hx hxe => ?_, nofun⟩
      have : (if x < c.n then PC.polling [] else s.pc x) = .exited := hxe
      rw [if_pos hx] at this; cases this
    | poll _ _ _ _ hP => rw [hP.keepsClass] at hm; cases hm
    | work _ _ _ hW => rw [hW.keepsClass] at hm; cases hm
    | mutator hM => rw [hM.keepsClass] at hm; cases hm
    | _ => cases hm

theorem init_invE (c : Cfg) : InvE c (init c) := ⟨fun x _ hx => by simp [init] at hx, fun e => by simp [init] at e⟩

theorem reachable_invE {c : Cfg} (hn : 0 < c.n) {s : State} (h : Reachable c s) : InvE c s :=
  h.induct (init_invE c) (fun s s' a hr hi hs => step_invE c hn s s' a (reachable_invA hr) hi hs)

/-- extra well-formedness used by C11 -/
structure Cfg.WF2 (c : Cfg) : Prop extends Cfg.WF c where
  first_exists : ∃ f, f < c.L ∧ (c.info f).isFirstStw = true
  first_enabled : ∀ b, (c.info b).isFirstStw = true → (c.info b).enabledByDefault = true
  stw_closed : ∀ b, (c.info b).isStw = true → (c.info b).openByDefault = false

structure SameS (s s' : State) : Prop where
  stopped : s'.stopped = s.stopped
  current : s'.current = s.current
  stops : s'.stops = s.stops
  resumes : s'.resumes = s.resumes
  gcDone : s'.gcDone = s.gcDone
  flags : ∀ b, (s'.bkt b).isOpen = (s.bkt b).isOpen ∧ (s'.bkt b).enabled = (s.bkt b).enabled

structure InvS (c : Cfg) (s : State) : Prop where
  firstEnabled : ∀ f, (c.info f).isFirstStw = true → (s.bkt f).enabled = true
  openStopped : ∀ b, b < c.L → (c.info b).isStw = true → (s.bkt b).isOpen = true → s.stopped = true
  stoppedGc : s.stopped = true → s.current = some .gc
  resumesEq : s.resumes = s.gcDone
  -- `≤`, not `=`: `stop_all_mutators` is an action a packet may or may not take, so in the model a GC can
  -- complete (and count as resumed) without the mutators ever having been stopped
  stopsLe : s.stops ≤ s.resumes + (if s.stopped then 1 else 0)

/-- the bracket survives an action that keeps its counters and changes the buckets by `BktOp`: `set_enabled` spares
the first stop-the-world bucket, and `notify_mutators_paused` opens it while the mutators are stopped -/
theorem invS_bktOp {c : Cfg} {s s' : State} (h : InvS c s)
    (e : s'.stopped = s.stopped ∧ s'.current = s.current ∧ s'.stops = s.stops ∧ s'.resumes = s.resumes ∧ s'.gcDone = s.gcDone)
    (hb : ∀ b, BktOp c s b (s.bkt b) (s'.bkt b)) : InvS c s' where
  firstEnabled f hf := by
    rcases (hb f).enabled with e1 | e1
    · rw [e1]; exact h.firstEnabled f hf
    · exact absurd hf e1
  openStopped b hbL hs ho := by
    rw [e.1]
    rcases (hb b).isOpen with e1 | ⟨_, hst⟩
    · exact h.openStopped b hbL hs (by rw [← e1]; exact ho)
    · exact hst
  stoppedGc hst := by rw [e.2.1]; exact h.stoppedGc (by rw [← e.1]; exact hst)
  resumesEq := by rw [e.2.2.2.1, e.2.2.2.2]; exact h.resumesEq
  stopsLe := by rw [e.2.2.1, e.2.2.2.1, e.1]; exact h.stopsLe

/-- The bracket is written by `stop_all_mutators` (a packet, during a GC, mutators running),
`notify_mutators_paused` (needs `stopped`), `set_enabled` (never the first stop-the-world bucket) and the
end of a GC inside `on_last_parked` (`onLastParked_stopped`); a stop-the-world bucket that
`on_last_parked` opens has an open first stop-the-world bucket before it (`onLastParked_opens`).  The
last `surrender` clears the goal, which is an exit goal, so the mutators are not stopped. -/
theorem step_invS (c : Cfg) (hwf : c.WF2) (s s' : State) (a : Act) (hE : InvE c s) (h : InvS c s)
    (hs : step c s a = some s') : InvS c s' := by
  cases step_eff hs with
  | poll w seen _ _ hP => exact invS_bktOp h (by rw [hP.same]; exact ⟨rfl, rfl, rfl, rfl, rfl⟩) hP.bktOp
  | work w hw hx hW =>
    have hb := hW.bktOp
    cases hW with
    | stopAll hcur hns =>
      have hns' : s.stopped = false := by simpa using hns
      refine ⟨h.firstEnabled, fun _ _ _ _ => rfl, fun _ => hcur, h.resumesEq, ?_⟩
      have := h.stopsLe
      rw [hns'] at this
      show s.stops + 1 ≤ s.resumes + 1
      simpa using this
    | _ => exact invS_bktOp h ⟨rfl, rfl, rfl, rfl, rfl⟩ hb
  | mutator hM => exact invS_bktOp h (by rw [hM.same]; exact ⟨rfl, rfl, rfl, rfl, rfl⟩) hM.bktOp
  | surrenderLast w k _ hw hpc =>
    have hns : s.stopped = false := by
      cases hst : s.stopped with
      | false => rfl
      | true =>
        obtain ⟨g, hg1, hg2⟩ := hE.exited w hw hpc
        rw [h.stoppedGc hst] at hg1; cases hg1; cases hg2
    exact ⟨h.firstEnabled, h.openStopped, fun hst => (by rw [show s.stopped = true from hst] at hns; cases hns),
      h.resumesEq, h.stopsLe⟩
  | parkLast w tag s1 r pcs k hw hpc _ hl =>
    have hfc : ∀ f, (c.info f).isFirstStw = true → f ≠ c.concIdx := fun f hf e => by
      have := hwf.first_is_stw f hf
      rw [e, hwf.conc_not_stw] at this; cases this
    have hfe : ∀ f, (c.info f).isFirstStw = true → (s1.bkt f).enabled = true := fun f hf => by
      rw [(onLastParked_opens c _ s1 tag r hl f (hfc f hf)).1]; exact h.firstEnabled f hf
    rcases onLastParked_stopped c hwf.toWF _ s1 tag r hl with ⟨a1, a2, a3, a4⟩ | ⟨a1, a2, a3, a4, a5, a6⟩
    · refine ⟨hfe, fun b hb hstw ho => ?_, fun hst => ?_, ?_, ?_⟩
      · show s1.stopped = true
        rw [a1]
        show s.stopped = true
        cases hob : (s.bkt b).isOpen with
        | true => exact h.openStopped b hb hstw hob
        | false =>
          have hbc : b ≠ c.concIdx := fun e => by rw [e, hwf.conc_not_stw] at hstw; cases hstw
          obtain ⟨_, _, _, o3⟩ := (onLastParked_opens c _ s1 tag r hl b hbc).2 hob ho
          obtain ⟨f, hfL, hff⟩ := hwf.first_exists
          exact h.openStopped f hfL (hwf.first_is_stw f hff)
            (o3 f hfL hff (by rw [hwf.seq_def, hff, Bool.not_true, Bool.and_false]) (h.firstEnabled f hff))
      · show s1.current = some .gc
        exact onLastParked_current c _ _ _ _ hl (h.stoppedGc (by rw [← a1]; exact hst)) a3
      · show s1.resumes = s1.gcDone; rw [a2, a3]; exact h.resumesEq
      · show s1.stops ≤ s1.resumes + (if s1.stopped then 1 else 0); rw [a4, a2, a1]; exact h.stopsLe
    · refine ⟨hfe, fun b hb hstw ho => ?_, fun hst => ?_, ?_, ?_⟩
      · have ho' : (s1.bkt b).isOpen = true := ho
        rw [(a6 b hb hstw).1] at ho'; cases ho'
      · have : s1.stopped = true := hst
        rw [a1] at this; cases this
      · show s1.resumes = s1.gcDone; rw [a2, a3, h.resumesEq]
      · show s1.stops ≤ s1.resumes + (if s1.stopped then 1 else 0)
        rw [a4, a2, a1]
        have := h.stopsLe
        have h0 : (if s.stopped = true then 1 else 0) ≤ 1 := by split <;> omega
        show s.stops ≤ s.resumes + 1 + 0
        omega
  | _ => exact invS_bktOp h ⟨rfl, rfl, rfl, rfl, rfl⟩ (fun _ => .same _)

theorem init_invS (c : Cfg) (hwf : c.WF2) : InvS c (init c) where
  firstEnabled f hf := by simp only [init, initBucket]; exact hwf.first_enabled f hf
  openStopped b _ hs ho := by simp only [init, initBucket] at ho; rw [hwf.stw_closed b hs] at ho; cases ho
  stoppedGc h := by simp [init] at h
  resumesEq := rfl
  stopsLe := by simp [init]

theorem reachable_invS {c : Cfg} (hwf : c.WF2) {s : State} (h : Reachable c s) : InvS c s :=
  h.induct (init_invS c hwf) (fun s s' a hr hi hs => step_invS c hwf s s' a (reachable_invE hwf.npos hr) hi hs)

def InvD (c : Cfg) (s : State) : Prop := ∀ x, x < c.n → s.desig x ≠ [] → s.current = some .gc

theorem onLastParked_desig (c : Cfg) (s s' : State) (tag : Nat) (r : LPR) (h : onLastParked c s tag = some (s', r))
    (hd : InvD c s) : InvD c s' := by
  intro x hx hne
  rw [(frame_onLastParked h).desig] at hne
  have hg := hd x hx hne
  rcases onLastParked_cases h with ⟨hn, _⟩ | ⟨_, _, _, hp⟩
  · rw [hn] at hg; cases hg
  · cases hp with
    | designated => exact hg
    | sentinels hnd | opened hnd | finished _ hnd => exact absurd (hasDesignated_false hnd x hx) hne

theorem step_invD (c : Cfg) (s s' : State) (a : Act) (hE : InvE c s) (h : InvD c s) (hs : step c s a = some s') : InvD c s' := by
  have keep : s'.desig = s.desig → s'.current = s.current → InvD c s' :=
    fun e1 e2 x hx hne => by rw [e2]; exact h x hx (by rw [← e1]; exact hne)
  cases step_eff hs with
  | poll w seen _ _ hP =>
    cases hP with
    | popDesig p =>
      intro y hy hne
      refine h y hy (fun e2 => hne ?_)
      show (if y = w then removeP (s.desig w) p else s.desig y) = []
      split
      · rename_i e; rw [← e, e2]; rfl
      · exact e2
    | _ => exact keep rfl rfl
  | work w _ _ hW =>
    cases hW with
    | pushDesig x tag _ hcur => exact fun _ _ _ => hcur
    | _ => exact keep rfl rfl
  | mutator hM => exact keep (by rw [hM.same]) (by rw [hM.same])
  | surrenderLast w k _ hw hpc =>
    -- an exit goal is current, so nothing is designated
    intro x hx hne
    obtain ⟨g, hg1, hg2⟩ := hE.exited w hw hpc
    rw [h x hx hne] at hg1; cases hg1; cases hg2
  | parkLast w tag s1 r _ _ _ _ _ hl => exact onLastParked_desig c _ s1 tag r hl h
  | _ => exact keep rfl rfl

theorem init_invD (c : Cfg) : InvD c (init c) := fun _ _ hne => absurd rfl hne

theorem reachable_invD {c : Cfg} (hn : 0 < c.n) {s : State} (h : Reachable c s) : InvD c s :=
  h.induct (init_invD c) (fun s s' a hr hi hs => step_invD c s s' a (reachable_invE hn hr) hi hs)

/-- a step that is not a `park` leaves every occupied sentinel slot as it is -/
theorem step_other_sentinel (c : Cfg) (s s' : State) (a : Act) (hs : step c s a = some s') :
    (∃ w tag, a = .park w tag) ∨ ∀ b, (s'.bkt b).sentinel = (s.bkt b).sentinel ∨ (s.bkt b).sentinel = none :=
  (step_eff hs).bkts.imp_right fun h b => (h.2.2 b).sentinel

end Mmtk.Sched
