/-!
# Exhaustive checks over a range of naturals, by divide and conquer

`decide` on `∀ n < N, p n` unfolds `Nat.decidableBallLT` linearly and overflows the kernel's
recursion depth beyond ~100 cases. `checkRange f lo hi` evaluates `f` on `lo, …, hi-1` splitting the
interval in halves (recursion depth `log₂ (hi-lo)`); `checkRange_sound` turns a `true` result —
obtained by kernel evaluation, `by decide +kernel` — into the universally quantified statement.
Core Lean only.
-/
namespace Mmtk.CheckRange

/-- `f n = true` for all `lo ≤ n < hi`, evaluated by bisection. `fuel` bounds the depth:
`⌈log₂ (hi - lo)⌉ + 1` levels suffice; with too little fuel the answer is `false` (sound, not complete). -/
def checkRangeFuel (f : Nat → Bool) : Nat → Nat → Nat → Bool
  | 0, lo, hi => decide (hi ≤ lo)
  | fuel + 1, lo, hi =>
    if hi ≤ lo then true
    else if hi = lo + 1 then f lo
    else
      let mid := (lo + hi) / 2
      checkRangeFuel f fuel lo mid && checkRangeFuel f fuel mid hi

theorem checkRangeFuel_sound (f : Nat → Bool) :
    ∀ fuel lo hi, checkRangeFuel f fuel lo hi = true → ∀ n, lo ≤ n → n < hi → f n = true := by
  intro fuel
  induction fuel with
  | zero =>
    intro lo hi h n h1 h2
    simp [checkRangeFuel] at h
    omega
  | succ fuel ih =>
    intro lo hi h n h1 h2
    unfold checkRangeFuel at h
    split at h
    · omega
    · split at h
      · have : n = lo := by omega
        subst this; exact h
      · simp only [Bool.and_eq_true] at h
        by_cases hn : n < (lo + hi) / 2
        · exact ih lo _ h.1 n h1 hn
        · exact ih _ hi h.2 n (by omega) h2

/-- 64 levels of bisection: enough for ranges of up to `2^63` numbers. -/
def checkRange (f : Nat → Bool) (lo hi : Nat) : Bool := checkRangeFuel f 64 lo hi

theorem checkRange_sound {f : Nat → Bool} {lo hi : Nat} (h : checkRange f lo hi = true) :
    ∀ n, lo ≤ n → n < hi → f n = true :=
  checkRangeFuel_sound f 64 lo hi h

theorem forall_of_checkRange {p : Nat → Prop} [DecidablePred p] {lo hi : Nat}
    (h : checkRange (fun n => decide (p n)) lo hi = true) : ∀ n, lo ≤ n → n < hi → p n := by
  intro n h1 h2
  have := checkRange_sound h n h1 h2
  exact of_decide_eq_true this

example : ∀ n, 0 ≤ n → n < 5000 → n * n < 25000000 :=
  forall_of_checkRange (by decide +kernel)

end Mmtk.CheckRange
