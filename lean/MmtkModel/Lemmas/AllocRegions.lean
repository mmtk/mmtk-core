import MmtkModel.Model.AllocModel
/-!
# What a bump allocation carves out of a buffer

The object and the new buffer lie inside the old buffer and do not meet (`bump_pieces`); `k < n` slots of size `c`
leave room for slot `k` (`mul_add_le_of_lt`).  Used by the abstract allocators (C02Algo) and by the arithmetic of the
real ones (C03Algo), which otherwise share no proof.
-/
namespace Mmtk.AllocModel

theorem bump_pieces {b b' : Bump} {res size : Nat} (h1 : b.cursor ≤ res) (h2 : b'.cursor = res + size)
    (h3 : b'.limit = b.limit) (h4 : b'.cursor ≤ b.limit) :
    (⟨res, size⟩ : Region).sub b.region ∧ b'.region.sub b.region ∧
      (⟨res, size⟩ : Region).disjoint b'.region := by
  simp only [Region.sub, Region.disjoint, Region.stop, Bump.region]
  omega

theorem mul_add_le_of_lt {k n : Nat} (h : k < n) (c : Nat) : k * c + c ≤ n * c :=
  Nat.succ_mul k c ▸ Nat.mul_le_mul_right c h

end Mmtk.AllocModel
