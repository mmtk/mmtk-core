import MmtkModel.Lemmas.SideSearch
/-!
# C22: the find-searches at position level and at region level

Both searches, in both directions, are "the first element of a list, taken in visiting order, at which the
walk stops". Three layers:
* `firstHit` on global bit positions (stops at an unmapped byte or a set bit): what the fast searches compute
  over `up x y` / `down x y`; `Shows` relates a loaded byte or word to the positions it covers.
* `regionHit` on regions (stops at an unmapped data region or a non-zero field), characterised for any visiting
  order and then for `up`/`down`. `MapConsistent` is the scope of the property: under it the first stop over the
  bits of the fields of a list of regions, mapped back to a data address, is the first stop over the regions
  (`fast_region` for a list of regions in any order that goes in the direction `MapConsistent` is assumed for;
  `fwd_fast_region`/`bwd_fast_region` are its instances for `up` and `down`).
* The naive loops compute `regionHit` (`findNextSimpleLoop_eq`, `findPrevSimpleLoop_eq`); their `mapped_grain`
  cache is sound because mapped-ness is constant on mmap granules (`alignUp_block`, `alignDown_block`).
-/
namespace Mmtk.SideMeta
open Mmtk.Mem
open Mmtk.HeaderMeta (ByteMem)

/-- What the searches assume of the mmapper: the granularity is a positive multiple of 8 and
mapped-ness is constant on granules (this is what makes the `mapped_grain` caches of the loops sound). -/
structure MapEnv.ok (env : MapEnv) : Prop where
  gran8 : 8 ∣ env.gran
  gpos : 0 < env.gran
  const : ∀ x y, x / env.gran = y / env.gran → env.mapped x = env.mapped y

/-- `FindRes` with the hit as a global bit position `8 * addr + bit`: a result that does not depend on whether
a byte loop or a word loop found it. `toFind` goes back; `orElse` is "continue with the next range unless stopped". -/
inductive PosRes where
  | found (p : Nat)
  | notFound
  | unmapped
deriving DecidableEq, Repr

def PosRes.toFind : PosRes → FindRes
  | .found p => .found (p / 8) (p % 8)
  | .notFound => .notFound
  | .unmapped => .unmapped

def PosRes.orElse : PosRes → PosRes → PosRes
  | .notFound, r => r
  | r, _ => r

theorem PosRes.found_orElse (p : Nat) (r : PosRes) : (PosRes.found p).orElse r = .found p := rfl
theorem PosRes.notFound_orElse (r : PosRes) : PosRes.notFound.orElse r = r := rfl

/-- the data address reported for a found bit (`align_metadata_address`, then
`contiguous_meta_address_to_address`). -/
def resData (s : Spec) : PosRes → Option Nat
  | .found p => some (metaToData s (alignMeta s (p / 8) (p % 8)).1 (alignMeta s (p / 8) (p % 8)).2)
  | _ => none

def probe (env : MapEnv) (m : Mem) (p : Nat) : PosRes :=
  if !env.mapped (p / 8) then .unmapped else if bitAt m p then .found p else .notFound

def firstHit (env : MapEnv) (m : Mem) : List Nat → PosRes
  | [] => .notFound
  | p :: ps => (probe env m p).orElse (firstHit env m ps)

theorem probe_clear {env : MapEnv} {m : Mem} {p : Nat} (h1 : env.mapped (p / 8) = true) (h2 : bitAt m p = false) :
    probe env m p = .notFound := by
  unfold probe; rw [h1, h2]; rfl

theorem probe_found {env : MapEnv} {m : Mem} {p : Nat} (h1 : env.mapped (p / 8) = true) (h2 : bitAt m p = true) :
    probe env m p = .found p := by
  unfold probe; rw [h1, h2]; rfl

theorem probe_unmapped {env : MapEnv} {m : Mem} {p : Nat} (h1 : env.mapped (p / 8) = false) :
    probe env m p = .unmapped := by
  unfold probe; rw [h1]; rfl

theorem firstHit_append (env : MapEnv) (m : Mem) (l1 l2 : List Nat) :
    firstHit env m (l1 ++ l2) = (firstHit env m l1).orElse (firstHit env m l2) := by
  induction l1 with
  | nil => rfl
  | cons p ps ih =>
    rw [List.cons_append, firstHit, firstHit, ih]
    cases probe env m p <;> rfl

theorem firstHit_clear (env : MapEnv) (m : Mem) (l : List Nat)
    (h : ∀ p ∈ l, env.mapped (p / 8) = true ∧ bitAt m p = false) : firstHit env m l = .notFound := by
  induction l with
  | nil => rfl
  | cons p ps ih =>
    rw [firstHit, probe_clear (h p (List.mem_cons_self ..)).1 (h p (List.mem_cons_self ..)).2,
      ih (fun q hq => h q (List.mem_cons_of_mem _ hq))]
    rfl

theorem firstHit_at (env : MapEnv) (m : Mem) {R : Nat → Nat → Prop} {l : List Nat} (hl : l.Pairwise R) {q : Nat}
    (hq : q ∈ l) (hstop : probe env m q ≠ .notFound)
    (hclear : ∀ p ∈ l, R p q → env.mapped (p / 8) = true ∧ bitAt m p = false) :
    firstHit env m l = probe env m q := by
  induction l with
  | nil => cases hq
  | cons a l ih =>
    obtain ⟨ha, hl'⟩ := List.pairwise_cons.1 hl
    rw [firstHit]
    rcases List.mem_cons.1 hq with e | e
    · subst e
      revert hstop
      cases probe env m q <;> intro hstop
      · rfl
      · exact absurd rfl hstop
      · rfl
    · obtain ⟨c1, c2⟩ := hclear a (List.mem_cons_self ..) (ha q e)
      rw [probe_clear c1 c2, ih hl' e (fun p hp => hclear p (List.mem_cons_of_mem _ hp))]
      rfl

theorem firstHit_never (env : MapEnv) (s : Spec) (m : Mem) (l : List Nat)
    (h : ∀ p ∈ l, env.mapped (p / 8) = true → bitAt m p = false) : resData s (firstHit env m l) = none := by
  induction l with
  | nil => rfl
  | cons p ps ih =>
    rw [firstHit]
    by_cases h1 : env.mapped (p / 8) = true
    · rw [probe_clear h1 (h p (List.mem_cons_self ..) h1)]
      exact ih (fun q hq => h q (List.mem_cons_of_mem _ hq))
    · rw [probe_unmapped (by simpa using h1)]; rfl

theorem firstHit_mapped (env : MapEnv) (m : Mem) (l : List Nat) (h : ∀ p ∈ l, env.mapped (p / 8) = true) :
    (firstHit env m l = .notFound ∧ ∀ p ∈ l, bitAt m p = false) ∨
    (∃ q ∈ l, firstHit env m l = .found q ∧ bitAt m q = true) := by
  induction l with
  | nil => exact Or.inl ⟨rfl, fun p hp => by cases hp⟩
  | cons p ps ih =>
    have h1 := h p (List.mem_cons_self ..)
    rw [firstHit]
    by_cases h2 : bitAt m p = true
    · exact Or.inr ⟨p, List.mem_cons_self .., by rw [probe_found h1 h2]; rfl, h2⟩
    · have h2' : bitAt m p = false := by simpa using h2
      rw [probe_clear h1 h2']
      rcases ih (fun q hq => h q (List.mem_cons_of_mem _ hq)) with ⟨a, b⟩ | ⟨q, a, b, c⟩
      · refine Or.inl ⟨a, fun q hq => ?_⟩
        rcases List.mem_cons.1 hq with e | e
        · rw [e]; exact h2'
        · exact b q e
      · exact Or.inr ⟨q, List.mem_cons_of_mem _ a, b, c⟩

/-- the positions of `l` are `base+st … base+en-1`, they lie in mapped bytes, and they show the bits
`st … en-1` of the value `v` (a byte or a word loaded from memory). -/
structure Shows (env : MapEnv) (m : Mem) (l : List Nat) (v base st en : Nat) : Prop where
  mem : ∀ p, p ∈ l ↔ base + st ≤ p ∧ p < base + en
  map : ∀ i, st ≤ i → i < en → env.mapped ((base + i) / 8) = true
  bit : ∀ i, st ≤ i → i < en → bitAt m (base + i) = v.testBit i

theorem Shows.none {env : MapEnv} {m : Mem} {l : List Nat} {v base st en : Nat} (sh : Shows env m l v base st en)
    (h : ∀ i, st ≤ i → i < en → v.testBit i = false) : firstHit env m l = .notFound := by
  apply firstHit_clear
  intro p hp
  obtain ⟨p1, p2⟩ := (sh.mem p).1 hp
  have e : base + (p - base) = p := by omega
  have i1 : st ≤ p - base := by omega
  have i2 : p - base < en := by omega
  exact ⟨e ▸ sh.map _ i1 i2, e ▸ (sh.bit _ i1 i2).trans (h _ i1 i2)⟩

theorem Shows.some {env : MapEnv} {m : Mem} {l : List Nat} {v base st en : Nat} (sh : Shows env m l v base st en)
    {R : Nat → Nat → Prop} (hl : l.Pairwise R) {b : Nat} (b1 : st ≤ b) (b2 : b < en) (hb : v.testBit b = true)
    (h : ∀ i, st ≤ i → i < en → R (base + i) (base + b) → v.testBit i = false) :
    firstHit env m l = .found (base + b) := by
  have hp := probe_found (sh.map b b1 b2) ((sh.bit b b1 b2).trans hb)
  rw [← hp]
  refine firstHit_at env m hl ((sh.mem _).2 ⟨by omega, by omega⟩) (by rw [hp]; intro c; cases c) (fun p hp' hR => ?_)
  obtain ⟨p1, p2⟩ := (sh.mem p).1 hp'
  have e : base + (p - base) = p := by omega
  have i1 : st ≤ p - base := by omega
  have i2 : p - base < en := by omega
  exact ⟨e ▸ sh.map _ i1 i2, e ▸ (sh.bit _ i1 i2).trans (h _ i1 i2 (e.symm ▸ hR))⟩

theorem findVisit_flatMap (env : MapEnv) (s : Spec) (m : Mem) (one : BBR → FindRes) (cells : BBR → List Nat)
    (L : List BBR) (hone : ∀ r ∈ L, one r = (firstHit env m (cells r)).toFind) :
    findVisit s one L = resData s (firstHit env m (L.flatMap cells)) := by
  induction L with
  | nil => rfl
  | cons r rs ih =>
    rw [findVisit, hone r (List.mem_cons_self ..), List.flatMap_cons, firstHit_append]
    cases firstHit env m (cells r) with
    | found p => rfl
    | unmapped => rfl
    | notFound => exact ih (fun r' hr' => hone r' (List.mem_cons_of_mem _ hr'))

theorem alignDown_mul (r k : Nat) : alignDown (r * k) k = r * k := by
  unfold alignDown; rw [Nat.mul_mod_left]; rfl

/-- A position `p` inside the `W`-bit field of region `r` (table at byte `st`, `K` fields per byte):
its byte and the field's first bit in it. `widebyte_pos` is the same for a field of `B` whole bytes. -/
theorem subbyte_pos (st r p W K : Nat) (hWK : W * K = 8) (h1 : 8 * st + r * W ≤ p) (h2 : p < 8 * st + r * W + W) :
    p / 8 - st = r / K ∧ alignDown (p % 8) W = W * (r % K) := by
  obtain ⟨e1, e2⟩ := field_in_byte hWK r
  have hW : 0 < W := Nat.pos_of_ne_zero (by rintro rfl; omega)
  generalize r / K = q at *
  generalize r % K = j at *
  generalize hx : W * j = x at *
  obtain ⟨e3, e4, e5⟩ : p % 8 = x + (p - (8 * st + 8 * q + x)) ∧ p / 8 - st = q ∧ p - (8 * st + 8 * q + x) < W := by
    omega
  refine ⟨e4, ?_⟩
  unfold alignDown
  rw [e3, ← hx, Nat.mul_add_mod, Nat.mod_eq_of_lt (hx ▸ e5), Nat.add_sub_cancel]

theorem widebyte_pos (st r p B : Nat) (hB : 0 < B) (hal : st % B = 0)
    (h1 : 8 * st + r * (8 * B) ≤ p) (h2 : p < 8 * st + r * (8 * B) + 8 * B) : alignDown (p / 8) B - st = r * B := by
  obtain ⟨t, ht⟩ := Nat.dvd_of_mod_eq_zero hal
  have hmul : r * (8 * B) = 8 * (r * B) := by rw [Nat.mul_left_comm]
  rw [hmul] at h1 h2
  have hq : p / 8 = B * (t + r) + (p / 8 - st - r * B) := by rw [Nat.mul_add, ← ht, Nat.mul_comm B r]; omega
  unfold alignDown
  rw [hq, Nat.mul_add_mod, Nat.mod_eq_of_lt (by omega), Nat.add_sub_cancel, Nat.mul_add, ← ht, Nat.mul_comm B r]
  omega

/-- **`align_metadata_address` + `contiguous_meta_address_to_address`**: a bit inside the field of
region `r` is reported as the start of region `r`. Needs what the real layout guarantees: the table
start is aligned to the field size (byte-or-wider fields) and a sub-byte field is not wider in bits than
its region in bytes (the code computes `log_bytes_in_region - log_num_of_bits` on `usize`). -/
theorem resData_found (s : Spec) (hal : s.start % 2 ^ (s.logBits - 3) = 0)
    (hlr : s.logBits < 3 → s.logBits ≤ s.logRegion) (r p : Nat) (hp : InFieldOf s r p)
    (h64 : r * 2 ^ s.logRegion < 2 ^ 64) :
    resData s (.found p) = some (r * 2 ^ s.logRegion) := by
  have hR := Nat.two_pow_pos s.logRegion
  have hrR : r ≤ r * 2 ^ s.logRegion := Nat.le_mul_of_pos_right _ hR
  obtain ⟨hp1, hp2⟩ := hp
  unfold fieldBase at hp1 hp2
  unfold resData alignMeta
  rw [Option.some.injEq]
  by_cases h3 : s.logBits < 3
  · have hRW : 2 ^ s.logBits * 2 ^ (s.logRegion - s.logBits) = 2 ^ s.logRegion := by
      rw [← Nat.pow_add, Nat.add_sub_cancel' (hlr h3)]
    obtain ⟨e1, e2⟩ := subbyte_pos s.start r p _ _ (pow_field (Nat.le_of_lt h3)) hp1 hp2
    -- byte `r / K` of the table and bit `W * (r % K)` in it come back as `(r / K * K + r % K) * R`
    have key : (p / 8 - s.start) * 2 ^ (3 - s.logBits) * 2 ^ s.logRegion +
        alignDown (p % 8) (2 ^ s.logBits) * 2 ^ (s.logRegion - s.logBits) = r * 2 ^ s.logRegion := by
      rw [e1, e2, Nat.mul_right_comm (2 ^ s.logBits), hRW, Nat.mul_comm _ (r % _), ← Nat.add_mul, Nat.mul_comm (r / _),
        Nat.div_add_mod]
    rw [if_neg (Nat.not_le_of_lt h3), metaToData_sub s (Nat.le_of_lt h3) _ _ (key ▸ h64), key]
  · have hge : s.logBits ≥ 3 := Nat.le_of_not_lt h3
    rw [pow_wide hge] at hp1 hp2
    have hB := Nat.two_pow_pos (s.logBits - 3)
    have e1 := widebyte_pos s.start r p _ hB hal hp1 hp2
    unfold metaToData
    simp only [if_pos hge, Nat.shiftLeft_eq, Nat.zero_mul, Nat.zero_mod, Nat.add_zero]
    rw [e1]
    by_cases hle3 : s.logBits ≤ 3
    · rw [if_pos hle3, show 3 - s.logBits = 0 by omega, show s.logBits - 3 = 0 by omega, Nat.pow_zero, Nat.mul_one, Nat.mul_one,
        Nat.mod_eq_of_lt (by omega : r < 2 ^ 64), Nat.mod_eq_of_lt h64]
    · rw [if_neg hle3, Nat.shiftRight_eq_div_pow, Nat.mul_div_cancel _ hB, Nat.mod_eq_of_lt h64]

def regionHit (env : MapEnv) (s : Spec) (m : Mem) : List Nat → Option Nat
  | [] => none
  | r :: rs =>
    if !env.mapped (r * 2 ^ s.logRegion) then none
    else if absArr m s r ≠ 0 then some (r * 2 ^ s.logRegion) else regionHit env s m rs

theorem regionHit_unmapped {env : MapEnv} {s : Spec} {m : Mem} {r : Nat} (rs : List Nat)
    (h : env.mapped (r * 2 ^ s.logRegion) = false) : regionHit env s m (r :: rs) = none := by
  rw [regionHit, h]; rfl

theorem regionHit_found {env : MapEnv} {s : Spec} {m : Mem} {r : Nat} (rs : List Nat)
    (h : env.mapped (r * 2 ^ s.logRegion) = true) (h0 : absArr m s r ≠ 0) :
    regionHit env s m (r :: rs) = some (r * 2 ^ s.logRegion) := by
  rw [regionHit, h, if_pos h0]; rfl

theorem regionHit_skip {env : MapEnv} {s : Spec} {m : Mem} {r : Nat} (rs : List Nat)
    (h : env.mapped (r * 2 ^ s.logRegion) = true) (h0 : absArr m s r = 0) :
    regionHit env s m (r :: rs) = regionHit env s m rs := by
  rw [regionHit, h, if_neg (not_not_intro h0)]; rfl

theorem regionHit_some_iff (env : MapEnv) (s : Spec) (m : Mem) {R : Nat → Nat → Prop}
    (hasym : ∀ a b, R a b → ¬ R b a) {l : List Nat} (hl : l.Pairwise R) (x : Nat) :
    regionHit env s m l = some x ↔
    ∃ r' ∈ l, x = r' * 2 ^ s.logRegion ∧ absArr m s r' ≠ 0 ∧ (∀ q ∈ l, R q r' → absArr m s q = 0) ∧
      (∀ q ∈ l, R q r' ∨ q = r' → env.mapped (q * 2 ^ s.logRegion) = true) := by
  induction l with
  | nil => exact ⟨fun h => (by cases h), fun ⟨_, h, _⟩ => (by cases h)⟩
  | cons a l ih =>
    obtain ⟨ha, hl'⟩ := List.pairwise_cons.1 hl
    -- nothing of `a :: l` is `R`-before `a`
    have hfirst : ∀ q ∈ a :: l, ¬ R q a := by
      intro q hq hqa
      rcases List.mem_cons.1 hq with e | e
      · subst e; exact hasym _ _ hqa hqa
      · exact hasym _ _ hqa (ha q e)
    by_cases hd : env.mapped (a * 2 ^ s.logRegion) = true
    · by_cases h0 : absArr m s a = 0
      · rw [regionHit_skip l hd h0, ih hl']
        constructor
        · rintro ⟨r', a1, a2, a3, a4, a5⟩
          refine ⟨r', List.mem_cons_of_mem _ a1, a2, a3, fun q hq hR => ?_, fun q hq hR => ?_⟩
          · rcases List.mem_cons.1 hq with e | e
            · rw [e]; exact h0
            · exact a4 q e hR
          · rcases List.mem_cons.1 hq with e | e
            · rw [e]; exact hd
            · exact a5 q e hR
        · rintro ⟨r', a1, a2, a3, a4, a5⟩
          rcases List.mem_cons.1 a1 with e | e
          · rw [e] at a3; exact absurd h0 a3
          · exact ⟨r', e, a2, a3, fun q hq => a4 q (List.mem_cons_of_mem _ hq), fun q hq => a5 q (List.mem_cons_of_mem _ hq)⟩
      · rw [regionHit_found l hd h0]
        constructor
        · intro h
          refine ⟨a, List.mem_cons_self .., (Option.some.inj h).symm, h0, fun q hq hR => absurd hR (hfirst q hq),
            fun q hq hR => ?_⟩
          rcases hR with hR | e
          · exact absurd hR (hfirst q hq)
          · rw [e]; exact hd
        · rintro ⟨r', a1, a2, a3, a4, a5⟩
          rcases List.mem_cons.1 a1 with e | e
          · rw [a2, e]
          · exact absurd (a4 a (List.mem_cons_self ..) (ha r' e)) h0
    · have hd' : env.mapped (a * 2 ^ s.logRegion) = false := by simpa using hd
      rw [regionHit_unmapped l hd']
      refine ⟨fun h => (by cases h), ?_⟩
      rintro ⟨r', a1, a2, a3, a4, a5⟩
      have : env.mapped (a * 2 ^ s.logRegion) = true := by
        rcases List.mem_cons.1 a1 with e | e
        · exact a5 a (List.mem_cons_self ..) (Or.inr e.symm)
        · exact a5 a (List.mem_cons_self ..) (Or.inl (ha r' e))
      rw [hd'] at this; cases this

theorem regionHit_up_iff (env : MapEnv) (s : Spec) (m : Mem) (r0 r1 x : Nat) :
    regionHit env s m (up r0 r1) = some x ↔
    ∃ r', r0 ≤ r' ∧ r' < r1 ∧ x = r' * 2 ^ s.logRegion ∧ absArr m s r' ≠ 0 ∧
      (∀ q, r0 ≤ q → q < r' → absArr m s q = 0) ∧ (∀ q, r0 ≤ q → q ≤ r' → env.mapped (q * 2 ^ s.logRegion) = true) := by
  rw [regionHit_some_iff env s m (fun _ _ => Nat.lt_asymm) (pairwise_up r0 r1)]
  constructor
  · rintro ⟨r', a1, a2, a3, a4, a5⟩
    obtain ⟨b1, b2⟩ := mem_up.1 a1
    exact ⟨r', b1, b2, a2, a3, fun q q1 q2 => a4 q (mem_up.2 ⟨q1, by omega⟩) q2,
      fun q q1 q2 => a5 q (mem_up.2 ⟨q1, by omega⟩) (by omega)⟩
  · rintro ⟨r', b1, b2, a2, a3, a4, a5⟩
    exact ⟨r', mem_up.2 ⟨b1, b2⟩, a2, a3, fun q hq hR => a4 q (mem_up.1 hq).1 hR,
      fun q hq hR => a5 q (mem_up.1 hq).1 (by omega)⟩

theorem regionHit_down_iff (env : MapEnv) (s : Spec) (m : Mem) (r0 r1 x : Nat) :
    regionHit env s m (down r0 r1) = some x ↔
    ∃ r', r0 ≤ r' ∧ r' < r1 ∧ x = r' * 2 ^ s.logRegion ∧ absArr m s r' ≠ 0 ∧
      (∀ q, r' < q → q < r1 → absArr m s q = 0) ∧ (∀ q, r' ≤ q → q < r1 → env.mapped (q * 2 ^ s.logRegion) = true) := by
  rw [regionHit_some_iff env s m (fun _ _ h => Nat.lt_asymm h) (pairwise_down r0 r1)]
  constructor
  · rintro ⟨r', a1, a2, a3, a4, a5⟩
    obtain ⟨b1, b2⟩ := mem_down.1 a1
    exact ⟨r', b1, b2, a2, a3, fun q q1 q2 => a4 q (mem_down.2 ⟨by omega, q2⟩) q1,
      fun q q1 q2 => a5 q (mem_down.2 ⟨by omega, q2⟩) (by omega)⟩
  · rintro ⟨r', b1, b2, a2, a3, a4, a5⟩
    exact ⟨r', mem_down.2 ⟨b1, b2⟩, a2, a3, fun q hq hR => a4 q hR (mem_down.1 hq).2,
      fun q hq hR => a5 q (by omega) (mem_down.1 hq).2⟩

/-- **The scope of the property** on the regions `[lo, hi)`, searched forwards (`fwd`) or backwards:
(1) a mapped data region has mapped metadata; (2) at and behind (in search direction) an unmapped data
region every readable metadata bit is zero. (The intent: metadata is mapped together with its data chunk
and only used chunks carry non-zero metadata; that mmtk-core maintains this is assumed, not proved here.)
Why "at and behind": the naive search gives up at the first unmapped data region, the fast one reads on through the
metadata (one metadata page serves many data chunks), so a set bit behind that region would make them differ. -/
def MapConsistent (env : MapEnv) (s : Spec) (m : Mem) (lo hi : Nat) (fwd : Bool) : Prop :=
  (∀ r, lo ≤ r → r < hi → env.mapped (r * 2 ^ s.logRegion) = true →
    ∀ p, InFieldOf s r p → env.mapped (p / 8) = true) ∧
  (∀ r r', lo ≤ r → r < hi → lo ≤ r' → r' < hi → (if fwd then r ≤ r' else r' ≤ r) →
    env.mapped (r * 2 ^ s.logRegion) = false →
    ∀ p, InFieldOf s r' p → env.mapped (p / 8) = true → bitAt m p = false)

theorem MapConsistent.mono {env : MapEnv} {s : Spec} {m : Mem} {lo hi lo' hi' : Nat} {fwd : Bool}
    (h : MapConsistent env s m lo hi fwd) (h1 : lo ≤ lo') (h2 : hi' ≤ hi) : MapConsistent env s m lo' hi' fwd :=
  ⟨fun r a b => h.1 r (by omega) (by omega), fun r r' a b c d => h.2 r r' (by omega) (by omega) (by omega) (by omega)⟩

/-- `L` lists regions of `[r0, r1)` in any order `R` that goes in the direction of `fwd`; `cells r` is any enumeration
(`hcells`) of the bit positions of the field of `r`: `up` or `down` of its bits at the two uses; `hal`, `hlr`: the layout
conditions of `resData_found`. -/
theorem fast_region (env : MapEnv) (s : Spec) (hal : s.start % 2 ^ (s.logBits - 3) = 0)
    (hlr : s.logBits < 3 → s.logBits ≤ s.logRegion) (m : Mem) (hm : ByteMem m) {R : Nat → Nat → Prop} {fwd : Bool}
    {r0 r1 : Nat} (hR : ∀ r r', r = r' ∨ R r r' → if fwd then r ≤ r' else r' ≤ r)
    (h64 : r1 * 2 ^ s.logRegion ≤ 2 ^ 64) (hmc : MapConsistent env s m r0 r1 fwd)
    (cells : Nat → List Nat) (hcells : ∀ r p, p ∈ cells r ↔ InFieldOf s r p)
    (L : List Nat) (hL : L.Pairwise R) (hin : ∀ r ∈ L, r0 ≤ r ∧ r < r1) :
    resData s (firstHit env m (L.flatMap cells)) = regionHit env s m L := by
  induction L with
  | nil => rfl
  | cons r rs ih =>
    obtain ⟨hr, hrs⟩ := List.pairwise_cons.1 hL
    obtain ⟨b1, b2⟩ := hin r (List.mem_cons_self ..)
    by_cases hd : env.mapped (r * 2 ^ s.logRegion) = true
    · rw [List.flatMap_cons, firstHit_append]
      have hz := absArr_eq_zero_iff m hm s r
      rcases firstHit_mapped env m (cells r) (fun p hp => hmc.1 r b1 b2 hd p ((hcells r p).1 hp)) with ⟨a, b⟩ | ⟨q, a, b, c⟩
      · have h0 : absArr m s r = 0 := hz.2 (fun i hi => b _ ((hcells r _).2 ⟨Nat.le_add_right .., by omega⟩))
        rw [a, regionHit_skip rs hd h0]
        exact ih hrs (fun r' hr' => hin r' (List.mem_cons_of_mem _ hr'))
      · have hq := (hcells r q).1 a
        have h0 : absArr m s r ≠ 0 := by
          intro h0
          have := hz.1 h0 (q - fieldBase s r) (by have := hq.1; have := hq.2; omega)
          rw [Nat.add_sub_cancel' hq.1, c] at this; cases this
        rw [b, regionHit_found rs hd h0]
        exact resData_found s hal hlr r q hq (Nat.lt_of_lt_of_le (Nat.mul_lt_mul_of_pos_right b2 (Nat.two_pow_pos _)) h64)
    · have hd' : env.mapped (r * 2 ^ s.logRegion) = false := by simpa using hd
      rw [regionHit_unmapped rs hd']
      refine firstHit_never env s m _ (fun p hp hpm => ?_)
      obtain ⟨r', c1, c2⟩ := List.mem_flatMap.1 hp
      refine hmc.2 r r' b1 b2 (hin r' c1).1 (hin r' c1).2 (hR r r' ?_) hd' p ((hcells r' p).1 c2) hpm
      rcases List.mem_cons.1 c1 with e | e
      · exact Or.inl e.symm
      · exact Or.inr (hr r' e)

theorem mem_up_fieldBase (s : Spec) (r p : Nat) : p ∈ up (fieldBase s r) (fieldBase s (r + 1)) ↔ InFieldOf s r p := by
  rw [mem_up, fieldBase_succ]; rfl

/-- `MapConsistent` speaks of the regions `lo ≤ r < hi` and the bits of their fields only, so on concrete data this
Boolean check can be evaluated; it is sufficient (`mapConsistent_of_check`), the converse is not proved. -/
def mapConsistentB (env : MapEnv) (s : Spec) (m : Mem) (lo hi : Nat) (fwd : Bool) : Bool :=
  (up lo hi).all fun r =>
    if env.mapped (r * 2 ^ s.logRegion) then (up (fieldBase s r) (fieldBase s (r + 1))).all fun p => env.mapped (p / 8)
    else (up lo hi).all fun r' => !(if fwd then decide (r ≤ r') else decide (r' ≤ r)) ||
      (up (fieldBase s r') (fieldBase s (r' + 1))).all fun p => !(env.mapped (p / 8) && bitAt m p)

theorem mapConsistent_of_check {env : MapEnv} {s : Spec} {m : Mem} {lo hi : Nat} {fwd : Bool}
    (h : mapConsistentB env s m lo hi fwd = true) : MapConsistent env s m lo hi fwd := by
  have hr := fun r h1 h2 => List.all_eq_true.1 h r (mem_up.2 ⟨h1, h2⟩)
  constructor
  · intro r h1 h2 hmp p hp
    have := hr r h1 h2
    rw [hmp, if_pos rfl] at this
    exact List.all_eq_true.1 this p ((mem_up_fieldBase s r p).2 hp)
  · intro r r' h1 h2 h3 h4 hord hun p hp hpm
    have := hr r h1 h2
    rw [hun, if_neg Bool.false_ne_true] at this
    have := List.all_eq_true.1 this r' (mem_up.2 ⟨h3, h4⟩)
    have hd : (if fwd then decide (r ≤ r') else decide (r' ≤ r)) = true := by cases fwd <;> exact decide_eq_true hord
    rw [hd, Bool.not_true, Bool.false_or] at this
    have := List.all_eq_true.1 this p ((mem_up_fieldBase s r' p).2 hp)
    rw [hpm, Bool.true_and] at this
    simpa using this

theorem fwd_fast_region (env : MapEnv) (s : Spec) (hal : s.start % 2 ^ (s.logBits - 3) = 0)
    (hlr : s.logBits < 3 → s.logBits ≤ s.logRegion) (m : Mem) (hm : ByteMem m) (r0 r1 : Nat) (h : r0 ≤ r1)
    (h64 : r1 * 2 ^ s.logRegion ≤ 2 ^ 64) (hmc : MapConsistent env s m r0 r1 true) :
    resData s (firstHit env m (up (fieldBase s r0) (fieldBase s r1))) = regionHit env s m (up r0 r1) := by
  rw [← up_flatMap (fieldBase s) (fun _ _ => fieldBase_mono s) h]
  exact fast_region env s hal hlr m hm (fun r r' h => by show r ≤ r'; omega) h64 hmc _ (mem_up_fieldBase s) _
    (pairwise_up ..) (fun r => mem_up.1)

theorem bwd_fast_region (env : MapEnv) (s : Spec) (hal : s.start % 2 ^ (s.logBits - 3) = 0)
    (hlr : s.logBits < 3 → s.logBits ≤ s.logRegion) (m : Mem) (hm : ByteMem m) (r0 r1 : Nat) (h : r0 ≤ r1)
    (h64 : r1 * 2 ^ s.logRegion ≤ 2 ^ 64) (hmc : MapConsistent env s m r0 r1 false) :
    resData s (firstHit env m (down (fieldBase s r0) (fieldBase s r1))) = regionHit env s m (down r0 r1) := by
  rw [← down_flatMap (fieldBase s) (fun _ _ => fieldBase_mono s) h]
  exact fast_region env s hal hlr m hm (fun r r' h => by show r' ≤ r; omega) h64 hmc _
    (fun r p => by rw [mem_down]; exact mem_up.symm.trans (mem_up_fieldBase s r p)) _ (pairwise_down ..) (fun r => mem_down.1)

/-! The `mapped_grain` cache of the naive loops: `MMAPPER` is asked only when the cursor leaves the granule
last seen mapped. -/

theorem alignDown_eq_div (c g : Nat) : alignDown c g = c / g * g :=
  (Bits.sub_mod_eq_mul_div c g).trans (Nat.mul_comm ..)

theorem region_block (env : MapEnv) (henv : env.ok) (lr : Nat) (hgran : 2 ^ lr ∣ env.gran) (a : Nat) :
    env.mapped (a / 2 ^ lr * 2 ^ lr) = env.mapped a := by
  apply henv.const
  obtain ⟨k, hk⟩ := hgran
  rw [hk, ← Nat.div_div_eq_div_mul, ← Nat.div_div_eq_div_mul, Nat.mul_div_cancel _ (Nat.two_pow_pos lr)]

theorem alignUp_block (env : MapEnv) (henv : env.ok) (c x : Nat) (h1 : c ≤ x) (h2 : x ≤ alignUp c env.gran - 1) :
    env.mapped x = env.mapped c := by
  by_cases hxc : x = c
  · rw [hxc]
  apply henv.const
  have hg := henv.gpos
  generalize env.gran = g at *
  unfold alignUp at h2
  rw [alignDown_eq_div] at h2
  have a1 : c / g ≤ x / g := Nat.div_le_div_right h1
  have a2 : x / g < (c + g - 1) / g := (Nat.div_lt_iff_lt_mul hg).2 (by omega)
  have a3 : (c + g - 1) / g < c / g + 2 := by
    apply (Nat.div_lt_iff_lt_mul hg).2
    have := Nat.lt_div_mul_add hg (a := c)
    rw [Nat.add_mul]
    omega
  omega

theorem alignDown_block (env : MapEnv) (henv : env.ok) (c x : Nat) (h1 : alignDown c env.gran ≤ x) (h2 : x ≤ c) :
    env.mapped x = env.mapped c := by
  apply henv.const
  have hg := henv.gpos
  generalize env.gran = g at *
  rw [alignDown_eq_div] at h1
  have a1 : x / g ≤ c / g := Nat.div_le_div_right h2
  have a2 : c / g ≤ x / g := (Nat.le_div_iff_mul_le hg).2 h1
  omega

/-- The `let chk := …` of `findNextSimpleLoop`, spelt out, under the invariant that every address from the cursor up
to the cached `grain` is mapped. `chkBwd` is the same for `findPrevSimpleLoop` (cache below the cursor). -/
theorem chkFwd (env : MapEnv) (henv : env.ok) (cursor grain : Nat)
    (hc : ∀ x, cursor ≤ x → x ≤ grain → env.mapped x = true) :
    ((if cursor > grain then (if env.mapped cursor then some (alignUp cursor env.gran - 1) else none) else some grain) = none ∧
      env.mapped cursor = false) ∨
    (∃ g', (if cursor > grain then (if env.mapped cursor then some (alignUp cursor env.gran - 1) else none) else some grain) = some g' ∧
      env.mapped cursor = true ∧ ∀ x, cursor ≤ x → x ≤ g' → env.mapped x = true) := by
  by_cases hg : cursor > grain
  · by_cases hmp : env.mapped cursor = true
    · refine Or.inr ⟨alignUp cursor env.gran - 1, by simp only [hg, hmp, if_true], hmp, fun x a b => ?_⟩
      rw [alignUp_block env henv _ x a b, hmp]
    · have hmp' : env.mapped cursor = false := by simpa using hmp
      exact Or.inl ⟨by simp [hg, hmp'], hmp'⟩
  · exact Or.inr ⟨grain, by simp only [hg, if_false], hc _ (Nat.le_refl _) (by omega), hc⟩

theorem chkBwd (env : MapEnv) (henv : env.ok) (cur grain : Nat)
    (hc : ∀ x, grain ≤ x → x ≤ cur → env.mapped x = true) :
    ((if cur < grain then (if env.mapped cur then some (alignDown cur env.gran) else none) else some grain) = none ∧
      env.mapped cur = false) ∨
    (∃ g', (if cur < grain then (if env.mapped cur then some (alignDown cur env.gran) else none) else some grain) = some g' ∧
      env.mapped cur = true ∧ ∀ x, g' ≤ x → x ≤ cur → env.mapped x = true) := by
  by_cases hg : cur < grain
  · by_cases hmp : env.mapped cur = true
    · refine Or.inr ⟨alignDown cur env.gran, by simp only [hg, hmp, if_true], hmp, fun x a b => ?_⟩
      rw [alignDown_block env henv _ x a b, hmp]
    · have hmp' : env.mapped cur = false := by simpa using hmp
      exact Or.inl ⟨by simp [hg, hmp'], hmp'⟩
  · exact Or.inr ⟨grain, by simp only [hg, if_false], hc _ (by omega) (Nat.le_refl _), hc⟩

/-- `E` is the loop's end address and `r1` the first region whose start is not below it (`hcut`); the loop
started at region `r` with any sound cache visits `up r r1`. In `findPrevSimpleLoop_eq`, `t` is the lowest region
whose start is still `≥ E` and the loop started at region `c` visits `down t (c + 1)`. -/
theorem findNextSimpleLoop_eq (env : MapEnv) (henv : env.ok) (s : Spec) (hs : s.ok) (m : Mem) (E r1 : Nat)
    (h64 : r1 * 2 ^ s.logRegion ≤ 2 ^ 64) (hcut : ∀ q, q < r1 ↔ q * 2 ^ s.logRegion < E) :
    ∀ fuel r grain, r ≤ r1 → r1 - r ≤ fuel →
    (∀ x, r * 2 ^ s.logRegion ≤ x → x ≤ grain → env.mapped x = true) →
    findNextSimpleLoop env s m E fuel (r * 2 ^ s.logRegion) grain = regionHit env s m (up r r1) := by
  have hR := Nat.two_pow_pos s.logRegion
  intro fuel
  induction fuel with
  | zero => intro r grain h1 h2 _; rw [show r = r1 by omega, up_self]; rfl
  | succ f ih =>
    intro r grain h1 h2 hcache
    by_cases hr : r < r1
    · have hnext : r * 2 ^ s.logRegion + 2 ^ s.logRegion = (r + 1) * 2 ^ s.logRegion := (Nat.succ_mul ..).symm
      have hr64 : r * 2 ^ s.logRegion < 2 ^ 64 := Nat.lt_of_lt_of_le (Nat.mul_lt_mul_of_pos_right hr hR) h64
      rw [up_cons hr, findNextSimpleLoop, if_neg (not_not_intro ((hcut r).1 hr)), load_region s hs m r hr64, hnext]
      rcases chkFwd env henv _ grain hcache with ⟨e, hmp⟩ | ⟨g', e, hmp, hv⟩
      · rw [e, regionHit_unmapped _ hmp]
      · rw [e]
        by_cases h0 : absArr m s r = 0
        · rw [regionHit_skip _ hmp h0]
          simp only [h0, ne_eq, not_true_eq_false, if_false]
          exact ih (r + 1) g' hr (by omega) (fun x a b => hv x (by omega) b)
        · rw [regionHit_found _ hmp h0]
          simp only [h0, ne_eq, not_false_eq_true, if_true]
    · rw [show r = r1 by omega, up_self, findNextSimpleLoop, if_pos (fun h => Nat.lt_irrefl _ ((hcut r1).2 h))]; rfl

theorem findPrevSimpleLoop_eq (env : MapEnv) (henv : env.ok) (s : Spec) (hs : s.ok) (m : Mem) (E t : Nat) (ht : 1 ≤ t)
    (hcut : ∀ q, q * 2 ^ s.logRegion ≥ E ↔ t ≤ q) :
    ∀ fuel c grain, t ≤ c + 1 → c + 1 - t ≤ fuel → c * 2 ^ s.logRegion < 2 ^ 64 →
    (∀ x, grain ≤ x → x ≤ c * 2 ^ s.logRegion → env.mapped x = true) →
    findPrevSimpleLoop env s m E fuel (c * 2 ^ s.logRegion) grain = regionHit env s m (down t (c + 1)) := by
  intro fuel
  induction fuel with
  | zero => intro c grain h1 h2 _ _; rw [show t = c + 1 by omega, down, up_self]; rfl
  | succ f ih =>
    intro c grain h1 h2 h64 hcache
    by_cases hc : t ≤ c
    · obtain ⟨c', rfl⟩ : ∃ c', c = c' + 1 := ⟨c - 1, by omega⟩
      have hle : c' * 2 ^ s.logRegion ≤ (c' + 1) * 2 ^ s.logRegion := Nat.mul_le_mul_right _ (Nat.le_succ c')
      rw [down_cons (Nat.lt_add_one_of_le hc), Nat.add_sub_cancel, findPrevSimpleLoop, if_neg (not_not_intro ((hcut _).2 hc)),
        load_region s hs m _ h64]
      rcases chkBwd env henv _ grain hcache with ⟨e, hmp⟩ | ⟨g', e, hmp, hv⟩
      · rw [e, regionHit_unmapped _ hmp]
      · rw [e]
        by_cases h0 : absArr m s (c' + 1) = 0
        · rw [regionHit_skip _ hmp h0]
          simp only [h0, ne_eq, not_true_eq_false, if_false, Nat.not_lt.2 (Nat.le_mul_of_pos_left _ (Nat.succ_pos c'))]
          rw [Nat.add_one_mul, Nat.add_sub_cancel]
          exact ih c' g' (by omega) (by omega) (Nat.lt_of_le_of_lt hle h64) (fun x a b => hv x a (Nat.le_trans b hle))
        · rw [regionHit_found _ hmp h0]
          simp only [h0, ne_eq, not_false_eq_true, if_true]
    · rw [show t = c + 1 by omega, down, up_self, findPrevSimpleLoop, if_pos (fun h => hc ((hcut c).1 h))]; rfl

end Mmtk.SideMeta
