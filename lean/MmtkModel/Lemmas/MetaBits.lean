import MmtkModel.Model.HeaderMeta
import MmtkModel.Lemmas.Bits
/-!
# Bit-splice and little-endian word lemmas shared by the metadata properties (C20–C23)

First the vocabulary of the accessor specifications: which bits of a byte are the field (`InField`,
`OutsideSame`), what an accessor on a sub-byte field must guarantee (`BitsPost`) and what one on a
byte-or-wider field must (`WordPost`). Then the lemmas: sub-byte fields spliced into one byte
(`setBits`/`getBits` at `(shift, numBits)`), little-endian words (`readLE`/`writeLE`: all general facts about them
are here; C22 has the 8-byte instances `testBit_readLE8`, `readLE8_lt`), mask splices.
A sub-byte side-metadata field is a header field at `(lshift, 2^logBits)`, so C20 reasons through
the same lemmas.
-/
namespace Mmtk.HeaderMeta
open Mmtk.Mem

def InField (s : Spec) (i : Nat) : Prop := s.shift ≤ i ∧ i < s.shift + s.numBits
instance (s : Spec) (i : Nat) : Decidable (InField s i) := by unfold InField; exact inferInstance

def OutsideSame (s : Spec) (a b : Nat) : Prop := ∀ i, ¬ InField s i → a.testBit i = b.testBit i

/-- `m'` differs from `m` only inside the field of `s` (at header `h`), the field now holds
`newField`, and `ret` is the field's previous value. -/
structure BitsPost (s : Spec) (m : Mem) (h : Nat) (m' : Mem) (ret newField : Nat) : Prop where
  other_bytes : ∀ x, x ≠ s.addr h → m' x = m x
  other_bits : OutsideSame s (m' (s.addr h)) (m (s.addr h))
  ret_old : ret = getBits s (m (s.addr h))
  field_new : getBits s (m' (s.addr h)) = newField
  -- `Mem` is `Nat → Nat`: that the cell is still a byte is what the next accessor's hypothesis asks for
  byte_ok : m' (s.addr h) < 256

def ByteMem (m : Mem) : Prop := ∀ x, m x < 256

/-- `m'` differs from `m` only inside the `w` bytes of the field, whose word value is now `newWord`. -/
structure WordPost (s : Spec) (w : Nat) (m : Mem) (h : Nat) (m' : Mem) (newWord : Nat) : Prop where
  other_bytes : ∀ x, x < s.addr h ∨ s.addr h + w ≤ x → m' x = m x
  word_new : readLE m' (s.addr h) w = newWord
  bytes_ok : ByteMem m'

theorem testBit_high {n x : Nat} (hx : x < 2 ^ n) {i : Nat} (hi : n ≤ i) : x.testBit i = false :=
  Nat.testBit_lt_two_pow (Nat.lt_of_lt_of_le hx (Nat.pow_le_pow_right (by omega) hi))

/-- Bits of the `n`-bit complement `2 ^ n - 1 - k` (`!k` on `u8`…`u64`). -/
theorem testBit_compl (n k : Nat) (hk : k < 2 ^ n) (i : Nat) :
    (2 ^ n - 1 - k).testBit i = (decide (i < n) && !k.testBit i) := by
  have e : 2 ^ n - 1 - k = 2 ^ n - (k + 1) := by omega
  rw [e, Nat.testBit_two_pow_sub_succ hk]

theorem shift_lt (s : Spec) : s.shift < 8 := by
  unfold Spec.shift
  have h1 : 0 ≤ s.bitOffset % 8 := Int.emod_nonneg _ (by omega)
  have h2 : s.bitOffset % 8 < 8 := Int.emod_lt_of_pos _ (by omega)
  omega

theorem mask8_eq (s : Spec) (h : s.bitsOk) : mask8 s = (2 ^ s.numBits - 1) * 2 ^ s.shift := by
  obtain ⟨_, _, h3⟩ := h
  unfold mask8
  rw [Nat.shiftLeft_eq]
  apply Nat.mod_eq_of_lt
  have : (2 ^ s.numBits - 1) * 2 ^ s.shift < 2 ^ s.numBits * 2 ^ s.shift := by
    apply Nat.mul_lt_mul_of_pos_right
    · have := Nat.two_pow_pos s.numBits; omega
    · exact Nat.two_pow_pos _
  rw [← Nat.pow_add] at this
  calc _ < 2 ^ (s.numBits + s.shift) := this
    _ ≤ 2 ^ 8 := Nat.pow_le_pow_right (by omega) (by omega)

theorem testBit_mask8 (s : Spec) (h : s.bitsOk) (i : Nat) :
    (mask8 s).testBit i = decide (InField s i) := by
  rw [mask8_eq s h, Nat.testBit_mul_two_pow, Nat.testBit_two_pow_sub_one]
  unfold InField
  by_cases h1 : s.shift ≤ i <;> simp [h1] <;> omega

theorem testBit_notmask8 (s : Spec) (h : s.bitsOk) (i : Nat) :
    (255 - mask8 s).testBit i = (decide (i < 8) && !decide (InField s i)) := by
  rw [show (255 : Nat) = 2 ^ 8 - 1 from rfl, testBit_compl 8 (mask8 s) (Nat.mod_lt _ (by decide)), testBit_mask8 s h]

theorem testBit_shifted (s : Spec) (h : s.bitsOk) (v : Nat) (hv : v < 2 ^ s.numBits) (i : Nat) :
    ((v <<< s.shift) % 256).testBit i = (decide (InField s i) && v.testBit (i - s.shift)) := by
  obtain ⟨_, _, h3⟩ := h
  have e : (256 : Nat) = 2 ^ 8 := by decide
  rw [e, Nat.testBit_mod_two_pow, Nat.testBit_shiftLeft]
  unfold InField
  by_cases h1 : s.shift ≤ i
  · by_cases h2 : i < s.shift + s.numBits
    · have : i < 8 := by omega
      simp [h1, h2, this]
    · simp [testBit_high hv (by omega : s.numBits ≤ i - s.shift)]
  · simp [h1]

theorem testBit_clear (s : Spec) (h : s.bitsOk) (raw : Nat) (hr : raw < 256) (i : Nat) :
    (raw &&& (255 - mask8 s)).testBit i = (raw.testBit i && !decide (InField s i)) := by
  rw [Nat.testBit_and, testBit_notmask8 s h]
  by_cases h8 : i < 8
  · simp [h8]
  · simp [testBit_high (n := 8) hr (Nat.le_of_not_lt h8)]

theorem testBit_setBits (s : Spec) (h : s.bitsOk) (raw v : Nat) (hr : raw < 256) (hv : v < 2 ^ s.numBits)
    (i : Nat) :
    (setBits s raw v).testBit i = if InField s i then v.testBit (i - s.shift) else raw.testBit i := by
  unfold setBits
  rw [Nat.testBit_or, testBit_clear s h raw hr, testBit_shifted s h v hv]
  by_cases hf : InField s i <;> simp [hf]

theorem getBits_eq (s : Spec) (h : s.bitsOk) (raw : Nat) :
    getBits s raw = (raw >>> s.shift) % 2 ^ s.numBits := by
  unfold getBits
  rw [mask8_eq s h, ← Nat.shiftLeft_eq, Mmtk.Bits.and_mask_shift, Nat.shiftRight_eq_div_pow]

theorem testBit_getBits (s : Spec) (h : s.bitsOk) (raw i : Nat) :
    (getBits s raw).testBit i = (decide (i < s.numBits) && raw.testBit (s.shift + i)) := by
  rw [getBits_eq s h, Nat.testBit_mod_two_pow, Nat.testBit_shiftRight]

theorem testBit_getBits_inField (s : Spec) (h : s.bitsOk) (raw : Nat) {i : Nat} (hf : InField s i) :
    (getBits s raw).testBit (i - s.shift) = raw.testBit i := by
  obtain ⟨h1, h2⟩ := hf
  rw [testBit_getBits s h, Nat.add_sub_cancel' h1, decide_eq_true (by omega : i - s.shift < s.numBits), Bool.true_and]

theorem getBits_lt (s : Spec) (h : s.bitsOk) (raw : Nat) : getBits s raw < 2 ^ s.numBits := by
  rw [getBits_eq s h]; exact Nat.mod_lt _ (Nat.two_pow_pos _)

theorem getBits_setBits (s : Spec) (h : s.bitsOk) (raw v : Nat) (hr : raw < 256) (hv : v < 2 ^ s.numBits) :
    getBits s (setBits s raw v) = v := by
  rw [getBits_eq s h]
  apply Nat.eq_of_testBit_eq
  intro i
  rw [Nat.testBit_mod_two_pow, Nat.testBit_shiftRight, testBit_setBits s h raw v hr hv]
  by_cases h2 : i < s.numBits
  · have : InField s (s.shift + i) := ⟨by omega, by omega⟩
    simp [h2, this]
  · simp [h2, testBit_high hv (by omega : s.numBits ≤ i)]

theorem setBits_outside (s : Spec) (h : s.bitsOk) (raw v : Nat) (hr : raw < 256) (hv : v < 2 ^ s.numBits) :
    OutsideSame s (setBits s raw v) raw := by
  intro i hi
  rw [testBit_setBits s h raw v hr hv]; simp [hi]

theorem setBits_lt (s : Spec) (raw v : Nat) (hr : raw < 256) : setBits s raw v < 256 :=
  Nat.or_lt_two_pow (n := 8) (Nat.lt_of_le_of_lt Nat.and_le_left hr) (Nat.mod_lt _ (by decide))

theorem truncBits_lt (s : Spec) (v : Nat) : truncBits s v < 2 ^ s.numBits := by
  unfold truncBits
  rw [Nat.and_two_pow_sub_one_eq_mod]
  exact Nat.mod_lt _ (Nat.two_pow_pos _)

theorem setBits_getBits_self (s : Spec) (h : s.bitsOk) (raw : Nat) (hr : raw < 256) :
    setBits s raw (getBits s raw) = raw := by
  apply Nat.eq_of_testBit_eq
  intro i
  rw [testBit_setBits s h raw _ hr (getBits_lt s h raw)]
  by_cases hf : InField s i
  · rw [if_pos hf, testBit_getBits_inField s h raw hf]
  · simp [hf]

theorem setBits_setBits (s : Spec) (h : s.bitsOk) (raw a b : Nat) (hr : raw < 256)
    (ha : a < 2 ^ s.numBits) (hb : b < 2 ^ s.numBits) :
    setBits s (setBits s raw a) b = setBits s raw b := by
  apply Nat.eq_of_testBit_eq
  intro i
  rw [testBit_setBits s h _ b (setBits_lt s raw a hr) hb, testBit_setBits s h raw b hr hb,
    testBit_setBits s h raw a hr ha]
  by_cases hf : InField s i <;> simp [hf]

theorem setBits_eq_self_iff (s : Spec) (h : s.bitsOk) (raw v : Nat) (hr : raw < 256) (hv : v < 2 ^ s.numBits) :
    raw = setBits s raw v ↔ getBits s raw = v := by
  constructor
  · intro e
    have := getBits_setBits s h raw v hr hv
    rw [← e] at this; exact this
  · intro e
    rw [← e, setBits_getBits_self s h raw hr]

theorem set_post (s : Spec) (hs : s.bitsOk) (m : Mem) (h v : Nat) (hb : m (s.addr h) < 256)
    (hv : v < 2 ^ s.numBits) :
    BitsPost s m h (Mmtk.Mem.set m (s.addr h) (setBits s (m (s.addr h)) v)) (getBits s (m (s.addr h))) v := by
  refine ⟨?_, ?_, rfl, ?_, ?_⟩
  · intro x hx; simp [Mmtk.Mem.set, hx]
  · simp only [Mmtk.Mem.set, if_true]; exact setBits_outside s hs _ v hb hv
  · simp only [Mmtk.Mem.set, if_true]; exact getBits_setBits s hs _ v hb hv
  · simp only [Mmtk.Mem.set, if_true]; exact setBits_lt s _ v hb

theorem noop_post (s : Spec) (m : Mem) (h : Nat) (hb : m (s.addr h) < 256) :
    BitsPost s m h m (getBits s (m (s.addr h))) (getBits s (m (s.addr h))) :=
  ⟨fun _ _ => rfl, fun _ _ => rfl, rfl, rfl, hb⟩

theorem mod256_mod (s : Spec) (hs : s.bitsOk) (x : Nat) : x % 256 % 2 ^ s.numBits = x % 2 ^ s.numBits :=
  Nat.mod_mod_of_dvd x (Nat.pow_dvd_pow 2 (Nat.le_of_lt hs.2.1) : 2 ^ s.numBits ∣ 2 ^ 8)

theorem trunc_mod (s : Spec) (hs : s.bitsOk) (x : Nat) : truncBits s (x % 256) = x % 2 ^ s.numBits := by
  unfold truncBits
  rw [Nat.and_two_pow_sub_one_eq_mod]
  exact mod256_mod s hs x

theorem writeLE_other (m : Mem) (a w v x : Nat) (hx : x < a ∨ a + w ≤ x) : writeLE m a w v x = m x := by
  induction w generalizing m a v with
  | zero => rfl
  | succ w ih =>
    simp only [writeLE]
    rw [ih _ _ _ (by omega)]
    have : x ≠ a := by omega
    simp [Mmtk.Mem.set, this]

theorem readLE_writeLE (m : Mem) (a w v : Nat) : readLE (writeLE m a w v) a w = v % 256 ^ w := by
  induction w generalizing m a v with
  | zero => simp [readLE, Nat.mod_one]
  | succ w ih =>
    simp only [writeLE, readLE]
    rw [writeLE_other _ _ _ _ _ (Or.inl (Nat.lt_succ_self a)), ih]
    simp only [Mmtk.Mem.set, if_true]
    rw [Nat.pow_succ, Nat.mul_comm (256 ^ w) 256, Nat.mod_mul]

theorem readLE_congr (m m' : Mem) (a w : Nat) (h : ∀ x, a ≤ x → x < a + w → m' x = m x) :
    readLE m' a w = readLE m a w := by
  induction w generalizing a with
  | zero => rfl
  | succ w ih =>
    simp only [readLE]
    rw [h a (by omega) (by omega), ih (a + 1) (fun x h1 h2 => h x (by omega) (by omega))]

theorem readLE_lt (m : Mem) (hm : ByteMem m) (a w : Nat) : readLE m a w < 256 ^ w := by
  induction w generalizing a with
  | zero => simp [readLE]
  | succ w ih =>
    simp only [readLE, Nat.pow_succ]
    have := hm a
    have := ih (a + 1)
    omega

theorem testBit_readLE (m : Mem) (hm : ByteMem m) (a w i : Nat) :
    (readLE m a w).testBit i = (decide (i < 8 * w) && (m (a + i / 8)).testBit (i % 8)) := by
  induction w generalizing a i with
  | zero => simp [readLE]
  | succ w ih =>
    simp only [readLE]
    have e : m a + 256 * readLE m (a + 1) w = 2 ^ 8 * readLE m (a + 1) w + m a := by omega
    rw [e, Nat.testBit_two_pow_mul_add _ (hm a)]
    by_cases hi : i < 8
    · obtain ⟨h1, h2, h3⟩ : i / 8 = 0 ∧ i % 8 = i ∧ i < 8 * (w + 1) := by omega
      simp [hi, h1, h2, h3]
    · obtain ⟨h1, h2, h3, h4⟩ : (i - 8) / 8 = i / 8 - 1 ∧ (i - 8) % 8 = i % 8 ∧ a + 1 + (i / 8 - 1) = a + i / 8 ∧
        (i - 8 < 8 * w ↔ i < 8 * (w + 1)) := by omega
      rw [if_neg hi, ih, h1, h2, h3, decide_eq_decide.2 h4]

theorem writeLE_byteMem (m : Mem) (hm : ByteMem m) (a w v : Nat) : ByteMem (writeLE m a w v) := by
  induction w generalizing m a v with
  | zero => exact hm
  | succ w ih =>
    simp only [writeLE]
    apply ih
    intro x
    simp only [Mmtk.Mem.set]
    split
    · exact Nat.mod_lt _ (by omega)
    · exact hm x

theorem wordMax_eq (w : Nat) : wordMax w = 2 ^ (8 * w) := by
  unfold wordMax
  have e : (256 : Nat) = 2 ^ 8 := by decide
  rw [e, ← Nat.pow_mul]

/- Mask splices on a `w`-byte word: `k` is the field mask, `wordMax w - 1 - k` its complement, and
`(cur &&& !k) ||| (v &&& k)` is `cur` with the masked bits taken from `v`. -/
theorem splice_in (w cur v k : Nat) (hk : k < wordMax w) :
    ((cur &&& (wordMax w - 1 - k)) ||| (v &&& k)) &&& k = v &&& k := by
  rw [wordMax_eq] at hk ⊢
  apply Nat.eq_of_testBit_eq
  intro i
  simp only [Nat.testBit_and, Nat.testBit_or, testBit_compl _ k hk]
  cases k.testBit i <;> simp

theorem splice_out (w cur v k : Nat) (hk : k < wordMax w) :
    ((cur &&& (wordMax w - 1 - k)) ||| (v &&& k)) &&& (wordMax w - 1 - k) = cur &&& (wordMax w - 1 - k) := by
  rw [wordMax_eq] at hk ⊢
  apply Nat.eq_of_testBit_eq
  intro i
  simp only [Nat.testBit_and, Nat.testBit_or, testBit_compl _ k hk]
  cases k.testBit i <;> simp

theorem splice_lt (w cur v k : Nat) (hc : cur < wordMax w) (hk : k < wordMax w) :
    (cur &&& (wordMax w - 1 - k)) ||| (v &&& k) < wordMax w := by
  rw [wordMax_eq] at hc hk ⊢
  apply Nat.or_lt_two_pow
  · exact Nat.lt_of_le_of_lt Nat.and_le_left hc
  · exact Nat.lt_of_le_of_lt Nat.and_le_right hk

theorem split_mask (w x k : Nat) (hx : x < wordMax w) (hk : k < wordMax w) :
    (x &&& (wordMax w - 1 - k)) ||| (x &&& k) = x := by
  rw [wordMax_eq] at hx hk ⊢
  apply Nat.eq_of_testBit_eq
  intro i
  simp only [Nat.testBit_and, Nat.testBit_or, testBit_compl _ k hk]
  by_cases hi : i < 8 * w
  · cases k.testBit i <;> simp [hi]
  · simp [testBit_high hx (Nat.le_of_not_lt hi)]

theorem write_post (s : Spec) (w : Nat) (m : Mem) (hm : ByteMem m) (h v : Nat) (hv : v < wordMax w) :
    WordPost s w m h (writeLE m (s.addr h) w v) v :=
  ⟨fun x hx => writeLE_other m _ w v x hx, by rw [readLE_writeLE]; exact Nat.mod_eq_of_lt hv,
   writeLE_byteMem m hm _ _ _⟩

theorem keep_post (s : Spec) (w : Nat) (m : Mem) (hm : ByteMem m) (h : Nat) :
    WordPost s w m h m (readLE m (s.addr h) w) := ⟨fun _ _ => rfl, rfl, hm⟩

end Mmtk.HeaderMeta
