import MmtkModel.Lemmas.SchedLastParked
/-!
# What one step of the scheduler model does

`Eff c s a s'` lists, action by action, the guard under which `a` is enabled in `s` and the state it leads to;
`step_eff` reads this off `step`, once for all proofs about steps (only this direction is proved: a proof that an action *is*
enabled still unfolds `step`).  The successor is always written as a record update — of `s`, or for the last parker's `park` of
the state `on_last_parked` returns; where the model computes the new program counters (`notify_one`, the exit test after a
wake-up) the constructor quantifies over them — so a field the action does not write is read off by `rfl`.  The actions are grouped by who acts (a polling
worker, a worker inside a packet, a mutator), so that a proof about fields a whole group leaves alone needs one
frame equation for the group: `t = { s with <the fields that may change> := those of t }`, from which an unchanged
field is read off by `rw`.  What `on_last_parked` does, which the `park` of the last worker runs, is in
`Lemmas/SchedLastParked.lean`.  A step is projected to one bucket by `BktOp` and to one worker's program counter by `PcMove`.
-/
namespace Mmtk.Sched

theorem notifyOne_cases {c : Cfg} {s s' : State} {x : Option Nat} (h : notifyOne c s x = some s') :
    (∃ x0, x = some x0 ∧ x0 < c.n ∧ s.pc x0 = .waiting ∧ s' = setPc s x0 .woken) ∨ (x = none ∧ noWaiter c s = true ∧ s' = s) := by
  unfold notifyOne at h
  split at h
  · split at h
    · rename_i x0 hh; injection h with h; exact Or.inl ⟨x0, rfl, hh.1, hh.2, h.symm⟩
    · cases h
  · split at h
    · rename_i hh; injection h with h; exact Or.inr ⟨rfl, hh, h.symm⟩
    · cases h

theorem notifyOne_same {c : Cfg} {s s' : State} {x : Option Nat} (h : notifyOne c s x = some s') :
    ∃ pcs, s' = { s with pc := pcs } := by
  rcases notifyOne_cases h with ⟨x0, _, _, _, rfl⟩ | ⟨_, _, rfl⟩ <;> exact ⟨_, rfl⟩

def Notified (s : State) (pcs : Nat → PC) : Prop := ∀ y, pcs y = s.pc y ∨ (s.pc y = .waiting ∧ pcs y = .woken)

theorem Notified.refl (s : State) : Notified s s.pc := fun _ => .inl rfl

theorem Notified.of_pc {s s0 : State} {pcs : Nat → PC} (h : Notified s pcs) (e : s.pc = s0.pc) : Notified s0 pcs := by
  unfold Notified; rw [← e]; exact h

theorem notifyOne_pc {c : Cfg} {s : State} {pcs : Nat → PC} {x : Option Nat} (h : notifyOne c s x = some { s with pc := pcs }) :
    Notified s pcs := fun y => by
  rcases notifyOne_cases h with ⟨x0, _, _, hw, e⟩ | ⟨_, _, e⟩ <;> rw [show pcs = _ from congrArg State.pc e]
  · by_cases e : y = x0
    · subst e; exact Or.inr ⟨hw, if_pos rfl⟩
    · exact Or.inl (if_neg e)
  · exact Or.inl rfl

theorem notifyAll_pc (s : State) : Notified s (notifyAll s).pc := fun y => by
  by_cases h : s.pc y = .waiting
  · exact Or.inr ⟨h, if_pos h⟩
  · exact Or.inl (if_neg h)

theorem setPc_self (s : State) (w : Nat) (p : PC) : (setPc s w p).pc w = p := if_pos rfl
theorem setPc_other (s : State) {w x : Nat} (p : PC) (h : x ≠ w) : (setPc s w p).pc x = s.pc x := if_neg h

/-- the test after `dec_parked_workers`: the worker leaves its loop (`p = exited`) if the current goal is an exit goal and
polls again otherwise -/
def Unparks (s : State) (p : PC) : Prop :=
  (∃ g, s.current = some g ∧ g.isExit = true) ∧ p = .exited ∨ (∀ g, s.current = some g → g.isExit = false) ∧ p = .polling []

theorem afterUnpark_eq (s : State) (w : Nat) : ∃ p, Unparks s p ∧ afterUnpark s w = setPc s w p := by
  unfold afterUnpark
  split
  · rename_i h; exact ⟨_, .inl ⟨⟨_, h, rfl⟩, rfl⟩, rfl⟩
  · rename_i h; exact ⟨_, .inl ⟨⟨_, h, rfl⟩, rfl⟩, rfl⟩
  · rename_i h1 h2
    refine ⟨_, .inr ⟨fun g hg => ?_, rfl⟩, rfl⟩
    cases g with
    | gc => rfl
    | shutdown => exact absurd hg (h1 · )
    | stopForFork => exact absurd hg (h2 · )

theorem Unparks.pc {s : State} {p : PC} (h : Unparks s p) : p = .exited ∨ p = .polling [] := h.imp (·.2) (·.2)

theorem consumePending_eq (s : State) (g : Goal) :
    consumePending s g = { s with pendingMake := (consumePending s g).pendingMake } := by
  unfold consumePending; split <;> rfl

theorem makeRequest_eff {c : Cfg} {s t : State} {g : Goal} {x : Option Nat}
    (h : notifyOne c (setRequested (consumePending s g) g true) x = some t) :
    ∃ pcs, notifyOne c s x = some { s with pc := pcs } ∧
      t = { s with pc := pcs, pendingMake := (consumePending s g).pendingMake, reqGc := (setRequested s g true).reqGc,
                   reqShutdown := (setRequested s g true).reqShutdown, reqFork := (setRequested s g true).reqFork } := by
  rcases notifyOne_cases h with ⟨x0, rfl, hx, hw, rfl⟩ | ⟨rfl, hnw, rfl⟩
  · refine ⟨(setPc s x0 .woken).pc, ?_, ?_⟩
    · have hw' : s.pc x0 = .waiting := by cases g <;> first | exact hw | (unfold consumePending at hw; split at hw <;> exact hw)
      exact if_pos ⟨hx, hw'⟩
    · cases g <;> first | rfl | (unfold consumePending; split <;> rfl)
  · refine ⟨s.pc, ?_, ?_⟩
    · have : noWaiter c s = true := by cases g <;> first | exact hnw | (unfold consumePending at hnw; split at hnw <;> exact hnw)
      exact if_pos this
    · cases g <;> first | rfl | (unfold consumePending; split <;> rfl)

/-- what worker `w`, polling with `seen` observed empty, can do -/
inductive Poll (c : Cfg) (s : State) (w : Nat) (seen : List Cont) : Act → State → Prop
  | observe (k : Cont) : looksEmpty s w k = true →
      Poll c s w seen (.observeEmpty w k) (setPc s w (.polling (k :: seen)))
  | pollBucket (b : Nat) (p : Pkt) : b < c.L → (s.bkt b).enabled = true → (s.bkt b).isOpen = true → p ∈ (s.bkt b).q →
      Poll c s w seen (.pollBucket w b p)
        { setPc (setBkt s b { s.bkt b with q := removeP (s.bkt b).q p }) w (.exec p) with started := s.started + 1 }
  | batchMove (b : Nat) (p : Pkt) : b < c.L → (s.bkt b).enabled = true → (s.bkt b).isOpen = true → p ∈ (s.bkt b).q →
      Poll c s w seen (.batchMove w b p)
        (setPc (setBuf (setBkt s b { s.bkt b with q := removeP (s.bkt b).q p }) w (p :: s.buf w)) w (.polling []))
  | popLocal (p : Pkt) : p ∈ s.buf w →
      Poll c s w seen (.popLocal w p) { setPc (setBuf s w (removeP (s.buf w) p)) w (.exec p) with started := s.started + 1 }
  | popDesig (p : Pkt) : p ∈ s.desig w →
      Poll c s w seen (.popDesig w p) { setPc (setDesig s w (removeP (s.desig w) p)) w (.exec p) with started := s.started + 1 }
  | steal (v : Nat) (p : Pkt) : v < c.n → v ≠ w → p ∈ s.buf v →
      Poll c s w seen (.steal w v p) { setPc (setBuf s v (removeP (s.buf v) p)) w (.exec p) with started := s.started + 1 }
  | pollMiss : (allConts c).all (fun k => k ∈ seen) = true →
      Poll c s w seen (.pollMiss w) (setPc s w .parking)

/-- what worker `w` can do while it runs a packet, apart from notifying and ending the packet; no
program counter changes -/
inductive Work (c : Cfg) (s : State) (w : Nat) : Act → State → Prop
  | batchMove (b : Nat) (p : Pkt) : b < c.L → (s.bkt b).enabled = true → (s.bkt b).isOpen = true → p ∈ (s.bkt b).q →
      Work c s w (.batchMove w b p) (setBuf (setBkt s b { s.bkt b with q := removeP (s.bkt b).q p }) w (p :: s.buf w))
  | push (b tag : Nat) : b < c.L → Work c s w (.push w b tag) (pushBkt (bump s) b (newPkt s b tag))
  | pushLocal (b tag : Nat) : b < c.L → (s.bkt b).isOpen = true →
      Work c s w (.pushLocal w b tag) (setBuf (bump s) w (newPkt s b tag :: s.buf w))
  -- stage `0xff` = no bucket: a designated packet sits in worker `x`'s own queue (only the driver's monitor reads `stage`)
  | pushDesig (x tag : Nat) : x < c.n → s.current = some .gc →
      Work c s w (.pushDesig w x tag) (setDesig (bump s) x (newPkt s 0xff tag :: s.desig x))
  | setSentinel (b tag : Nat) : b < c.L → (s.bkt b).sentinel = none →
      Work c s w (.setSentinel w b tag) (setBkt (bump s) b { s.bkt b with sentinel := some (newPkt s b tag) })
  | setEnabled (b : Nat) (v : Bool) : b < c.L → ¬ (c.info b).isFirstStw = true →
      Work c s w (.setEnabled w b v) (setBkt s b { s.bkt b with enabled := v })
  | stopAll : s.current = some .gc → ¬ s.stopped = true →
      Work c s w (.stopAll w) { s with stopped := true, stops := s.stops + 1 }
  | clearRequest : Work c s w (.clearRequest w) { s with requestFlag := false }
  | openFirst (b : Nat) : b < c.L → (c.info b).isFirstStw = true → s.stopped = true → ¬ (s.bkt b).isOpen = true →
      Work c s w (.openFirst w b) (setBkt s b { s.bkt b with isOpen := true })

/-- what mutators and the binding can do without waking a worker; no program counter changes -/
inductive Mut (c : Cfg) (s : State) : Act → State → Prop
  | flagSeen : s.requestFlag = true → Mut c s .requestFlag s
  | flagSet : ¬ s.requestFlag = true →
      Mut c s .requestFlag { s with requestFlag := true, pendingMake := s.pendingMake + 1 }
  | requestMerged (g : Goal) : ¬ (g = .gc ∧ s.pendingMake = 0) → requested (consumePending s g) g = true →
      Mut c s (.makeRequest g none) { s with pendingMake := (consumePending s g).pendingMake }
  | mutPush (b tag : Nat) : b < c.L → (c.mutAddOpen = true ∨ ¬ ((s.bkt b).enabled = true ∧ (s.bkt b).isOpen = true)) →
      Mut c s (.mutPush b tag) (pushBkt (bump s) b (newPkt s b tag))
  | initSetEnabled (b : Nat) (v : Bool) : b < c.L → ¬ (c.info b).isFirstStw = true → (v = false ∨ ¬ (s.bkt b).isOpen = true) →
      Mut c s (.initSetEnabled b v) (setBkt s b { s.bkt b with enabled := v })
  | prepareSurrender : s.creation = .spawned → Mut c s .prepareSurrender { s with creation := .surrendered 0 }

/-- how the last parker `w` leaves `park` when `on_last_parked` returned `r` in the state `s1`: the program counters and the
count of parked workers afterwards -/
inductive Unparked (s1 : State) (w : Nat) : LPR → (Nat → PC) → Nat → Prop
  | parkSelf : Unparked s1 w .parkSelf (setPc s1 w .waiting).pc s1.parked
  | wakeSelf (p : PC) : Unparks s1 p → Unparked s1 w .wakeSelf (setPc s1 w p).pc (s1.parked - 1)
  | wakeAll (p : PC) : Unparks s1 p → Unparked s1 w .wakeAll (setPc (notifyAll s1) w p).pc (s1.parked - 1)

/-- `Eff c s a s'`: what `step c s a = some s'` implies (`step_eff`): the guard of `a` holds in `s`, and `s'` is the successor -/
inductive Eff (c : Cfg) (s : State) : Act → State → Prop
  | poll (w : Nat) (seen : List Cont) {a : Act} {t : State} : w < c.n → s.pc w = .polling seen → Poll c s w seen a t → Eff c s a t
  | work (w : Nat) {a : Act} {t : State} : w < c.n → (s.pc w).isExec = true → Work c s w a t → Eff c s a t
  | bucketNotifyOne (w b : Nat) (x : Option Nat) (pcs : Nat → PC) : w < c.n → (s.pc w).isExec = true → b < c.L →
      (s.bkt b).isOpen = true → (s.bkt b).enabled = true → notifyOne c s x = some { s with pc := pcs } →
      Eff c s (.bucketNotifyOne w b x) { s with pc := pcs }
  | bucketNotifyAll (w b : Nat) : w < c.n → (s.pc w).isExec = true → b < c.L →
      (s.bkt b).isOpen = true → (s.bkt b).enabled = true → Eff c s (.bucketNotifyAll w b) (notifyAll s)
  | wakeAll (w : Nat) : w < c.n → (s.pc w).isExec = true → Eff c s (.wakeAll w) (notifyAll s)
  | execEnd (w : Nat) (p : Pkt) : w < c.n → s.pc w = .exec p →
      Eff c s (.execEnd w) { setPc s w (.polling []) with ended := s.ended + 1, endedIds := p.id :: s.endedIds }
  | park (w tag : Nat) : w < c.n → s.pc w = .parking → s.parked < c.n → s.parked + 1 ≠ c.n →
      Eff c s (.park w tag) (setPc { s with parked := s.parked + 1, trace := [] } w .waiting)
  | parkLast (w tag : Nat) (s1 : State) (r : LPR) (pcs : Nat → PC) (k : Nat) : w < c.n → s.pc w = .parking → s.parked + 1 = c.n →
      onLastParked c { s with parked := s.parked + 1, trace := [] } tag = some (s1, r) → Unparked s1 w r pcs k →
      Eff c s (.park w tag) { s1 with pc := pcs, parked := k }
  | spurious (w : Nat) : w < c.n → s.pc w = .waiting → Eff c s (.spurious w) (setPc s w .woken)
  | wake (w : Nat) (p : PC) : w < c.n → s.pc w = .woken → 0 < s.parked →
      Unparks s p → Eff c s (.wake w) (setPc { s with parked := s.parked - 1 } w p)
  | surrender (w k : Nat) : s.creation = .surrendered k → w < c.n → s.pc w = .exited → k + 1 ≠ c.n →
      Eff c s (.surrender w) { setPc s w .surrendered with creation := .surrendered (k + 1) }
  | surrenderLast (w k : Nat) : s.creation = .surrendered k → w < c.n → s.pc w = .exited → k + 1 = c.n →
      Eff c s (.surrender w)
        { setPc s w .surrendered with creation := .surrendered (k + 1), current := none, exitsDone := s.exitsDone + 1 }
  | mutator {a : Act} {t : State} : Mut c s a t → Eff c s a t
  | makeRequest (g : Goal) (x : Option Nat) (pcs : Nat → PC) : ¬ (g = .gc ∧ s.pendingMake = 0) →
      requested (consumePending s g) g = false →
      notifyOne c s x = some { s with pc := pcs } →
      Eff c s (.makeRequest g x)
        { s with pc := pcs, pendingMake := (consumePending s g).pendingMake, reqGc := (setRequested s g true).reqGc,
                 reqShutdown := (setRequested s g true).reqShutdown, reqFork := (setRequested s g true).reqFork }
  | mutNotifyOne (b : Nat) (x : Option Nat) (pcs : Nat → PC) : b < c.L → (s.bkt b).isOpen = true → (s.bkt b).enabled = true →
      notifyOne c s x = some { s with pc := pcs } → Eff c s (.mutNotifyOne b x) { s with pc := pcs }
  | respawn : s.creation = .surrendered c.n →
      Eff c s .respawn { s with creation := .spawned, pc := fun x => if x < c.n then .polling [] else s.pc x }

/-! Reading the guard and the successor state of an enabled action off `step`: its clauses are `if`s
with `none` in the else branch, under a `match` on the acting worker's program counter. -/

theorem match_polling {α : Type} {p : PC} {f : List Cont → Option α} {y : α}
    (h : (match p with | .polling seen => f seen | _ => none) = some y) : ∃ seen, p = .polling seen ∧ f seen = some y := by
  cases p <;> first | exact ⟨_, rfl, h⟩ | cases h

theorem match_exec {α : Type} {p : PC} {f : Pkt → Option α} {y : α}
    (h : (match p with | .exec q => f q | _ => none) = some y) : ∃ q, p = .exec q ∧ f q = some y := by
  cases p <;> first | exact ⟨_, rfl, h⟩ | cases h

theorem match_exec_polling {α : Type} {p : PC} {a b : Option α} {y : α}
    (h : (match p with | .exec _ => a | .polling _ => b | _ => none) = some y) :
    (p.isExec = true ∧ a = some y) ∨ (∃ seen, p = .polling seen ∧ b = some y) := by
  cases p <;> first | exact .inl ⟨rfl, h⟩ | exact .inr ⟨_, rfl, h⟩ | cases h

theorem match_surrendered {α : Type} {cr : Creation} {f : Nat → Option α} {y : α}
    (h : (match cr with | .surrendered k => f k | .spawned => none) = some y) : ∃ k, cr = .surrendered k ∧ f k = some y := by
  cases cr <;> first | exact ⟨_, rfl, h⟩ | cases h

theorem step_eff {c : Cfg} {s s' : State} {a : Act} (hs : step c s a = some s') : Eff c s a s' := by
  cases a with
  | observeEmpty w k =>
    obtain ⟨seen, hpc, h⟩ := match_polling hs
    obtain ⟨hg, e⟩ := Option.ite_none_right_eq_some.1 h; cases e
    exact .poll w seen hg.1 hpc (.observe k hg.2)
  | pollBucket w b p =>
    obtain ⟨seen, hpc, h⟩ := match_polling hs
    obtain ⟨hg, e⟩ := Option.ite_none_right_eq_some.1 h; cases e
    exact .poll w seen hg.1 hpc (.pollBucket b p hg.2.1 hg.2.2.1 hg.2.2.2.1 hg.2.2.2.2)
  | batchMove w b p =>
    rcases match_exec_polling hs with ⟨hx, h⟩ | ⟨seen, hpc, h⟩
    · obtain ⟨hg, e⟩ := Option.ite_none_right_eq_some.1 h; cases e
      exact .work w hg.1 hx (.batchMove b p hg.2.1 hg.2.2.1 hg.2.2.2.1 hg.2.2.2.2)
    · obtain ⟨hg, e⟩ := Option.ite_none_right_eq_some.1 h; cases e
      exact .poll w seen hg.1 hpc (.batchMove b p hg.2.1 hg.2.2.1 hg.2.2.2.1 hg.2.2.2.2)
  | popLocal w p =>
    obtain ⟨seen, hpc, h⟩ := match_polling hs
    obtain ⟨hg, e⟩ := Option.ite_none_right_eq_some.1 h; cases e
    exact .poll w seen hg.1 hpc (.popLocal p hg.2)
  | popDesig w p =>
    obtain ⟨seen, hpc, h⟩ := match_polling hs
    obtain ⟨hg, e⟩ := Option.ite_none_right_eq_some.1 h; cases e
    exact .poll w seen hg.1 hpc (.popDesig p hg.2)
  | steal w v p =>
    obtain ⟨seen, hpc, h⟩ := match_polling hs
    obtain ⟨hg, e⟩ := Option.ite_none_right_eq_some.1 h; cases e
    exact .poll w seen hg.1 hpc (.steal v p hg.2.1 hg.2.2.1 hg.2.2.2)
  | pollMiss w =>
    obtain ⟨seen, hpc, h⟩ := match_polling hs
    obtain ⟨hg, e⟩ := Option.ite_none_right_eq_some.1 h; cases e
    exact .poll w seen hg.1 hpc (.pollMiss hg.2)
  | push w b tag =>
    obtain ⟨hg, e⟩ := Option.ite_none_right_eq_some.1 hs; cases e
    exact .work w hg.1 hg.2.1 (.push b tag hg.2.2)
  | pushLocal w b tag =>
    obtain ⟨hg, e⟩ := Option.ite_none_right_eq_some.1 hs; cases e
    exact .work w hg.1 hg.2.1 (.pushLocal b tag hg.2.2.1 hg.2.2.2)
  | pushDesig w x tag =>
    obtain ⟨hg, e⟩ := Option.ite_none_right_eq_some.1 hs; cases e
    exact .work w hg.1 hg.2.1 (.pushDesig x tag hg.2.2.1 hg.2.2.2)
  | setSentinel w b tag =>
    obtain ⟨hg, e⟩ := Option.ite_none_right_eq_some.1 hs; cases e
    exact .work w hg.1 hg.2.1 (.setSentinel b tag hg.2.2.1 hg.2.2.2)
  | bucketNotifyOne w b x =>
    obtain ⟨hg, e⟩ := Option.ite_none_right_eq_some.1 hs
    obtain ⟨pcs, rfl⟩ := notifyOne_same e
    exact .bucketNotifyOne w b x pcs hg.1 hg.2.1 hg.2.2.1 hg.2.2.2.1 hg.2.2.2.2 e
  | bucketNotifyAll w b =>
    obtain ⟨hg, e⟩ := Option.ite_none_right_eq_some.1 hs; cases e
    exact .bucketNotifyAll w b hg.1 hg.2.1 hg.2.2.1 hg.2.2.2.1 hg.2.2.2.2
  | setEnabled w b v =>
    obtain ⟨hg, e⟩ := Option.ite_none_right_eq_some.1 hs; cases e
    exact .work w hg.1 hg.2.1 (.setEnabled b v hg.2.2.1 hg.2.2.2)
  | stopAll w =>
    obtain ⟨hg, e⟩ := Option.ite_none_right_eq_some.1 hs; cases e
    exact .work w hg.1 hg.2.1 (.stopAll hg.2.2.1 hg.2.2.2)
  | clearRequest w =>
    obtain ⟨hg, e⟩ := Option.ite_none_right_eq_some.1 hs; cases e
    exact .work w hg.1 hg.2 .clearRequest
  | openFirst w b =>
    obtain ⟨hg, e⟩ := Option.ite_none_right_eq_some.1 hs; cases e
    exact .work w hg.1 hg.2.1 (.openFirst b hg.2.2.1 hg.2.2.2.1 hg.2.2.2.2.1 hg.2.2.2.2.2)
  | wakeAll w =>
    obtain ⟨hg, e⟩ := Option.ite_none_right_eq_some.1 hs; cases e
    exact .wakeAll w hg.1 hg.2
  | execEnd w =>
    obtain ⟨p, hpc, h⟩ := match_exec hs
    obtain ⟨hg, e⟩ := Option.ite_none_right_eq_some.1 h; cases e
    exact .execEnd w p hg hpc
  | park w tag =>
    simp only [step] at hs
    split at hs
    · rename_i hg
      split at hs
      · rename_i hlast
        split at hs
        · cases hs
        · rename_i s1 hl; cases hs; exact .parkLast w tag s1 .parkSelf _ _ hg.1 hg.2.1 hlast hl .parkSelf
        · rename_i s1 hl; cases hs
          obtain ⟨p, hp, e⟩ := afterUnpark_eq { s1 with parked := s1.parked - 1 } w
          rw [e]; exact .parkLast w tag s1 .wakeSelf _ _ hg.1 hg.2.1 hlast hl (.wakeSelf p hp)
        · rename_i s1 hl; cases hs
          obtain ⟨p, hp, e⟩ := afterUnpark_eq { notifyAll s1 with parked := (notifyAll s1).parked - 1 } w
          rw [e]; exact .parkLast w tag s1 .wakeAll _ _ hg.1 hg.2.1 hlast hl (.wakeAll p hp)
      · rename_i hnl; cases hs; exact .park w tag hg.1 hg.2.1 hg.2.2 hnl
    · cases hs
  | spurious w =>
    obtain ⟨hg, e⟩ := Option.ite_none_right_eq_some.1 hs; cases e
    exact .spurious w hg.1 hg.2
  | wake w =>
    obtain ⟨hg, e⟩ := Option.ite_none_right_eq_some.1 hs; cases e
    obtain ⟨p, hp, e⟩ := afterUnpark_eq { s with parked := s.parked - 1 } w
    rw [e]; exact .wake w p hg.1 hg.2.1 hg.2.2 hp
  | surrender w =>
    obtain ⟨k, hcr, h⟩ := match_surrendered hs
    obtain ⟨hg, h⟩ := Option.ite_none_right_eq_some.1 h
    by_cases hk : k + 1 = c.n
    · have h : some _ = some s' := (if_pos hk).symm.trans h
      cases h; exact .surrenderLast w k hcr hg.1 hg.2 hk
    · have h : some _ = some s' := (if_neg hk).symm.trans h
      cases h; exact .surrender w k hcr hg.1 hg.2 hk
  | requestFlag =>
    by_cases hg : s.requestFlag = true
    · have h : some _ = some s' := (if_pos hg).symm.trans hs
      cases h; exact .mutator (.flagSeen hg)
    · have h : some _ = some s' := (if_neg hg).symm.trans hs
      cases h; exact .mutator (.flagSet hg)
  | makeRequest g x =>
    by_cases h1 : g = .gc ∧ s.pendingMake = 0
    · have h : none = some s' := (if_pos h1).symm.trans hs
      cases h
    · have h : (if requested (consumePending s g) g = true then _ else _) = some s' := (if_neg h1).symm.trans hs
      by_cases h2 : requested (consumePending s g) g = true
      · obtain ⟨hx, e⟩ := Option.ite_none_right_eq_some.1 ((if_pos h2).symm.trans h)
        subst hx; cases e; rw [consumePending_eq]; exact .mutator (.requestMerged g h1 h2)
      · obtain ⟨pcs, hn, rfl⟩ := makeRequest_eff ((if_neg h2).symm.trans h)
        exact .makeRequest g x pcs h1 (by simpa using h2) hn
  | mutPush b tag =>
    obtain ⟨hg, e⟩ := Option.ite_none_right_eq_some.1 hs; cases e
    exact .mutator (.mutPush b tag hg.1 hg.2)
  | mutNotifyOne b x =>
    obtain ⟨hg, e⟩ := Option.ite_none_right_eq_some.1 hs
    obtain ⟨pcs, rfl⟩ := notifyOne_same e
    exact .mutNotifyOne b x pcs hg.1 hg.2.1 hg.2.2 e
  | initSetEnabled b v =>
    obtain ⟨hg, e⟩ := Option.ite_none_right_eq_some.1 hs; cases e
    exact .mutator (.initSetEnabled b v hg.1 hg.2.1 hg.2.2)
  | prepareSurrender =>
    obtain ⟨hg, e⟩ := Option.ite_none_right_eq_some.1 hs; cases e
    exact .mutator (.prepareSurrender hg)
  | respawn =>
    obtain ⟨k, hcr, h⟩ := match_surrendered hs
    obtain ⟨hk, e⟩ := Option.ite_none_right_eq_some.1 h
    subst hk; cases e
    exact .respawn hcr

theorem Unparked.cases {s1 : State} {w : Nat} {r : LPR} {pcs : Nat → PC} {k : Nat} (h : Unparked s1 w r pcs k) :
    (r = .parkSelf ∧ pcs = (setPc s1 w .waiting).pc ∧ k = s1.parked) ∨
    (r ≠ .parkSelf ∧ ∃ t p, Notified s1 t ∧ Unparks s1 p ∧ pcs = (setPc { s1 with pc := t } w p).pc ∧ k = s1.parked - 1) := by
  cases h with
  | parkSelf => exact .inl ⟨rfl, rfl, rfl⟩
  | wakeSelf p hp => exact .inr ⟨nofun, s1.pc, p, .refl s1, hp, rfl, rfl⟩
  | wakeAll p hp => exact .inr ⟨nofun, (notifyAll s1).pc, p, notifyAll_pc s1, hp, rfl, rfl⟩

theorem step_park_eff {c : Cfg} {s s' : State} {w tag : Nat} (hs : step c s (.park w tag) = some s') :
    w < c.n ∧ s.pc w = .parking ∧
    ((s.parked + 1 ≠ c.n ∧ s' = setPc { s with parked := s.parked + 1, trace := [] } w .waiting) ∨
     (s.parked + 1 = c.n ∧ ∃ s1 r pcs k, onLastParked c { s with parked := s.parked + 1, trace := [] } tag = some (s1, r) ∧
       Unparked s1 w r pcs k ∧ s' = { s1 with pc := pcs, parked := k })) := by
  cases step_eff hs with
  | park _ _ hw hpc _ hnl => exact ⟨hw, hpc, Or.inl ⟨hnl, rfl⟩⟩
  | parkLast _ _ s1 r pcs k hw hpc hl h1 hu => exact ⟨hw, hpc, Or.inr ⟨hl, s1, r, pcs, k, h1, hu, rfl⟩⟩
  | poll _ _ _ _ h | work _ _ _ h | mutator h => cases h

theorem Poll.same {c : Cfg} {s t : State} {w : Nat} {seen : List Cont} {a : Act} (h : Poll c s w seen a t) :
    t = { s with pc := t.pc, bkt := t.bkt, buf := t.buf, desig := t.desig, started := t.started } := by
  cases h <;> rfl

theorem Poll.pc_self {c : Cfg} {s t : State} {w : Nat} {seen : List Cont} {a : Act} (h : Poll c s w seen a t) :
    (∃ l, t.pc w = .polling l) ∨ (∃ p, t.pc w = .exec p) ∨ t.pc w = .parking := by
  cases h with
  | observe | batchMove => exact .inl ⟨_, setPc_self _ w _⟩
  | pollMiss => exact .inr (.inr (setPc_self _ w _))
  | _ => exact .inr (.inl ⟨_, setPc_self _ w _⟩)

theorem Work.same {c : Cfg} {s t : State} {w : Nat} {a : Act} (h : Work c s w a t) :
    t = { s with bkt := t.bkt, buf := t.buf, desig := t.desig, nextId := t.nextId, added := t.added,
                 stopped := t.stopped, stops := t.stops, requestFlag := t.requestFlag } := by
  cases h <;> rfl

theorem Work.pc {c : Cfg} {s t : State} {w : Nat} {a : Act} (h : Work c s w a t) : t.pc = s.pc := by rw [h.same]

theorem Mut.same {c : Cfg} {s t : State} {a : Act} (h : Mut c s a t) :
    t = { s with bkt := t.bkt, nextId := t.nextId, added := t.added, requestFlag := t.requestFlag,
                 pendingMake := t.pendingMake, creation := t.creation } := by
  cases h <;> rfl

theorem Mut.pc {c : Cfg} {s t : State} {a : Act} (h : Mut c s a t) : t.pc = s.pc := by rw [h.same]

/-- what an action of one of the three groups does to the bucket `b` -/
inductive BktOp (c : Cfg) (s : State) (b : Nat) : Bucket → Bucket → Prop
  | same (k : Bucket) : BktOp c s b k k
  | queue (k : Bucket) (q : List Pkt) : BktOp c s b k { k with q := q }
  | setSentinel (k : Bucket) (p : Pkt) : k.sentinel = none → BktOp c s b k { k with sentinel := some p }
  | setEnabled (k : Bucket) (v : Bool) : ¬ (c.info b).isFirstStw = true → BktOp c s b k { k with enabled := v }
  | openFirst (k : Bucket) : (c.info b).isFirstStw = true → s.stopped = true → BktOp c s b k { k with isOpen := true }

theorem BktOp.setBkt {c : Cfg} {s s0 : State} {b0 : Nat} {k : Bucket} (h : BktOp c s b0 (s0.bkt b0) k) (b : Nat) :
    BktOp c s b (s0.bkt b) ((setBkt s0 b0 k).bkt b) := by
  show BktOp c s b _ (if b = b0 then k else s0.bkt b)
  by_cases e : b = b0
  · rw [if_pos e, e]; exact h
  · rw [if_neg e]; exact .same _

theorem BktOp.isOpen {c : Cfg} {s : State} {b : Nat} {k k' : Bucket} (h : BktOp c s b k k') :
    k'.isOpen = k.isOpen ∨ ((c.info b).isFirstStw = true ∧ s.stopped = true) := by
  cases h with
  | openFirst hf hst => exact .inr ⟨hf, hst⟩
  | _ => exact .inl rfl

theorem BktOp.enabled {c : Cfg} {s : State} {b : Nat} {k k' : Bucket} (h : BktOp c s b k k') :
    k'.enabled = k.enabled ∨ ¬ (c.info b).isFirstStw = true := by
  cases h with
  | setEnabled _ hf => exact .inr hf
  | _ => exact .inl rfl

theorem BktOp.sentinel {c : Cfg} {s : State} {b : Nat} {k k' : Bucket} (h : BktOp c s b k k') :
    k'.sentinel = k.sentinel ∨ k.sentinel = none := by
  cases h with
  | setSentinel _ hn => exact .inr hn
  | _ => exact .inl rfl

theorem Poll.bktOp {c : Cfg} {s t : State} {w : Nat} {seen : List Cont} {a : Act} (h : Poll c s w seen a t) (b : Nat) :
    BktOp c s b (s.bkt b) (t.bkt b) := by
  cases h with
  | pollBucket | batchMove => exact BktOp.setBkt (s0 := s) (.queue _ _) b
  | _ => exact .same _

theorem Work.bktOp {c : Cfg} {s t : State} {w : Nat} {a : Act} (h : Work c s w a t) (b : Nat) :
    BktOp c s b (s.bkt b) (t.bkt b) := by
  cases h with
  | batchMove => exact BktOp.setBkt (s0 := s) (.queue _ _) b
  | push => exact BktOp.setBkt (s0 := bump s) (.queue _ _) b
  | setSentinel _ _ _ hn => exact BktOp.setBkt (s0 := bump s) (.setSentinel _ _ hn) b
  | setEnabled _ v _ hf => exact BktOp.setBkt (s0 := s) (.setEnabled _ v hf) b
  | openFirst _ _ hf hst => exact BktOp.setBkt (s0 := s) (.openFirst _ hf hst) b
  | _ => exact .same _

theorem Mut.creation {c : Cfg} {s t : State} {a : Act} (h : Mut c s a t) :
    t.creation = s.creation ∨ (s.creation = .spawned ∧ t.creation = .surrendered 0) := by
  cases h with
  | prepareSurrender h0 => exact .inr ⟨h0, rfl⟩
  | _ => exact .inl rfl

theorem Mut.bktOp {c : Cfg} {s t : State} {a : Act} (h : Mut c s a t) (b : Nat) : BktOp c s b (s.bkt b) (t.bkt b) := by
  cases h with
  | mutPush => exact BktOp.setBkt (s0 := bump s) (.queue _ _) b
  | initSetEnabled _ v _ hf => exact BktOp.setBkt (s0 := s) (.setEnabled _ v hf) b
  | _ => exact .same _

/-! ## the program counter of one worker

`PcMove a x p p'`: the moves of worker `x` in one step, with the action where only one action makes the
move. -/

/-- the actions that move a worker from one class of program points to another (running: polling, exec, parking; parked:
waiting, woken; exited; surrendered).  `spurious` and the notifications stay inside the parked class. -/
def Act.changesClass : Act → Bool
  | .park _ _ | .wake _ | .surrender _ | .respawn => true
  | _ => false

theorem Poll.keepsClass {c : Cfg} {s t : State} {w : Nat} {seen : List Cont} {a : Act} (h : Poll c s w seen a t) :
    a.changesClass = false := by cases h <;> rfl
theorem Work.keepsClass {c : Cfg} {s t : State} {w : Nat} {a : Act} (h : Work c s w a t) : a.changesClass = false := by
  cases h <;> rfl
theorem Mut.keepsClass {c : Cfg} {s t : State} {a : Act} (h : Mut c s a t) : a.changesClass = false := by
  cases h <;> rfl

inductive PcMove (a : Act) (x : Nat) : PC → PC → Prop
  | same (p : PC) : PcMove a x p p
  | notified : PcMove a x .waiting .woken
  | observed (seen l : List Cont) : a.changesClass = false → PcMove a x (.polling seen) (.polling l)
  | started (seen : List Cont) (p : Pkt) : a.changesClass = false → PcMove a x (.polling seen) (.exec p)
  | missed (seen : List Cont) : a.changesClass = false → PcMove a x (.polling seen) .parking
  | ended (p : Pkt) : a = .execEnd x → PcMove a x (.exec p) (.polling [])
  | parked (tag : Nat) (p' : PC) : a = .park x tag → p' = .waiting ∨ p' = .exited ∨ p' = .polling [] → PcMove a x .parking p'
  | woke (p' : PC) : a = .wake x → p' = .exited ∨ p' = .polling [] → PcMove a x .woken p'
  | surrendered : a = .surrender x → PcMove a x .exited .surrendered
  | respawned (p : PC) : a = .respawn → PcMove a x p (.polling [])

theorem PcMove.of_eq {a : Act} {x : Nat} {p p' : PC} (h : p' = p) : PcMove a x p p' := by rw [h]; exact .same p

theorem PcMove.of_notify {a : Act} {x : Nat} {p p' : PC} (h : p' = p ∨ (p = .waiting ∧ p' = .woken)) : PcMove a x p p' := by
  rcases h with h | ⟨h1, h2⟩
  · exact .of_eq h
  · rw [h1, h2]; exact .notified

theorem PcMove.of_setPc {a : Act} {x w : Nat} {s t : State} {p p' : PC} (ht : t.pc = s.pc) (hpc : s.pc w = p)
    (hm : PcMove a w p p') : PcMove a x (s.pc x) ((setPc t w p').pc x) := by
  by_cases e : x = w
  · subst e; rw [setPc_self, hpc]; exact hm
  · rw [setPc_other _ _ e, ht]; exact .same _

theorem PcMove.park {w tag x : Nat} {p p' : PC} (h : PcMove (.park w tag) x p p') :
    p' = p ∨ (p = .waiting ∧ p' = .woken) ∨
    (x = w ∧ p = .parking ∧ (p' = .waiting ∨ p' = .exited ∨ p' = .polling [])) := by
  cases h with
  | same => exact .inl rfl
  | notified => exact .inr (.inl ⟨rfl, rfl⟩)
  | parked _ _ e h => cases e; exact .inr (.inr ⟨rfl, rfl, h⟩)
  | observed _ _ e | started _ _ e | missed _ e | ended _ e | woke _ e | surrendered e | respawned _ e => cases e

theorem Poll.pcMove {c : Cfg} {s t : State} {w : Nat} {seen : List Cont} {a : Act} (h : Poll c s w seen a t)
    (hpc : s.pc w = .polling seen) (x : Nat) : PcMove a x (s.pc x) (t.pc x) := by
  cases h with
  | observe k => exact .of_setPc rfl hpc (.observed _ _ rfl)
  | batchMove b p => exact .of_setPc (s := s) rfl hpc (.observed _ _ rfl)
  | pollMiss => exact .of_setPc rfl hpc (.missed _ rfl)
  | _ => exact .of_setPc (s := s) rfl hpc (.started _ _ rfl)

theorem Unparked.pcMove {s1 : State} {w tag : Nat} {r : LPR} {pcs : Nat → PC} {k : Nat} (h : Unparked s1 w r pcs k)
    (hpc : s1.pc w = .parking) (x : Nat) : PcMove (.park w tag) x (s1.pc x) (pcs x) := by
  have key : ∀ (t : Nat → PC) (p' : PC), Notified s1 t → p' = .waiting ∨ p' = .exited ∨ p' = .polling [] →
      PcMove (.park w tag) x (s1.pc x) ((setPc { s1 with pc := t } w p').pc x) := by
    intro t p' ht hp'
    by_cases e : x = w
    · subst e; rw [setPc_self, hpc]; exact .parked tag p' rfl hp'
    · rw [setPc_other _ _ e]; exact .of_notify (ht x)
  rcases h.cases with ⟨_, rfl, _⟩ | ⟨_, t, p, ht, hp, rfl, _⟩
  · exact key s1.pc _ (.refl s1) (.inl rfl)
  · exact key t p ht (.inr hp.pc)

theorem Eff.pcMove {c : Cfg} {s s' : State} {a : Act} (h : Eff c s a s') (x : Nat) : PcMove a x (s.pc x) (s'.pc x) := by
  cases h with
  | poll w seen _ hpc hP => exact hP.pcMove hpc x
  | work w _ _ hW => exact .of_eq (by rw [hW.pc])
  | bucketNotifyOne w b y _ _ _ _ _ _ hn => exact .of_notify (notifyOne_pc hn x)
  | bucketNotifyAll | wakeAll => exact .of_notify (notifyAll_pc s x)
  | execEnd w p _ hpc => exact .of_setPc (s := s) rfl hpc (.ended p rfl)
  | park w tag _ hpc => exact .of_setPc (s := s) rfl hpc (.parked tag _ rfl (Or.inl rfl))
  | parkLast w tag s1 r pcs k _ hpc _ hl hu =>
    have f := frame_onLastParked hl
    have := hu.pcMove (tag := tag) (show s1.pc w = .parking by rw [f.pc]; exact hpc) x
    rw [f.pc] at this; exact this
  | spurious w _ hpc => exact .of_setPc rfl hpc .notified
  | wake w p _ hpc _ hp => exact .of_setPc (s := s) rfl hpc (.woke p rfl hp.pc)
  | surrender _ _ _ _ hpc | surrenderLast _ _ _ _ hpc => exact .of_setPc (s := s) rfl hpc (.surrendered rfl)
  | mutator hM => exact .of_eq (by rw [hM.pc])
  | makeRequest g y _ _ _ hn | mutNotifyOne b y _ _ _ _ hn => exact .of_notify (notifyOne_pc hn x)
  | respawn _ =>
    by_cases hx : x < c.n
    · show PcMove _ _ _ (if x < c.n then _ else _); rw [if_pos hx]; exact .respawned _ rfl
    · exact .of_eq (if_neg hx)

theorem PcMove.sameClass {a : Act} {x : Nat} {p p' : PC} (h : PcMove a x p p') (ha : a.changesClass = false) :
    p'.isParked = p.isParked ∧ (p' = .exited ↔ p = .exited) ∧ (p' = .surrendered ↔ p = .surrendered) := by
  cases h with
  | same => exact ⟨rfl, Iff.rfl, Iff.rfl⟩
  | parked _ _ e | woke _ e | surrendered e | respawned _ e => subst e; cases ha
  | _ => exact ⟨rfl, ⟨nofun, nofun⟩, ⟨nofun, nofun⟩⟩

theorem Eff.sameClass {c : Cfg} {s s' : State} {a : Act} (h : Eff c s a s') (ha : a.changesClass = false) (x : Nat) :
    (s'.pc x).isParked = (s.pc x).isParked ∧ (s'.pc x = .exited ↔ s.pc x = .exited) ∧
      (s'.pc x = .surrendered ↔ s.pc x = .surrendered) :=
  (h.pcMove x).sameClass ha

theorem reachable_step {c : Cfg} {s s' : State} {a : Act} (hr : Reachable c s) (hs : step c s a = some s') :
    Reachable c s' := by
  obtain ⟨run, h⟩ := hr
  refine ⟨run ++ [a], ?_⟩
  have : ∀ (l : List Act) (t : State), exec c t l = some s → exec c t (l ++ [a]) = some s' := by
    intro l
    induction l with
    | nil => intro t e; simp only [exec] at e; injection e with e; subst e; simp [exec, hs]
    | cons b l ih =>
      intro t e
      simp only [exec, List.cons_append] at e ⊢
      cases ht : step c t b with
      | none => rw [ht] at e; cases e
      | some t1 => rw [ht] at e; exact ih t1 e
  exact this run _ h

theorem step_park_pc {c : Cfg} {s s' : State} {w tag : Nat} (hs : step c s (.park w tag) = some s') (x : Nat) :
    s'.pc x = s.pc x ∨ ((s.pc x).isExec = false ∧ (s'.pc x).isExec = false) := by
  rcases ((step_eff hs).pcMove x).park with e | ⟨e1, e2⟩ | ⟨_, e1, e2⟩
  · exact .inl e
  · rw [e1, e2]; exact .inr ⟨rfl, rfl⟩
  · rw [e1]; rcases e2 with e | e | e <;> rw [e] <;> exact .inr ⟨rfl, rfl⟩

theorem step_park_isExec {c : Cfg} {s s' : State} {w tag : Nat} (hs : step c s (.park w tag) = some s') (x : Nat) :
    (s'.pc x).isExec = (s.pc x).isExec := by
  rcases step_park_pc hs x with e | ⟨e1, e2⟩
  · rw [e]
  · rw [e1, e2]

end Mmtk.Sched
