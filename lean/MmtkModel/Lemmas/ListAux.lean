/-!
# Four facts about lists and least witnesses that more than one area uses and core does not state

`pw_mem`: in a list that is pairwise related by a symmetric relation, any two distinct members are related (the
runs of a region map, the regions of a space, the region lists of different spaces).  `mem_eraseIdx_or`: what is left
when a work list drops one entry.  `range'_append_sub`: two adjacent index intervals make one.  `exists_least`:
the first index at which something happens.
-/
namespace Mmtk.ListAux

theorem pw_mem {α : Type} {R : α → α → Prop} (hs : ∀ a b, R a b → R b a) {l : List α} (hl : l.Pairwise R)
    {a b : α} (ha : a ∈ l) (hb : b ∈ l) (hne : a ≠ b) : R a b :=
  have h1 := hl.imp (S := fun x y => x ≠ y → R x y) fun h _ => h
  have h2 := hl.imp (S := fun x y => y ≠ x → R y x) fun h _ => hs _ _ h
  h1.forall_of_forall_of_flip (fun _ _ h => absurd rfl h) h2 ha hb hne

theorem mem_eraseIdx_or {α : Type} {l : List α} (i : Nat) {y : α} (h : y ∈ l) :
    y ∈ l.eraseIdx i ∨ l[i]? = some y := by
  obtain ⟨j, hj⟩ := List.mem_iff_getElem?.mp h
  by_cases e : j = i
  · exact .inr (e ▸ hj)
  · exact .inl (List.mem_eraseIdx_iff_getElem?.mpr ⟨j, e, hj⟩)

theorem range'_append_sub {a b c : Nat} (hab : a ≤ b) (hbc : b ≤ c) :
    List.range' a (b - a) ++ List.range' b (c - b) = List.range' a (c - a) := by
  rw [← Nat.sub_add_sub_cancel hbc hab, Nat.add_comm (c - b), ← List.range'_append_1,
    Nat.add_sub_cancel' hab]

theorem exists_least (P : Nat → Prop) (h : ∃ j, P j) : ∃ j, P j ∧ ∀ i, i < j → ¬ P i := by
  obtain ⟨j, hj⟩ := h
  induction j using Nat.strongRecOn with
  | ind j ih =>
    by_cases hl : ∃ i, i < j ∧ P i
    · obtain ⟨i, hi, hp⟩ := hl; exact ih i hi hp
    · exact ⟨j, hj, fun i hi hp => hl ⟨i, hi, hp⟩⟩

end Mmtk.ListAux
