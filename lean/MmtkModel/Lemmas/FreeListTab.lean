import MmtkModel.Lemmas.FreeListBits
/-!
# The table as two total functions `loC`, `hiC : Int → Nat` (C26, concrete layer)

`InR t u` — unit `u` (heads are negative units) has its two entries inside the array.  Reads of an
in-range unit succeed and return `loC` / `hiC`; writes succeed and are the pure updates `updLo` /
`updHi`.  The table is read through five fields (`fFree`, `fUnc`, `fPrev`, `fMulti`, `fNext`); what an
entry update does to each is said once (`f*_upd*`), and the six field writes `w*` are entry updates with
the mask expressions of the code.  Every method is shown equal to `.ok` of a pure function on tables
(`*_ok`).  What `set_size` / `set_free` of a run `[l, r)` do is said by two predicates: `Sized t l r` (the
size fields are right) and `SameOutside t t' l r` (nothing else changed).
-/
namespace Mmtk.FreeList

def InR (t : Tab) (u : Int) : Prop := 0 ≤ u + t.heads ∧ 2 * (u + t.heads) + 1 < t.cells.size

instance (t : Tab) (u : Int) : Decidable (InR t u) := by unfold InR; infer_instance

def loC (t : Tab) (u : Int) : Nat := if InR t u then t.cells.getD (2 * (u + t.heads)).toNat 0 else 0
def hiC (t : Tab) (u : Int) : Nat := if InR t u then t.cells.getD (2 * (u + t.heads) + 1).toNat 0 else 0

def updLo (t : Tab) (u : Int) (v : Nat) : Tab :=
  if InR t u then { t with cells := t.cells.setIfInBounds (2 * (u + t.heads)).toNat v } else t
def updHi (t : Tab) (u : Int) (v : Nat) : Tab :=
  if InR t u then { t with cells := t.cells.setIfInBounds (2 * (u + t.heads) + 1).toNat v } else t

@[simp] theorem heads_updLo (t : Tab) (u v) : (updLo t u v).heads = t.heads := by
  unfold updLo; split <;> rfl
@[simp] theorem heads_updHi (t : Tab) (u v) : (updHi t u v).heads = t.heads := by
  unfold updHi; split <;> rfl
@[simp] theorem size_updLo (t : Tab) (u v) : (updLo t u v).cells.size = t.cells.size := by
  unfold updLo; split <;> simp
@[simp] theorem size_updHi (t : Tab) (u v) : (updHi t u v).cells.size = t.cells.size := by
  unfold updHi; split <;> simp
@[simp] theorem InR_updLo (t : Tab) (u v w) : InR (updLo t u v) w ↔ InR t w := by
  simp [InR]
@[simp] theorem InR_updHi (t : Tab) (u v w) : InR (updHi t u v) w ↔ InR t w := by
  simp [InR]

theorem InR.lo {t : Tab} {u : Int} (h : InR t u) : 0 ≤ 2 * (u + t.heads) ∧ 2 * (u + t.heads) < t.cells.size := by
  unfold InR at h; omega
theorem InR.hi {t : Tab} {u : Int} (h : InR t u) : 0 ≤ 2 * (u + t.heads) + 1 ∧ 2 * (u + t.heads) + 1 < t.cells.size := by
  unfold InR at h; omega

theorem getLo_ok {t : Tab} {u : Int} (h : InR t u) : getLo t u = .ok (loC t u) := by
  simp [getLo, getEntry, loC, h, h.lo]
theorem getHi_ok {t : Tab} {u : Int} (h : InR t u) : getHi t u = .ok (hiC t u) := by
  simp [getHi, getEntry, hiC, h, h.hi]
theorem setLo_ok {t : Tab} {u : Int} (h : InR t u) (v : Nat) : setLo t u v = .ok (updLo t u v) := by
  simp [setLo, setEntry, updLo, h, h.lo]
theorem setHi_ok {t : Tab} {u : Int} (h : InR t u) (v : Nat) : setHi t u v = .ok (updHi t u v) := by
  simp [setHi, setEntry, updHi, h, h.hi]

theorem loC_updLo (t : Tab) (u : Int) (v : Nat) (w : Int) :
    loC (updLo t u v) w = if w = u ∧ InR t u then v else loC t w := by
  by_cases h : InR t u
  · simp only [h, and_true]
    by_cases hw : InR t w
    · have hw' := hw
      have h0 := h
      unfold InR at h hw'
      simp only [loC, InR_updLo, hw, if_true]
      by_cases e : w = u
      · subst e
        have : (2 * (w + t.heads)).toNat < t.cells.size := by omega
        simp [updLo, h0, this]
      · have : (2 * (u + t.heads)).toNat ≠ (2 * (w + t.heads)).toNat := by omega
        simp [updLo, h0, e, Array.getElem?_setIfInBounds_ne this]
    · have e : w ≠ u := fun e => hw (e ▸ h)
      simp [loC, hw, e]
  · rw [updLo, if_neg h, if_neg (fun c => h c.2)]

theorem hiC_updHi (t : Tab) (u : Int) (v : Nat) (w : Int) :
    hiC (updHi t u v) w = if w = u ∧ InR t u then v else hiC t w := by
  by_cases h : InR t u
  · simp only [h, and_true]
    by_cases hw : InR t w
    · have hw' := hw
      have h0 := h
      unfold InR at h hw'
      simp only [hiC, InR_updHi, hw, if_true]
      by_cases e : w = u
      · subst e
        have : (2 * (w + t.heads) + 1).toNat < t.cells.size := by omega
        simp [updHi, h0, this]
      · have : (2 * (u + t.heads) + 1).toNat ≠ (2 * (w + t.heads) + 1).toNat := by omega
        simp [updHi, h0, e, Array.getElem?_setIfInBounds_ne this]
    · have e : w ≠ u := fun e => hw (e ▸ h)
      simp [hiC, hw, e]
  · rw [updHi, if_neg h, if_neg (fun c => h c.2)]

@[simp] theorem loC_updHi (t : Tab) (u : Int) (v : Nat) (w : Int) : loC (updHi t u v) w = loC t w := by
  by_cases hu : InR t u
  · by_cases hw : InR t w
    · have hw' := hw
      have hu' := hu
      unfold InR at hw' hu'
      have : (2 * (u + t.heads) + 1).toNat ≠ (2 * (w + t.heads)).toNat := by omega
      simp only [loC, InR_updHi, hw, if_true]
      simp [updHi, hu, Array.getElem?_setIfInBounds_ne this]
    · simp [loC, hw]
  · simp [updHi, hu]

@[simp] theorem hiC_updLo (t : Tab) (u : Int) (v : Nat) (w : Int) : hiC (updLo t u v) w = hiC t w := by
  by_cases hu : InR t u
  · by_cases hw : InR t w
    · have hw' := hw
      have hu' := hu
      unfold InR at hw' hu'
      have : (2 * (u + t.heads)).toNat ≠ (2 * (w + t.heads) + 1).toNat := by omega
      simp only [hiC, InR_updLo, hw, if_true]
      simp [updLo, hu, Array.getElem?_setIfInBounds_ne this]
    · simp [hiC, hw]
  · simp [updLo, hu]

def fFree (t : Tab) (w : Int) : Bool := (loC t w).testBit 31
def fUnc (t : Tab) (w : Int) : Bool := (loC t w).testBit 30
def fPrev (t : Tab) (w : Int) : Nat := loC t w % 2 ^ 30
def fMulti (t : Tab) (w : Int) : Bool := (hiC t w).testBit 31
def fNext (t : Tab) (w : Int) : Nat := hiC t w % 2 ^ 30

/-- the 30-bit pattern a link / size value is stored as -/
def lk (v : Int) : Nat := enc v % 2 ^ 30

section upd
variable {t : Tab} {u : Int} {x : Nat} {w : Int}

/-! An entry update sets the fields of its own entry; so it leaves alone a field whose old value it writes
back (`*_keep`: as `simp` lemmas, with the side condition found among the mask lemmas of `FreeListBits`,
these are how every "this write leaves that field alone" is obtained).
The closing `split <;> rfl` pushes the field through the `if`; for `fPrev` / `fNext` the `rfl` also identifies
`lo30 x` with the `x % 2 ^ 30` their definitions spell out (as does the last `rfl` of `fPrev_wPrev`,
`fNext_wNext`, `fNext_wSize` for `lk v`): `lo30` exists only to keep `simp` from evaluating `2 ^ 30`. -/
theorem fFree_updLo : fFree (updLo t u x) w = if w = u ∧ InR t u then x.testBit 31 else fFree t w := by
  simp only [fFree, loC_updLo]; split <;> rfl
theorem fUnc_updLo : fUnc (updLo t u x) w = if w = u ∧ InR t u then x.testBit 30 else fUnc t w := by
  simp only [fUnc, loC_updLo]; split <;> rfl
theorem fPrev_updLo : fPrev (updLo t u x) w = if w = u ∧ InR t u then lo30 x else fPrev t w := by
  simp only [fPrev, loC_updLo]; split <;> rfl
theorem fMulti_updHi : fMulti (updHi t u x) w = if w = u ∧ InR t u then x.testBit 31 else fMulti t w := by
  simp only [fMulti, hiC_updHi]; split <;> rfl
theorem fNext_updHi : fNext (updHi t u x) w = if w = u ∧ InR t u then lo30 x else fNext t w := by
  simp only [fNext, hiC_updHi]; split <;> rfl

theorem ite_unit_eq {α : Type} {f : Int → α} {p : Prop} [Decidable p] {a : α} (h : a = f u) :
    (if w = u ∧ p then a else f w) = f w := by
  split
  · next c => rw [c.1, h]
  · rfl

@[simp] theorem fFree_updLo_keep (h : x.testBit 31 = (loC t u).testBit 31) : fFree (updLo t u x) w = fFree t w := by
  rw [fFree_updLo]; exact ite_unit_eq (f := fFree t) h
@[simp] theorem fUnc_updLo_keep (h : x.testBit 30 = (loC t u).testBit 30) : fUnc (updLo t u x) w = fUnc t w := by
  rw [fUnc_updLo]; exact ite_unit_eq (f := fUnc t) h
@[simp] theorem fPrev_updLo_keep (h : lo30 x = lo30 (loC t u)) : fPrev (updLo t u x) w = fPrev t w := by
  rw [fPrev_updLo]; exact ite_unit_eq (f := fPrev t) h
@[simp] theorem fMulti_updHi_keep (h : x.testBit 31 = (hiC t u).testBit 31) : fMulti (updHi t u x) w = fMulti t w := by
  rw [fMulti_updHi]; exact ite_unit_eq (f := fMulti t) h
@[simp] theorem fNext_updHi_keep (h : lo30 x = lo30 (hiC t u)) : fNext (updHi t u x) w = fNext t w := by
  rw [fNext_updHi]; exact ite_unit_eq (f := fNext t) h

@[simp] theorem fMulti_updLo : fMulti (updLo t u x) w = fMulti t w := by simp [fMulti]
@[simp] theorem fNext_updLo : fNext (updLo t u x) w = fNext t w := by simp [fNext]
@[simp] theorem fFree_updHi : fFree (updHi t u x) w = fFree t w := by simp [fFree]
@[simp] theorem fUnc_updHi : fUnc (updHi t u x) w = fUnc t w := by simp [fUnc]
@[simp] theorem fPrev_updHi : fPrev (updHi t u x) w = fPrev t w := by simp [fPrev]
end upd

/-! `simp` unfolds the writes to `updLo` / `updHi`, where the lemmas above say what they leave alone; what a
write sets is stated below. -/

def wFree (t : Tab) (u : Int) (b : Bool) : Tab :=
  updLo t u (if b then loC t u ||| B31 else loC t u &&& NOT_B31)
def wUnc (t : Tab) (u : Int) (b : Bool) : Tab :=
  updLo t u (if b then loC t u ||| B30 else loC t u &&& NOT_B30)
def wPrev (t : Tab) (u : Int) (v : Int) : Tab :=
  updLo t u ((loC t u &&& NOT_M30) ||| (enc v &&& M30))
def wMulti (t : Tab) (u : Int) (b : Bool) : Tab :=
  updHi t u (if b then hiC t u ||| B31 else hiC t u &&& NOT_B31)
def wNext (t : Tab) (u : Int) (v : Int) : Tab :=
  updHi t u ((hiC t u &&& NOT_M30) ||| (enc v &&& M30))
def wSize (t : Tab) (u : Int) (sz : Int) : Tab := updHi t u (B31 ||| enc sz)

attribute [simp] wFree wUnc wPrev wMulti wNext wSize

section writes
variable (t : Tab) (u : Int) (b : Bool) (v : Int) (w : Int)
theorem InR_wUnc : InR (wUnc t u b) w ↔ InR t w := by simp [wUnc]

theorem fFree_wFree : fFree (wFree t u b) w = if w = u ∧ InR t u then b else fFree t w := by
  rw [wFree, fFree_updLo, flag31_t31]
theorem fUnc_wUnc : fUnc (wUnc t u b) w = if w = u ∧ InR t u then b else fUnc t w := by
  rw [wUnc, fUnc_updLo, flag30_t30]
theorem fPrev_wPrev : fPrev (wPrev t u v) w = if w = u ∧ InR t u then lk v else fPrev t w := by
  rw [wPrev, fPrev_updLo, setLink_lnk]; rfl
theorem fMulti_wMulti : fMulti (wMulti t u b) w = if w = u ∧ InR t u then b else fMulti t w := by
  rw [wMulti, fMulti_updHi, flag31_t31]
theorem fNext_wMulti : fNext (wMulti t u b) w = fNext t w := by simp
theorem fNext_wNext : fNext (wNext t u v) w = if w = u ∧ InR t u then lk v else fNext t w := by
  rw [wNext, fNext_updHi, setLink_lnk]; rfl
theorem fNext_wPrev : fNext (wPrev t u v) w = fNext t w := by simp
theorem fPrev_wNext : fPrev (wNext t u v) w = fPrev t w := by simp
theorem InR_wPrev : InR (wPrev t u v) w ↔ InR t w := by simp
theorem InR_wNext : InR (wNext t u v) w ↔ InR t w := by simp
theorem fMulti_wSize : fMulti (wSize t u v) w = if w = u ∧ InR t u then true else fMulti t w := by
  rw [wSize, fMulti_updHi, B31_or_t31]
theorem fNext_wSize : fNext (wSize t u v) w = if w = u ∧ InR t u then lk v else fNext t w := by
  rw [wSize, fNext_updHi, B31_or_lnk]; rfl
end writes

/-- decode a stored link: a value above `MAX_UNITS` stands for the head of the list being walked -/
def dl (head : Int) (x : Nat) : Int := if (x : Int) ≤ MAX_UNITS then (x : Int) else head

theorem lk_unit {v : Int} (h0 : 0 ≤ v) (h1 : v ≤ MAX_UNITS) : (lk v : Int) = v := by
  simp only [MAX_UNITS] at h1
  simp only [lk, enc]; omega
theorem dl_lk_unit (head : Int) {v : Int} (h0 : 0 ≤ v) (h1 : v ≤ MAX_UNITS) : dl head (lk v) = v := by
  simp only [dl, lk_unit h0 h1, h1, if_true]
theorem dl_lk_head (head : Int) {v : Int} (h0 : -MAX_HEADS ≤ v) (h1 : v < 0) : dl head (lk v) = head := by
  have : ¬ ((lk v : Nat) : Int) ≤ MAX_UNITS := by
    simp only [MAX_HEADS] at h0
    simp only [MAX_UNITS, lk, enc]; omega
  simp only [dl, this, if_false]

def nxt (t : Tab) (head u : Int) : Int := dl head (fNext t u)
def prv (t : Tab) (head u : Int) : Int := dl head (fPrev t u)
/-- `get_size` as a function of the fields -/
def sizeOf (t : Tab) (u : Int) : Int := if fMulti t u then (fNext t (u + 1) : Int) else 1
/-- `get_left` as a function of the fields -/
def leftOf (t : Tab) (u : Int) : Int := if fMulti t (u - 1) then u - (fNext t (u - 1) : Int) else u - 1

theorem getFree_ok {t : Tab} {u : Int} (h : InR t u) : getFree t u = .ok (fFree t u) := by
  simp [getFree, getLo_ok h, bind, Except.bind, pure, Except.pure, and_B31_beq, fFree]
theorem isCoalescable_ok {t : Tab} {u : Int} (h : InR t u) : isCoalescable t u = .ok (!fUnc t u) := by
  simp [isCoalescable, getLo_ok h, bind, Except.bind, pure, Except.pure, and_B30_beq, fUnc]
theorem getNext_ok {t : Tab} {u : Int} (h : InR t u) (head : Int) : getNext t head u = .ok (nxt t head u) := by
  unfold getNext
  rw [getHi_ok h]
  simp only [bind, Except.bind, pure, Except.pure, and_M30]
  rfl
theorem getPrev_ok {t : Tab} {u : Int} (h : InR t u) (head : Int) : getPrev t head u = .ok (prv t head u) := by
  unfold getPrev
  rw [getLo_ok h]
  simp only [bind, Except.bind, pure, Except.pure, and_M30]
  rfl
theorem getSize_ok {t : Tab} {u : Int} (h : InR t u) (h1 : fMulti t u = true → InR t (u + 1)) :
    getSize t u = .ok (sizeOf t u) := by
  unfold getSize sizeOf
  simp only [getHi_ok h, bind, Except.bind, and_B31_beq]
  by_cases hm : fMulti t u = true
  · have hm' : (hiC t u).testBit 31 = true := hm
    simp [hm, hm', getHi_ok (h1 hm), pure, Except.pure, and_M30, fNext]
  · have hm' : (hiC t u).testBit 31 = false := by simpa [fMulti] using hm
    simp [hm, hm', pure, Except.pure]
theorem getLeft_ok {t : Tab} {u : Int} (h : InR t (u - 1)) : getLeft t u = .ok (leftOf t u) := by
  unfold getLeft
  rw [getHi_ok h]
  simp only [bind, Except.bind, pure, Except.pure, and_M30, and_B31_beq]
  rfl
/-- the range assertion on the link is a `debug_assert!` -/
theorem setNext_ok {t : Tab} {u : Int} (h : InR t u) (debug : Bool) {v : Int}
    (hv : debug = true → -t.heads ≤ v ∧ v ≤ MAX_UNITS) : setNext debug t u v = .ok (wNext t u v) := by
  cases debug
  · simp [setNext, getHi_ok h, setHi_ok h, bind, Except.bind, wNext]
  · simp [setNext, (hv rfl).1, (hv rfl).2, getHi_ok h, setHi_ok h, bind, Except.bind, wNext]
theorem setPrev_ok {t : Tab} {u : Int} (h : InR t u) (debug : Bool) {v : Int}
    (hv : debug = true → -t.heads ≤ v ∧ v ≤ MAX_UNITS) : setPrev debug t u v = .ok (wPrev t u v) := by
  cases debug
  · simp [setPrev, getLo_ok h, setLo_ok h, bind, Except.bind, wPrev]
  · simp [setPrev, (hv rfl).1, (hv rfl).2, getLo_ok h, setLo_ok h, bind, Except.bind, wPrev]
theorem setUncoalescable_ok {t : Tab} {u : Int} (h : InR t u) : setUncoalescable t u = .ok (wUnc t u true) := by
  simp [setUncoalescable, getLo_ok h, setLo_ok h, bind, Except.bind, wUnc]
theorem clearUncoalescable_ok {t : Tab} {u : Int} (h : InR t u) : clearUncoalescable t u = .ok (wUnc t u false) := by
  simp [clearUncoalescable, getLo_ok h, setLo_ok h, bind, Except.bind, wUnc]

def pSetSize (t : Tab) (u sz : Int) : Tab :=
  if sz > 1 then wSize (wSize (wMulti t u true) (u + 1) sz) (u + sz - 1) sz else wMulti t u false

theorem setSize_ok {t : Tab} {u sz : Int} (h : InR t u) (h1 : sz > 1 → InR t (u + 1) ∧ InR t (u + sz - 1)) :
    setSize t u sz = .ok (pSetSize t u sz) := by
  unfold setSize pSetSize
  simp only [getHi_ok h, bind, Except.bind]
  by_cases hs : sz > 1
  · obtain ⟨ha, hb⟩ := h1 hs
    have e1 : setHi t u (hiC t u ||| B31) = .ok (wMulti t u true) := by simp [setHi_ok h, wMulti]
    have ha' : InR (wMulti t u true) (u + 1) := by simpa using ha
    have hb' : InR (wSize (wMulti t u true) (u + 1) sz) (u + sz - 1) := by simpa using hb
    have e2 : setHi (wMulti t u true) (u + 1) (B31 ||| enc sz) = .ok (wSize (wMulti t u true) (u + 1) sz) :=
      setHi_ok ha' _
    have e3 : setHi (wSize (wMulti t u true) (u + 1) sz) (u + sz - 1) (B31 ||| enc sz) =
        .ok (wSize (wSize (wMulti t u true) (u + 1) sz) (u + sz - 1) sz) := setHi_ok hb' _
    simp only [hs, if_true, e1, e2, e3]
  · simp [hs, setHi_ok h, wMulti]

theorem setSize_range {t : Tab} {u sz : Int} (hsz : 1 ≤ sz) (hR : ∀ w : Int, u ≤ w → w < u + sz → InR t w) :
    setSize t u sz = .ok (pSetSize t u sz) :=
  setSize_ok (hR _ (Int.le_refl _) (by omega)) fun _ => ⟨hR _ (by omega) (by omega), hR _ (by omega) (by omega)⟩

def pSetFree (t : Tab) (u : Int) (b : Bool) : Tab :=
  if sizeOf t u > 1 then wFree (wFree t u b) (u + sizeOf t u - 1) b else wFree t u b

theorem sizeOf_wFree (t : Tab) (u : Int) (b : Bool) (w : Int) : sizeOf (wFree t u b) w = sizeOf t w := by
  simp [sizeOf]

theorem setFree_ok {t : Tab} {u : Int} {b : Bool} (h : InR t u) (h1 : fMulti t u = true → InR t (u + 1))
    (h2 : sizeOf t u > 1 → InR t (u + sizeOf t u - 1)) : setFree t u b = .ok (pSetFree t u b) := by
  unfold setFree pSetFree
  have hsz : getSize (wFree t u b) u = .ok (sizeOf t u) := by
    rw [getSize_ok (by simpa using h) (by simpa using h1), sizeOf_wFree]
  have hw : ∀ {t' : Tab} {x : Int}, InR t' x →
      setLo t' x (if b then loC t' x ||| B31 else loC t' x &&& NOT_B31) = .ok (wFree t' x b) := fun hx => setLo_ok hx _
  have e1 := hw h
  by_cases hs : sizeOf t u > 1
  · have hi : InR (wFree t u b) (u + sizeOf t u - 1) := by simpa using h2 hs
    have e2 := hw hi
    cases b <;> simp only [Bool.false_eq_true, if_false, if_true] at e1 e2 hsz ⊢ <;>
      simp only [getLo_ok h, bind, Except.bind, e1, hsz, hs, if_true, getLo_ok hi, e2]
  · cases b <;> simp only [Bool.false_eq_true, if_false, if_true] at e1 hsz ⊢ <;>
      simp only [getLo_ok h, bind, Except.bind, e1, hsz, hs, if_false, pure, Except.pure]

/-- The size fields of the run `[l, r)`: what `get_size(l)` and `get_left(r)` read.  These are the
fields `multi`, `sz` of `RunOK` (`FreeListRel`), on their own because `set_size` / `set_free` are
followed on tables that do not satisfy the rest of the invariant yet. -/
structure Sized (t : Tab) (l r : Nat) : Prop where
  multi : fMulti t (l : Int) = decide (l + 1 < r)
  sz : l + 1 < r → fNext t ((l : Int) + 1) = r - l ∧ fMulti t ((r : Int) - 1) = true ∧ fNext t ((r : Int) - 1) = r - l

theorem Sized.sizeOf {t : Tab} {l r : Nat} (h : Sized t l r) (hlr : l < r) : sizeOf t (l : Int) = (r : Int) - l := by
  unfold FreeList.sizeOf
  rw [h.multi]
  by_cases hm : l + 1 < r
  · rw [decide_eq_true hm, if_pos rfl, (h.sz hm).1]; omega
  · rw [decide_eq_false hm, if_neg Bool.false_ne_true]; omega

theorem Sized.leftOf {t : Tab} {l r : Nat} (h : Sized t l r) (hlr : l < r) : leftOf t (r : Int) = (l : Int) := by
  unfold FreeList.leftOf
  by_cases hm : l + 1 < r
  · rw [(h.sz hm).2.1, if_pos rfl, (h.sz hm).2.2]; omega
  · have e : (r : Int) - 1 = (l : Int) := by omega
    rw [e, h.multi, decide_eq_false hm, if_neg Bool.false_ne_true]

theorem Sized.congr {t t' : Tab} {l r : Nat} (h : Sized t l r) (hlr : l < r)
    (hM : ∀ w : Int, (l : Int) ≤ w → w < r → fMulti t' w = fMulti t w)
    (hN : ∀ w : Int, (l : Int) < w → w < r → fNext t' w = fNext t w) : Sized t' l r :=
  ⟨by rw [hM _ (Int.le_refl _) (by omega)]; exact h.multi, fun hm => by
    rw [hN _ (by omega) (by omega), hM _ (by omega) (by omega), hN _ (by omega) (by omega)]; exact h.sz hm⟩

theorem getSize_sized {t : Tab} {l r : Nat} (hs : Sized t l r) (hlr : l < r)
    (hR : ∀ w : Int, (l : Int) ≤ w → w < r → InR t w) : getSize t (l : Int) = .ok ((r : Int) - l) := by
  rw [getSize_ok (hR _ (Int.le_refl _) (by omega)), hs.sizeOf hlr]
  intro hm
  rw [hs.multi, decide_eq_true_eq] at hm
  exact hR _ (by omega) (by omega)

theorem setFree_sized {t : Tab} {l r : Nat} (hs : Sized t l r) (hlr : l < r)
    (hR : ∀ w : Int, (l : Int) ≤ w → w < r → InR t w) (b : Bool) :
    setFree t (l : Int) b = .ok (pSetFree t (l : Int) b) := by
  refine setFree_ok (hR _ (Int.le_refl _) (by omega)) (fun hm => ?_) (fun _ => ?_)
  · rw [hs.multi, decide_eq_true_eq] at hm
    exact hR _ (by omega) (by omega)
  · rw [hs.sizeOf hlr]; exact hR _ (by omega) (by omega)

/-- `t'` differs from `t` at most in the FREE / MULTI flags of the units of `[lo, hi)` and in the
size fields strictly inside: what `set_size` and `set_free` of a run `[lo, hi)` may change. -/
structure SameOutside (t t' : Tab) (lo hi : Int) : Prop where
  heads : t'.heads = t.heads
  size : t'.cells.size = t.cells.size
  unc : ∀ w, fUnc t' w = fUnc t w
  prev : ∀ w, fPrev t' w = fPrev t w
  free : ∀ w, w < lo ∨ hi ≤ w → fFree t' w = fFree t w
  multi : ∀ w, w < lo ∨ hi ≤ w → fMulti t' w = fMulti t w
  next : ∀ w, w ≤ lo ∨ hi ≤ w → fNext t' w = fNext t w

namespace SameOutside
variable {t t' t'' : Tab} {lo hi lo' hi' : Int}

theorem refl (t : Tab) (lo hi : Int) : SameOutside t t lo hi :=
  ⟨rfl, rfl, fun _ => rfl, fun _ => rfl, fun _ _ => rfl, fun _ _ => rfl, fun _ _ => rfl⟩

theorem trans (h : SameOutside t t' lo hi) (h' : SameOutside t' t'' lo hi) : SameOutside t t'' lo hi :=
  ⟨h'.heads.trans h.heads, h'.size.trans h.size, fun w => (h'.unc w).trans (h.unc w),
   fun w => (h'.prev w).trans (h.prev w), fun w hw => (h'.free w hw).trans (h.free w hw),
   fun w hw => (h'.multi w hw).trans (h.multi w hw), fun w hw => (h'.next w hw).trans (h.next w hw)⟩

theorem mono (h : SameOutside t t' lo hi) (h1 : lo' ≤ lo) (h2 : hi ≤ hi') : SameOutside t t' lo' hi' :=
  ⟨h.heads, h.size, h.unc, h.prev, fun w hw => h.free w (by omega), fun w hw => h.multi w (by omega),
   fun w hw => h.next w (by omega)⟩

theorem inR (h : SameOutside t t' lo hi) (w : Int) : InR t' w ↔ InR t w := by
  simp only [InR, h.heads, h.size]

end SameOutside

section psets
variable (t : Tab) (u sz : Int) (b : Bool) (w : Int)
@[simp] theorem heads_pSetSize : (pSetSize t u sz).heads = t.heads := by unfold pSetSize; split <;> simp
@[simp] theorem size_pSetSize : (pSetSize t u sz).cells.size = t.cells.size := by unfold pSetSize; split <;> simp
@[simp] theorem InR_pSetSize : InR (pSetSize t u sz) w ↔ InR t w := by simp [InR]
@[simp] theorem fFree_pSetSize : fFree (pSetSize t u sz) w = fFree t w := by unfold pSetSize; split <;> simp
@[simp] theorem fUnc_pSetSize : fUnc (pSetSize t u sz) w = fUnc t w := by unfold pSetSize; split <;> simp
@[simp] theorem fPrev_pSetSize : fPrev (pSetSize t u sz) w = fPrev t w := by unfold pSetSize; split <;> simp
@[simp] theorem heads_pSetFree : (pSetFree t u b).heads = t.heads := by unfold pSetFree; split <;> simp
@[simp] theorem size_pSetFree : (pSetFree t u b).cells.size = t.cells.size := by unfold pSetFree; split <;> simp
@[simp] theorem InR_pSetFree : InR (pSetFree t u b) w ↔ InR t w := by simp [InR]
@[simp] theorem fUnc_pSetFree : fUnc (pSetFree t u b) w = fUnc t w := by unfold pSetFree; split <;> simp
@[simp] theorem fPrev_pSetFree : fPrev (pSetFree t u b) w = fPrev t w := by unfold pSetFree; split <;> simp
@[simp] theorem fMulti_pSetFree : fMulti (pSetFree t u b) w = fMulti t w := by unfold pSetFree; split <;> simp
@[simp] theorem fNext_pSetFree : fNext (pSetFree t u b) w = fNext t w := by unfold pSetFree; split <;> simp
theorem sizeOf_pSetFree : sizeOf (pSetFree t u b) w = sizeOf t w := by simp [sizeOf]
@[simp] theorem nxt_pSetFree (h : Int) : nxt (pSetFree t u b) h w = nxt t h w := by simp [nxt]
theorem prv_pSetFree (h : Int) : prv (pSetFree t u b) h w = prv t h w := by simp [prv]
end psets

theorem sameOutside_pSetSize (t : Tab) (u sz : Int) (h1 : 1 ≤ sz) : SameOutside t (pSetSize t u sz) u (u + sz) := by
  refine ⟨by simp, by simp, fun _ => by simp, fun _ => by simp, fun _ _ => by simp, fun w hw => ?_, fun w hw => ?_⟩ <;>
    unfold pSetSize <;> split
  · have c1 : w ≠ u + sz - 1 := by omega
    have c2 : w ≠ u + 1 := by omega
    have c3 : w ≠ u := by omega
    simp only [fMulti_wSize, fMulti_wMulti, c1, c2, c3, false_and, if_false]
  · have c3 : w ≠ u := by omega
    simp only [fMulti_wMulti, c3, false_and, if_false]
  · have c1 : w ≠ u + sz - 1 := by omega
    have c2 : w ≠ u + 1 := by omega
    simp only [fNext_wSize, fNext_wMulti, c1, c2, false_and, if_false]
  · simp only [fNext_wMulti]

/-- `u`, `sz` are tied to `l`, `r` by equations because the callers have them as `Int` terms of their own
(`(s : Int) + n`, `(e : Int) - s - n`): they pass `rfl` or `by omega`. -/
theorem sized_pSetSize {t : Tab} {l r : Nat} {u sz : Int} (hu : u = l) (hsz : sz = (r : Int) - l) (hlr : l < r)
    (hmax : (r : Int) ≤ MAX_UNITS) (hR : ∀ w : Int, (l : Int) ≤ w → w < r → InR t w) : Sized (pSetSize t u sz) l r := by
  subst hu hsz
  have hl := hR l (Int.le_refl _) (by omega)
  unfold pSetSize
  by_cases hm : l + 1 < r
  · have hs : (r : Int) - l > 1 := by omega
    have h1 := hR ((l : Int) + 1) (by omega) (by omega)
    have h2 := hR ((l : Int) + ((r : Int) - l) - 1) (by omega) (by omega)
    have hlk : lk ((r : Int) - l) = r - l := by
      have := lk_unit (v := (r : Int) - l) (by omega) (by omega); omega
    have e : (r : Int) - 1 = (l : Int) + ((r : Int) - l) - 1 := by omega
    rw [if_pos hs]
    refine ⟨?_, fun _ => ⟨?_, ?_, ?_⟩⟩
    · simp only [fMulti_wSize, fMulti_wMulti, hl, and_true, if_true, ite_self, decide_eq_true hm]
    · have i1 : InR (wMulti t l true) ((l : Int) + 1) := by simpa using h1
      simp only [fNext_wSize, i1, and_true, if_true, ite_self, hlk]
    · rw [e, fMulti_wSize, if_pos ⟨rfl, by simpa using h2⟩]
    · rw [e, fNext_wSize, if_pos ⟨rfl, by simpa using h2⟩, hlk]
  · have hs : ¬ (r : Int) - l > 1 := by omega
    rw [if_neg hs]
    exact ⟨by simp only [fMulti_wMulti, hl, and_true, if_true, decide_eq_false hm], fun c => absurd c hm⟩

theorem sameOutside_pSetFree (t : Tab) (u : Int) (b : Bool) {hi : Int} (hs : sizeOf t u = hi - u) (h1 : u < hi) :
    SameOutside t (pSetFree t u b) u hi := by
  refine ⟨by simp, by simp, fun _ => by simp, fun _ => by simp, fun w hw => ?_, fun _ _ => by simp, fun _ _ => by simp⟩
  have c1 : w ≠ u := by omega
  have c2 : w ≠ u + (hi - u) - 1 := by omega
  unfold pSetFree
  rw [hs]
  split <;> simp only [fFree_wFree, c1, c2, false_and, if_false]

theorem fFree_pSetFree_self {t : Tab} {u : Int} (h : InR t u) (b : Bool) : fFree (pSetFree t u b) u = b := by
  unfold pSetFree
  split <;> simp only [fFree_wFree, h, and_true, if_true, ite_self]

theorem Sized.pSetFree {t : Tab} {l r : Nat} (h : Sized t l r) (hlr : l < r) (u : Int) (b : Bool) :
    Sized (pSetFree t u b) l r :=
  h.congr hlr (fun _ _ _ => fMulti_pSetFree ..) (fun _ _ _ => fNext_pSetFree ..)

end Mmtk.FreeList
