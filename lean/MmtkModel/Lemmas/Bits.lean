/-!
# Masks, powers of two and leading bits over `Nat`: bit operations of the modelled code as arithmetic;
at the end the alignment padding `padSpec` (the specification of `align_allocation`, C33/C03) with its laws
(core Lean only)
-/
namespace Mmtk.Bits

theorem sub_mod_eq_mul_div (x d : Nat) : x - x % d = d * (x / d) := by
  have := Nat.div_add_mod x d; omega

/-- `2^64 - 2^k` is the `u64` mask `!(2^k - 1)`. -/
theorem and_not_mask (x k : Nat) (hk : k ≤ 64) (hx : x < 2^64) :
    x &&& (2^64 - 2^k) = x - x % 2^k := by
  have h2 : 2^64 - 2^k = 2^k * (2^(64-k) - 1) := by
    rw [Nat.mul_sub, Nat.mul_one, ← Nat.pow_add, Nat.add_sub_cancel' hk]
  rw [sub_mod_eq_mul_div, h2]
  apply Nat.eq_of_testBit_eq
  intro i
  rw [Nat.testBit_and, Nat.testBit_two_pow_mul, Nat.testBit_two_pow_mul, Nat.testBit_two_pow_sub_one,
    Nat.testBit_div_two_pow]
  by_cases hik : k ≤ i
  · rw [Nat.sub_add_cancel hik]
    by_cases hi : i < 64
    · simp [hik, show i - k < 64 - k by omega]
    · -- bits of `x` from 64 up are clear
      simp [Nat.testBit_lt_two_pow (Nat.lt_of_lt_of_le hx (Nat.pow_le_pow_right (by omega) (Nat.le_of_not_lt hi)))]
  · simp [hik]

theorem and_mask_shift (d w s : Nat) : (d &&& ((2 ^ w - 1) <<< s)) >>> s = (d / 2 ^ s) % 2 ^ w := by
  rw [Nat.shiftRight_and_distrib, Nat.shiftLeft_shiftRight, Nat.and_two_pow_sub_one_eq_mod,
    Nat.shiftRight_eq_div_pow]

theorem and_two_pow_eq (x i : Nat) : x &&& 2 ^ i = if x.testBit i then 2 ^ i else 0 := by
  apply Nat.eq_of_testBit_eq
  intro j
  rw [Nat.testBit_and, Nat.testBit_two_pow]
  by_cases h : i = j
  · subst h
    cases hx : x.testBit i <;> simp
  · cases hx : x.testBit i <;> simp [h]

theorem two_pow_le_64 {k : Nat} (hk : k ≤ 64) : 2^k ≤ 2^64 :=
  Nat.pow_le_pow_right (by omega) hk

theorem two_pow_lt_64 {k : Nat} (hk : k < 64) : 2^k < 2^64 :=
  Nat.pow_lt_pow_right (by omega) hk

theorem add_le_of_dvd_of_lt {k x y : Nat} (hx : k ∣ x) (hy : k ∣ y) (h : x < y) : x + k ≤ y := by
  obtain ⟨c, rfl⟩ := hx
  obtain ⟨d, rfl⟩ := hy
  have : c < d := Nat.lt_of_mul_lt_mul_left h
  exact Nat.mul_succ k c ▸ Nat.mul_le_mul_left k this

/-- The three leading bits of `v ≥ 4`: with `4·⌊log₂ v⌋` they make the bin index of `mi_bin_from_size` (C35,
`binOfWsize_eq`), which `quarterLog_mono` shows monotone. -/
theorem lead3 {v : Nat} (hv : 4 ≤ v) : 4 ≤ v / 2 ^ (v.log2 - 2) ∧ v / 2 ^ (v.log2 - 2) < 8 := by
  have hb : 2 ≤ v.log2 := (Nat.le_log2 (by omega)).2 hv
  have hp : 2 ^ v.log2 = 4 * 2 ^ (v.log2 - 2) := by
    rw [show (4 : Nat) = 2 ^ 2 from rfl, ← Nat.pow_add]; congr 1; omega
  have h1 := Nat.log2_self_le (n := v) (by omega)
  have h2 := Nat.lt_log2_self (n := v)
  rw [Nat.pow_succ, hp] at h2
  rw [hp] at h1
  exact ⟨(Nat.le_div_iff_mul_le (Nat.two_pow_pos _)).2 h1,
    (Nat.div_lt_iff_lt_mul (Nat.two_pow_pos _)).2 (by omega)⟩

/-- Within one binary order of magnitude the leading bits grow; from one order to the next they fall
from below 8 to at least 4 while `4·⌊log₂ v⌋` gains at least 4. -/
theorem quarterLog_mono {u v : Nat} (hu : 4 ≤ u) (huv : u ≤ v) :
    4 * u.log2 + u / 2 ^ (u.log2 - 2) ≤ 4 * v.log2 + v / 2 ^ (v.log2 - 2) := by
  have hlog : u.log2 ≤ v.log2 :=
    (Nat.le_log2 (by omega)).2 (Nat.le_trans (Nat.log2_self_le (by omega)) huv)
  rcases Nat.eq_or_lt_of_le hlog with e | hlt
  · rw [e]; exact Nat.add_le_add_left (Nat.div_le_div_right huv) _
  · have := lead3 hu; have := lead3 (Nat.le_trans hu huv); omega

end Mmtk.Bits

namespace Mmtk.AllocArith
open Mmtk.Bits

/-- the padding C03 allows: the least `p` with `(region + p + offset) % align = 0`; C33 proves that `align_allocation` adds
exactly this (`alignAllocation_val`), C03Algo (whose namespace this is) states every allocator's result with it. -/
def padSpec (region align offset : Nat) : Nat := (align - (region + offset) % align) % align

variable {region align offset : Nat}

theorem padSpec_spec (ha : 0 < align) (region offset : Nat) :
    padSpec region align offset < align ∧ align ∣ region + offset + padSpec region align offset := by
  have hm := Nat.mod_lt (region + offset) ha
  refine ⟨Nat.mod_lt _ ha, Nat.dvd_of_mod_eq_zero ?_⟩
  unfold padSpec
  rw [Nat.add_mod, Nat.mod_mod]
  by_cases h0 : (region + offset) % align = 0
  · rw [h0, Nat.sub_zero, Nat.mod_self, Nat.add_zero, Nat.zero_mod]
  · rw [Nat.mod_eq_of_lt (Nat.sub_lt ha (Nat.pos_of_ne_zero h0)), Nat.add_sub_cancel' (Nat.le_of_lt hm),
      Nat.mod_self]

/-- two multiples of `align` less than `align` apart coincide -/
theorem padSpec_unique {p : Nat} (hp : p < align) (h : align ∣ region + offset + p) :
    p = padSpec region align offset := by
  obtain ⟨hq, hd⟩ := padSpec_spec (Nat.zero_lt_of_lt hp) region offset
  have key : ∀ {p q : Nat}, p < q → q < align → align ∣ region + offset + p → align ∣ region + offset + q → False :=
    fun hpq hq h1 h2 => by
      have := Nat.le_of_dvd (by omega) (Nat.dvd_sub h2 h1)
      omega
  rcases Nat.lt_trichotomy p (padSpec region align offset) with hlt | e | hlt
  · exact (key hlt hq h hd).elim
  · exact e
  · exact (key hlt hp hd h).elim

theorem padSpec_eq_zero (h : align ∣ region + offset) : padSpec region align offset = 0 := by
  unfold padSpec; rw [Nat.mod_eq_zero_of_dvd h, Nat.sub_zero, Nat.mod_self]

/-- the padding keeps every alignment `k ∣ align` that `region + offset` has, so it stops `k` short of `align` -/
theorem padSpec_add_le {k : Nat} (hka : k ∣ align) (hkx : k ∣ region + offset) (ha : 0 < align) :
    k ∣ padSpec region align offset ∧ padSpec region align offset + k ≤ align := by
  obtain ⟨hlt, hd⟩ := padSpec_spec ha region offset
  have hkp : k ∣ padSpec region align offset := (Nat.dvd_add_iff_right hkx).2 (Nat.dvd_trans hka hd)
  exact ⟨hkp, add_le_of_dvd_of_lt hkp hka hlt⟩

end Mmtk.AllocArith
