import MmtkModel.Lemmas.SchedBase
/-!
# Packet conservation for the scheduler model (used by Props/C15)

`added = queued + started` and `started = running + ended` in every reachable state (`InvK`), where `queued` counts
every bucket queue, sentinel slot, local deque and designated queue.  Both come from one statement about an arbitrary
weight `μ` of the packets: `wQ μ c s` sums `μ` over the queued packets, `wR μ c s` over the packets the workers run,
and `step_weight` says what a step does to both — packets are created into the queues, taken from the queues by the
worker that then runs them, and end.  `μ = 1` gives the counting form here, the indicator of one id the uniqueness of
packet ids (`Lemmas/SchedIds.lean`).
-/
namespace Mmtk.Sched

def bktCount (k : Bucket) : Nat := k.q.length + (if k.sentinel.isSome then 1 else 0)

def qBkt (c : Cfg) (s : State) : Nat := sumW c.L (fun b => bktCount (s.bkt b))
def qBuf (c : Cfg) (s : State) : Nat := sumW c.n (fun w => (s.buf w).length)
def qDes (c : Cfg) (s : State) : Nat := sumW c.n (fun w => (s.desig w).length)
def queued (c : Cfg) (s : State) : Nat := qBkt c s + qBuf c s + qDes c s
def running (c : Cfg) (s : State) : Nat := countW c.n (fun x => (s.pc x).isExec)

theorem qBkt_setBkt (c : Cfg) (s : State) (b0 : Nat) (k : Bucket) (hb : b0 < c.L) :
    qBkt c (setBkt s b0 k) + bktCount (s.bkt b0) = qBkt c s + bktCount k :=
  sumW_set c.L bktCount s.bkt b0 k hb

theorem qBuf_setBuf (c : Cfg) (s : State) (w : Nat) (l : List Pkt) (hw : w < c.n) :
    qBuf c (setBuf s w l) + (s.buf w).length = qBuf c s + l.length :=
  sumW_set c.n List.length s.buf w l hw

theorem qDes_setDesig (c : Cfg) (s : State) (w : Nat) (l : List Pkt) (hw : w < c.n) :
    qDes c (setDesig s w l) + (s.desig w).length = qDes c s + l.length :=
  sumW_set c.n List.length s.desig w l hw

theorem running_setPc (c : Cfg) (s : State) (w : Nat) (p : PC) (hw : w < c.n) :
    running c (setPc s w p) + (if (s.pc w).isExec then 1 else 0) = running c s + (if p.isExec then 1 else 0) :=
  countW_set c.n PC.isExec s.pc w p hw

theorem running_of_pc (c : Cfg) {s s' : State} (h : ∀ x, (s'.pc x).isExec = (s.pc x).isExec) : running c s' = running c s :=
  countW_congr _ _ _ (fun x _ => h x)
theorem running_of_pcfun (c : Cfg) {s t : State} (h : s.pc = t.pc) : running c s = running c t := by unfold running; rw [h]

structure InvK (c : Cfg) (s : State) : Prop where
  added_eq : s.added = queued c s + s.started
  started_eq : s.started = running c s + s.ended

def wList (μ : Pkt → Nat) (l : List Pkt) : Nat := (l.map μ).sum

theorem wList_cons (μ : Pkt → Nat) (p : Pkt) (l : List Pkt) : wList μ (p :: l) = wList μ l + μ p := by
  simp [wList, Nat.add_comm]

theorem wList_erase {l : List Pkt} {p : Pkt} (h : p ∈ l) (μ : Pkt → Nat) :
    wList μ (l.erase p) + wList μ [p] = wList μ l + wList μ [] :=
  Sums.sum_map_erase μ h

def wBkt (μ : Pkt → Nat) (k : Bucket) : Nat := wList μ k.q + wList μ k.sentinel.toList

def wPc (μ : Pkt → Nat) : PC → Nat
  | .exec p => μ p
  | _ => 0

theorem wPc_idle (μ : Pkt → Nat) {p : PC} (h : p.isExec = false) : wPc μ p = 0 := by
  cases p <;> first | rfl | cases h

def wQ (μ : Pkt → Nat) (c : Cfg) (s : State) : Nat :=
  sumW c.L (fun b => wBkt μ (s.bkt b)) + sumW c.n (fun w => wList μ (s.buf w)) + sumW c.n (fun w => wList μ (s.desig w))

def wR (μ : Pkt → Nat) (c : Cfg) (s : State) : Nat := sumW c.n (fun w => wPc μ (s.pc w))

/-! What a change of one container does to the queued weight, in the form `PktStep` has it: `taken` leave the container, `new`
enter it. -/

theorem wQ_setBkt {c : Cfg} (s : State) {b : Nat} {k : Bucket} (hb : b < c.L) {taken new : List Pkt}
    (h : ∀ μ, wBkt μ k + wList μ taken = wBkt μ (s.bkt b) + wList μ new) (μ : Pkt → Nat) :
    wQ μ c (setBkt s b k) + wList μ taken = wQ μ c s + wList μ new := by
  have := sumW_set c.L (wBkt μ) s.bkt b k hb
  have := h μ
  unfold wQ
  simp only [setBkt]
  omega

theorem wQ_setBuf {c : Cfg} (s : State) {w : Nat} {l : List Pkt} (hw : w < c.n) {taken new : List Pkt}
    (h : ∀ μ, wList μ l + wList μ taken = wList μ (s.buf w) + wList μ new) (μ : Pkt → Nat) :
    wQ μ c (setBuf s w l) + wList μ taken = wQ μ c s + wList μ new := by
  have := sumW_set c.n (wList μ) s.buf w l hw
  have := h μ
  unfold wQ
  simp only [setBuf]
  omega

theorem wQ_setDesig {c : Cfg} (s : State) {w : Nat} {l : List Pkt} (hw : w < c.n) {taken new : List Pkt}
    (h : ∀ μ, wList μ l + wList μ taken = wList μ (s.desig w) + wList μ new) (μ : Pkt → Nat) :
    wQ μ c (setDesig s w l) + wList μ taken = wQ μ c s + wList μ new := by
  have := sumW_set c.n (wList μ) s.desig w l hw
  have := h μ
  unfold wQ
  simp only [setDesig]
  omega

theorem wR_setPc (μ : Pkt → Nat) (c : Cfg) (s : State) (w : Nat) (p : PC) (hw : w < c.n) :
    wR μ c (setPc s w p) + wPc μ (s.pc w) = wR μ c s + wPc μ p :=
  sumW_set c.n (wPc μ) s.pc w p hw

theorem wR_idle (c : Cfg) (s : State) {w : Nat} {p : PC} (hw : w < c.n) (h : (s.pc w).isExec = false)
    (h' : p.isExec = false) (μ : Pkt → Nat) : wR μ c (setPc s w p) = wR μ c s := by
  have := wR_setPc μ c s w p hw
  rw [wPc_idle μ h, wPc_idle μ h'] at this
  exact this

theorem wR_start (c : Cfg) (s : State) (w : Nat) (p : Pkt) (hw : w < c.n) (h : (s.pc w).isExec = false) (μ : Pkt → Nat) :
    wR μ c (setPc s w (.exec p)) = wR μ c s + μ p := by
  have := wR_setPc μ c s w (.exec p) hw
  rw [wPc_idle μ h] at this
  exact this

theorem wR_end (c : Cfg) (s : State) (w : Nat) (p : Pkt) (hw : w < c.n) (h : s.pc w = .exec p) (μ : Pkt → Nat) :
    wR μ c (setPc s w (.polling [])) + μ p = wR μ c s := by
  have := wR_setPc μ c s w (.polling []) hw
  rw [h] at this
  exact this

theorem wR_congr (μ : Pkt → Nat) (c : Cfg) {s s' : State} (hp : ∀ x, x < c.n → wPc μ (s'.pc x) = wPc μ (s.pc x)) :
    wR μ c s' = wR μ c s := sumW_congr c.n _ _ hp

theorem wList_consed (p : Pkt) (l : List Pkt) (μ : Pkt → Nat) : wList μ (p :: l) + wList μ [] = wList μ l + wList μ [p] :=
  wList_cons μ p l

theorem wBkt_q {k : Bucket} {q taken new : List Pkt} (h : ∀ μ, wList μ q + wList μ taken = wList μ k.q + wList μ new)
    (μ : Pkt → Nat) : wBkt μ { k with q := q } + wList μ taken = wBkt μ k + wList μ new := by
  have := h μ
  show wList μ q + wList μ k.sentinel.toList + _ = wList μ k.q + wList μ k.sentinel.toList + _
  omega

theorem wBkt_sentinel {k : Bucket} (p : Pkt) (hn : k.sentinel = none) (μ : Pkt → Nat) :
    wBkt μ { k with sentinel := some p } + wList μ [] = wBkt μ k + wList μ [p] := by
  show wList μ k.q + wList μ [p] = wList μ k.q + wList μ k.sentinel.toList + wList μ [p]
  rw [hn]; rfl

theorem wBkt_flags {k k' : Bucket} (h1 : k'.q = k.q) (h2 : k'.sentinel = k.sentinel) (μ : Pkt → Nat) :
    wBkt μ k' + wList μ [] = wBkt μ k + wList μ [] := by unfold wBkt; rw [h1, h2]

/-! ## `on_last_parked` moves packets inside the buckets

The weight of a bucket ignores the flags and counts a sentinel as much in its slot as in the queue; so
`on_last_parked` changes it in one way only: by the `ScheduleCollection` packet it may push to
`Unconstrained`. -/

theorem wBkt_flushed (μ : Pkt → Nat) (k : Bucket) : wBkt μ k.flushed = wBkt μ k := by
  unfold Bucket.flushed
  split
  · rename_i p hs
    show wList μ (p :: k.q) + wList μ [] = wList μ k.q + wList μ k.sentinel.toList
    rw [hs, wList_cons]; simp [wList]
  · rfl

/-- the packets `new` are created, with the next id, and pushed to `Unconstrained` (at most one: the `ScheduleCollection`
packet of `respond_to_requests`) -/
def Pushed (c : Cfg) (tag : Nat) (new : List Pkt) (s s' : State) : Prop :=
  (∀ p ∈ new, p = newPkt s c.unconIdx tag) ∧ new.length ≤ 1 ∧ s'.nextId = s.nextId + new.length ∧
  s'.added = s.added + new.length ∧
  ∀ μ b, wBkt μ (s'.bkt b) = wBkt μ (s.bkt b) + (if b = c.unconIdx then wList μ new else 0)

theorem Pushed.none {c : Cfg} {tag : Nat} {s s' : State} (hn : s'.nextId = s.nextId) (ha : s'.added = s.added)
    (h : ∀ μ b, wBkt μ (s'.bkt b) = wBkt μ (s.bkt b)) : Pushed c tag [] s s' :=
  ⟨nofun, Nat.zero_le _, hn, ha, fun μ b => by rw [h μ b]; split <;> rfl⟩

theorem respond_measure {c : Cfg} {s s' : State} {tag : Nat} {r : LPR} (h : respond c s tag = some (s', r)) :
    ∃ new, Pushed c tag new s s' := by
  rcases (respond_cases h).2 with ⟨_, rfl, _⟩ | ⟨_, _, rfl, _⟩ | ⟨_, _, _, rfl, _⟩ | ⟨_, _, _, rfl, _⟩
  · refine ⟨[newPkt s c.unconIdx tag], fun p hp => List.mem_singleton.mp hp, Nat.le_refl _, rfl, rfl, fun μ b => ?_⟩
    show wBkt μ (if b = c.unconIdx then _ else s.bkt b) = _
    split
    · rename_i e; rw [e]; exact wBkt_q (wList_consed _ _) μ
    · rfl
  all_goals exact ⟨[], .none rfl rfl (fun _ _ => rfl)⟩

theorem onGcFinished_measure (μ : Pkt → Nat) {c : Cfg} {s s' : State} (h : onGcFinished c s = some s') (b : Nat) :
    wBkt μ (s'.bkt b) = wBkt μ (s.bkt b) := by
  obtain ⟨_, _, s1, hc, rfl⟩ := onGcFinished_cases h
  have h1 : wBkt μ (s1.bkt b) = wBkt μ (s.bkt b) := by
    rw [closeLoop_bkt c _ _ _ hc b]; split <;> rfl
  show wBkt μ ((schedConcurrent c s1).bkt b) = _
  rw [schedConcurrent_bkt]
  split
  · rename_i e; rw [← h1, e]; rfl
  · exact h1

theorem onLastParked_measure {c : Cfg} {s s' : State} {tag : Nat} {r : LPR} (h : onLastParked c s tag = some (s', r)) :
    ∃ new, Pushed c tag new s s' := by
  have same : ∀ {t : State}, SameButBkt s t → (∀ μ b, wBkt μ (t.bkt b) = wBkt μ (s.bkt b)) → ∃ new, Pushed c tag new s t :=
    fun ht hb => ⟨[], .none ht.counters.2.2.2.2.1 ht.counters.2.2.2.2.2.1 hb⟩
  rcases onLastParked_cases h with ⟨_, h⟩ | ⟨_, _, _, h⟩
  · exact respond_measure h
  · have h1 : ∀ μ b, wBkt μ ((schedSentinels c s).1.bkt b) = wBkt μ (s.bkt b) :=
      fun μ => schedSentinels_rel (BktRel.ofEq (wBkt μ)) (fun _ k => wBkt_flushed μ k) c s
    have h2 : ∀ μ b, wBkt μ ((updateBuckets c (schedSentinels c s).1).1.bkt b) = wBkt μ (s.bkt b) := fun μ b =>
      (updateBuckets_rel (BktRel.ofEq (wBkt μ)) (fun _ k => wBkt_flushed μ k) (fun _ _ => rfl) c _ b).trans (h1 μ b)
    cases h with
    | designated => exact ⟨[], .none rfl rfl (fun _ _ => rfl)⟩
    | sentinels => exact same (sbb_schedSentinels c s) h1
    | opened => exact same (sbb_updated c s) h2
    | finished s3 _ _ _ hg he =>
      have h3 : ∀ μ b, wBkt μ (s3.bkt b) = wBkt μ (s.bkt b) := fun μ b => (onGcFinished_measure μ hg b).trans (h2 μ b)
      have n3 : s3.nextId = s.nextId ∧ s3.added = s.added := by rw [onGcFinished_same hg]; exact ⟨rfl, rfl⟩
      rcases he with ⟨_, rfl, _⟩ | ⟨_, h⟩
      · exact ⟨[], .none n3.1 n3.2 h3⟩
      · obtain ⟨new, hf, hn, q2, q3, q1⟩ := respond_measure (s := completeGc s3) h
        refine ⟨new, fun p hp => (hf p hp).trans (show Pkt.mk s3.nextId _ _ = Pkt.mk s.nextId _ _ by rw [n3.1]), hn,
          by rw [q2]; exact congrArg (· + _) n3.1, by rw [q3]; exact congrArg (· + _) n3.2, fun μ b => ?_⟩
        rw [q1 μ b]; exact congrArg (· + _) (h3 μ b)

/-- `new` is created into the queues, `taken` moves from the queues to the workers, `old` ends -/
structure PktStep (c : Cfg) (s s' : State) (new taken old : List Pkt) : Prop where
  fresh : ∀ p, p ∈ new → p.id = s.nextId
  one : new.length ≤ 1
  added : s'.added = s.added + new.length
  nextId : s'.nextId = s.nextId + new.length
  started : s'.started = s.started + taken.length
  endedIds : s'.endedIds = old.map Pkt.id ++ s.endedIds
  ended : s'.ended = s.ended + old.length
  wq : ∀ μ, wQ μ c s' + wList μ taken = wQ μ c s + wList μ new
  wr : ∀ μ, wR μ c s' + wList μ old = wR μ c s + wList μ taken

/-! The three usual shapes of a step.  `wList μ [] = 0` and `wList μ [p] = μ p` hold by computation, so `hr` is the field `wr`. -/

theorem PktStep.same {c : Cfg} {s s' : State} (hq : ∀ μ, wQ μ c s' + wList μ [] = wQ μ c s + wList μ []) (hr : ∀ μ, wR μ c s' = wR μ c s)
    (e : (s'.added, s'.nextId, s'.started, s'.endedIds, s'.ended) = (s.added, s.nextId, s.started, s.endedIds, s.ended)) :
    ∃ new taken old, PktStep c s s' new taken old := by
  simp only [Prod.mk.injEq] at e
  exact ⟨[], [], [], nofun, Nat.zero_le _, e.1, e.2.1, e.2.2.1, e.2.2.2.1, e.2.2.2.2, hq, hr⟩

theorem PktStep.create {c : Cfg} {s s' : State} (b tag : Nat) (hq : ∀ μ, wQ μ c s' + wList μ [] = wQ μ c s + wList μ [newPkt s b tag])
    (hr : ∀ μ, wR μ c s' = wR μ c s)
    (e : (s'.added, s'.nextId, s'.started, s'.endedIds, s'.ended) = (s.added + 1, s.nextId + 1, s.started, s.endedIds, s.ended)) :
    ∃ new taken old, PktStep c s s' new taken old := by
  simp only [Prod.mk.injEq] at e
  exact ⟨[newPkt s b tag], [], [], fun p hp => by rw [List.mem_singleton.mp hp]; rfl, Nat.le_refl _, e.1, e.2.1, e.2.2.1, e.2.2.2.1,
    e.2.2.2.2, hq, hr⟩

theorem PktStep.take {c : Cfg} {s s' : State} (p : Pkt) (hq : ∀ μ, wQ μ c s' + wList μ [p] = wQ μ c s + wList μ []) (hr : ∀ μ, wR μ c s' = wR μ c s + μ p)
    (e : (s'.added, s'.nextId, s'.started, s'.endedIds, s'.ended) = (s.added, s.nextId, s.started + 1, s.endedIds, s.ended)) :
    ∃ new taken old, PktStep c s s' new taken old := by
  simp only [Prod.mk.injEq] at e
  exact ⟨[], [p], [], nofun, Nat.zero_le _, e.1, e.2.1, e.2.2.1, e.2.2.2.1, e.2.2.2.2,
    hq, hr⟩

/-- `on_last_parked` moves sentinels into their queues and may create the `ScheduleCollection` packet.  `hu`: that packet must
land in a bucket the sums count.  `hA` is for `respawn` alone: all workers are surrendered then, so none is in a packet when the
program counters are reset. -/
theorem step_weight {c : Cfg} (hu : c.unconIdx < c.L) {s s' : State} {a : Act} (hA : InvA c s) (hs : step c s a = some s') :
    ∃ new taken old, PktStep c s s' new taken old := by
  -- the containers as they are, every worker in the packet it was in
  have keep : ∀ {t : State}, t.bkt = s.bkt → t.buf = s.buf → t.desig = s.desig →
      (∀ μ x, x < c.n → wPc μ (t.pc x) = wPc μ (s.pc x)) →
      (t.added, t.nextId, t.started, t.endedIds, t.ended) = (s.added, s.nextId, s.started, s.endedIds, s.ended) →
      ∃ new taken old, PktStep c s t new taken old :=
    fun hb hf hd hp => PktStep.same (fun μ => by unfold wQ; rw [hb, hf, hd]) (fun μ => wR_congr μ c (hp μ))
  have notify : ∀ {t : State}, Notified s t.pc → ∀ μ x, x < c.n → wPc μ (t.pc x) = wPc μ (s.pc x) := fun ht μ x _ => by
    rcases ht x with e | ⟨e1, e2⟩
    · rw [e]
    · rw [e1, e2]; rfl
  cases step_eff hs with
  | poll w seen hw hpc hP =>
    have hx : (s.pc w).isExec = false := by rw [hpc]; rfl
    cases hP with
    | observe | pollMiss => exact PktStep.same (fun _ => rfl) (wR_idle c s hw hx rfl) rfl
    | pollBucket b p hb _ _ hm =>
      exact PktStep.take p (wQ_setBkt s hb (wBkt_q (wList_erase hm))) (wR_start c s w p hw hx) rfl
    | batchMove b p hb _ _ hm =>
      exact PktStep.same (fun μ => (wQ_setBuf (setBkt s b _) hw (wList_consed p _) μ).trans (wQ_setBkt s hb (wBkt_q (wList_erase hm)) μ))
        (wR_idle c s hw hx rfl) rfl
    | popLocal p hm =>
      exact PktStep.take p (wQ_setBuf s hw (wList_erase hm)) (wR_start c s w p hw hx) rfl
    | popDesig p hm =>
      exact PktStep.take p (wQ_setDesig s hw (wList_erase hm)) (wR_start c s w p hw hx) rfl
    | steal v p hv _ hm =>
      exact PktStep.take p (wQ_setBuf s hv (wList_erase hm)) (wR_start c s w p hw hx) rfl
  | work w hw hx hW =>
    cases hW with
    | batchMove b p hb _ _ hm =>
      exact PktStep.same (fun μ => (wQ_setBuf (setBkt s b _) hw (wList_consed p _) μ).trans (wQ_setBkt s hb (wBkt_q (wList_erase hm)) μ))
        (fun _ => rfl) rfl
    | push b tag hb => exact PktStep.create b tag (wQ_setBkt s hb (wBkt_q (wList_consed _ _))) (fun _ => rfl) rfl
    | pushLocal b tag => exact PktStep.create b tag (wQ_setBuf s hw (wList_consed _ _)) (fun _ => rfl) rfl
    | pushDesig x tag hx' =>
      exact PktStep.create 0xff tag (wQ_setDesig s hx' (wList_consed _ _)) (fun _ => rfl) rfl
    | setSentinel b tag hb hn =>
      exact PktStep.create b tag (wQ_setBkt s hb (wBkt_sentinel _ hn)) (fun _ => rfl) rfl
    | setEnabled b _ hb | openFirst b hb => exact PktStep.same (wQ_setBkt s hb (wBkt_flags rfl rfl)) (fun _ => rfl) rfl
    | _ => exact PktStep.same (fun _ => rfl) (fun _ => rfl) rfl
  | bucketNotifyOne _ _ _ _ _ _ _ _ _ hn | mutNotifyOne _ _ _ _ _ _ hn | makeRequest _ _ _ _ _ hn =>
    exact keep rfl rfl rfl (notify (notifyOne_pc hn)) rfl
  | bucketNotifyAll | wakeAll => exact keep rfl rfl rfl (notify (notifyAll_pc s)) rfl
  | execEnd w p hw hpc =>
    exact ⟨[], [], [p], nofun, Nat.zero_le _, rfl, rfl, rfl, rfl, rfl, fun _ => rfl, wR_end c s w p hw hpc⟩
  | park w tag hw hpc =>
    exact PktStep.same (fun _ => rfl) (wR_idle c { s with parked := s.parked + 1, trace := [] } hw
      (by show (s.pc w).isExec = false; rw [hpc]; rfl) rfl) rfl
  | parkLast w tag s1 r pcs k hw hpc _ hl =>
    have f := onLastParked_lpFrame hl
    obtain ⟨new, hf, hn, q2, q3, q1⟩ := onLastParked_measure hl
    refine ⟨new, [], [], fun p hp => by rw [hf p hp]; rfl, hn, q3, q2, f.frame.started, f.endedIds, f.frame.ended,
      fun μ => ?_, fun μ => ?_⟩
    · have e1 : sumW c.L (fun b => wBkt μ (s1.bkt b)) = sumW c.L (fun b => wBkt μ (s.bkt b)) + wList μ new := by
        rw [sumW_congr _ _ _ (fun b _ => q1 μ b)]
        exact sumW_single c.L _ c.unconIdx _ hu
      have fb : s1.buf = s.buf := f.frame.buf
      have fd : s1.desig = s.desig := f.frame.desig
      unfold wQ
      show sumW c.L (fun b => wBkt μ (s1.bkt b)) + sumW c.n (fun w => wList μ (s1.buf w)) +
        sumW c.n (fun w => wList μ (s1.desig w)) + wList μ [] = _
      rw [e1, fb, fd]
      show _ + 0 = _
      omega
    · refine wR_congr μ c (fun x _ => ?_)
      rcases step_park_pc hs x with e | ⟨h1, h2⟩
      · rw [e]
      · rw [wPc_idle μ h1, wPc_idle μ h2]
  | spurious w hw hpc =>
    exact PktStep.same (fun _ => rfl) (wR_idle c s hw (by rw [hpc]; rfl) rfl) rfl
  | wake w p hw hpc _ hp =>
    exact PktStep.same (fun _ => rfl) (wR_idle c { s with parked := s.parked - 1 } hw
      (by show (s.pc w).isExec = false; rw [hpc]; rfl) (by rcases hp with ⟨_, rfl⟩ | ⟨_, rfl⟩ <;> rfl)) rfl
  | surrender _ _ _ hw hpc | surrenderLast _ _ _ hw hpc =>
    exact PktStep.same (fun _ => rfl) (wR_idle c s (p := .surrendered) hw (by rw [hpc]; rfl) rfl)
      rfl
  | mutator hM =>
    cases hM with
    | mutPush b tag hb => exact PktStep.create b tag (wQ_setBkt s hb (wBkt_q (wList_consed _ _))) (fun _ => rfl) rfl
    | initSetEnabled b v hb => exact PktStep.same (wQ_setBkt s hb (wBkt_flags rfl rfl)) (fun _ => rfl) rfl
    | _ => exact PktStep.same (fun _ => rfl) (fun _ => rfl) rfl
  | respawn hcr =>
    have hall := all_surrendered_of_pool_full hA hcr
    refine keep rfl rfl rfl (fun μ x hx => ?_) rfl
    show wPc μ (if x < c.n then PC.polling [] else s.pc x) = _
    rw [if_pos hx, hall x hx]; rfl

theorem wList_one (l : List Pkt) : wList (fun _ => 1) l = l.length := Sums.sum_map_one l

theorem wBkt_one (k : Bucket) : wBkt (fun _ => 1) k = bktCount k := by
  show wList _ _ + wList _ _ = _ + _
  rw [wList_one, wList_one]
  cases k.sentinel <;> rfl

theorem wQ_one (c : Cfg) (s : State) : wQ (fun _ => 1) c s = queued c s := by
  unfold wQ queued qBkt qBuf qDes
  congr 1
  · congr 1
    · exact sumW_congr _ _ _ (fun b _ => wBkt_one _)
    · exact sumW_congr _ _ _ (fun w _ => wList_one _)
  · exact sumW_congr _ _ _ (fun w _ => wList_one _)

theorem wR_one (c : Cfg) (s : State) : wR (fun _ => 1) c s = running c s := by
  unfold wR running
  rw [countW_eq_sumW]
  exact sumW_congr _ _ _ (fun w _ => by cases s.pc w <;> rfl)

theorem step_invK (c : Cfg) (hu : c.unconIdx < c.L) (s s' : State) (a : Act) (hA : InvA c s) (h : InvK c s)
    (hs : step c s a = some s') : InvK c s' := by
  obtain ⟨new, taken, old, k⟩ := step_weight hu hA hs
  have hq := k.wq (fun _ => 1)
  have hr := k.wr (fun _ => 1)
  rw [wQ_one, wQ_one, wList_one, wList_one] at hq
  rw [wR_one, wR_one, wList_one, wList_one] at hr
  have h1 := h.added_eq
  have h2 := h.started_eq
  have h3 := k.added
  have h4 := k.ended
  have h5 := k.started
  exact ⟨by omega, by omega⟩

theorem init_invK (c : Cfg) : InvK c (init c) := by
  have z1 : qBkt c (init c) = 0 := sumW_zero _ _ (fun b _ => by simp [init, initBucket, bktCount])
  have z2 : qBuf c (init c) = 0 := sumW_zero _ _ (fun b _ => by simp [init])
  have z3 : qDes c (init c) = 0 := sumW_zero _ _ (fun b _ => by simp [init])
  have z4 : running c (init c) = 0 := countW_zero _ _ (fun x _ => rfl)
  exact ⟨by unfold queued; rw [z1, z2, z3]; rfl, by rw [z4]; rfl⟩

theorem reachable_invK {c : Cfg} (hu : c.unconIdx < c.L) {s : State} (h : Reachable c s) : InvK c s :=
  h.induct (init_invK c) (fun s s' a hr hi hs => step_invK c hu s s' a (reachable_invA hr) hi hs)

end Mmtk.Sched
