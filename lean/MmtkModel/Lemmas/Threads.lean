/-!
# Thread-indexed program counters

The interleaving models (`Fwd`, `CasBit`, `SATB`, `SATBRace`) all step one thread `t` by
`pc := fun x => if x = t then p' else pc x`.  What their invariants say about the program counters has
one of three forms — every thread knows …, at most one thread is at …, some thread is at … — and each
form is carried over such an update by the same case distinction `x = t`.
The predicate (`P`, `C`) occurs under the `if` only, so unification does not find it: every use names
it, `forall_upd (P := fun _ p => L … p)`.
-/
namespace Mmtk.Threads

variable {PC : Type} {pc : Nat → PC} {t : Nat} {p' : PC}

theorem forall_upd {P : Nat → PC → Prop} (ht : P t p') (ho : ∀ x, x ≠ t → P x (pc x)) (x : Nat) :
    P x (if x = t then p' else pc x) := by
  by_cases hx : x = t
  · rw [if_pos hx, hx]; exact ht
  · rw [if_neg hx]; exact ho x hx

theorem unique_upd {C : PC → Prop} (hu : ∀ x y, C (pc x) → C (pc y) → x = y)
    (key : ∀ y, y ≠ t → C (pc y) → ¬ C p') (x y : Nat)
    (hx : C (if x = t then p' else pc x)) (hy : C (if y = t then p' else pc y)) : x = y := by
  by_cases hxt : x = t <;> by_cases hyt : y = t
  · rw [hxt, hyt]
  · rw [if_pos hxt] at hx; rw [if_neg hyt] at hy; exact (key y hyt hy hx).elim
  · rw [if_neg hxt] at hx; rw [if_pos hyt] at hy; exact (key x hxt hx hy).elim
  · rw [if_neg hxt] at hx; rw [if_neg hyt] at hy; exact hu x y hx hy

theorem exists_upd {C : PC → Prop} (h : ∃ x, C (pc x)) (keep : C (pc t) → C p') :
    ∃ x, C (if x = t then p' else pc x) := by
  obtain ⟨x, hx⟩ := h
  by_cases hxt : x = t
  · exact ⟨t, by rw [if_pos rfl]; exact keep (hxt ▸ hx)⟩
  · exact ⟨x, by rw [if_neg hxt]; exact hx⟩

end Mmtk.Threads
