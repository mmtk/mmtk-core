import MmtkModel.Model.Heap
/-!
# The mutator operations of the shadow heap as a relation

`applyOp` read once: one constructor per op, with its guard and the heap it yields (`alloc`/`allocFail` append an
object, `root`/`destroy` touch the root table only, the others rewrite one object); C01's well-formedness and C04's
stability of `sem`/`pinned` are case analyses on it.
-/
namespace Mmtk.Heap

inductive OpStep (h : Heap) : Op → Heap → Prop
  | alloc {key id nf size sem} : id = h.objs.size →
      OpStep h (.alloc key id nf size sem)
        { objs := h.objs.push { id, size, sem, nfields := nf, fields := List.replicate nf none },
          roots := setRoot h.roots key (some id) }
  | allocFail {id} : id = h.objs.size →
      OpStep h (.allocFail id)
        { h with objs := h.objs.push { id, size := 0, sem := .default, nfields := 0, fields := [] } }
  | root {key v} : h.knows v = true → OpStep h (.root key v) { h with roots := setRoot h.roots key v }
  | write {src f v o} : h.objs[src]? = some o → f < o.nfields → h.knows v = true →
      OpStep h (.write src f v) (h.modifyObj src fun o => { o with fields := o.fields.set f v })
  | copyrange {src sf dst df n s d} : h.objs[src]? = some s → h.objs[dst]? = some d →
      sf + n ≤ s.nfields → df + n ≤ d.nfields →
      OpStep h (.copyrange src sf dst df n) (h.modifyObj dst fun o =>
        { o with fields := o.fields.take df ++ (s.fields.drop sf).take n ++ o.fields.drop (df + n) })
  | destroy {m} : OpStep h (.destroy m) { h with roots := h.roots.filter fun kv => !(kv.1 / 64 == m) }
  | mkref {id o} : h.objs[id]? = some o → 0 < o.nfields →
      OpStep h (.mkref id) (h.modifyObj id fun o => { o with isRef := true })
  | pin {id on} : id < h.objs.size →
      OpStep h (.pin id on) (h.modifyObj id fun o => { o with pinned := on })

/-- Soundness only: that every `OpStep` is a successful `applyOp` is true, but nothing needs it and it is not stated. -/
theorem applyOp_sound {h h' : Heap} {op : Op} (hop : applyOp h op = some h') : OpStep h op h' := by
  cases op
  case alloc => obtain ⟨hg, ⟨⟩⟩ := Option.ite_none_right_eq_some.1 hop; exact .alloc hg
  case allocFail => obtain ⟨hg, ⟨⟩⟩ := Option.ite_none_right_eq_some.1 hop; exact .allocFail hg
  case root => obtain ⟨hg, ⟨⟩⟩ := Option.ite_none_right_eq_some.1 hop; exact .root hg
  case destroy => cases hop; exact .destroy
  case pin => obtain ⟨hg, ⟨⟩⟩ := Option.ite_none_right_eq_some.1 hop; exact .pin hg
  case write =>
    dsimp only [applyOp] at hop; split at hop
    · obtain ⟨hg, ⟨⟩⟩ := Option.ite_none_right_eq_some.1 hop; exact .write ‹_› hg.1 hg.2
    · cases hop
  case copyrange =>
    dsimp only [applyOp] at hop; split at hop
    · obtain ⟨hg, ⟨⟩⟩ := Option.ite_none_right_eq_some.1 hop; exact .copyrange ‹_› ‹_› hg.1 hg.2
    · cases hop
  case mkref =>
    dsimp only [applyOp] at hop; split at hop
    · obtain ⟨hg, ⟨⟩⟩ := Option.ite_none_right_eq_some.1 hop; exact .mkref ‹_› hg
    · cases hop

theorem modifyObj_objs (h : Heap) (i : Id) (f : Obj → Obj) :
    (h.modifyObj i f).objs = h.objs.modify i f := rfl

end Mmtk.Heap
