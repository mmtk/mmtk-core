import MmtkModel.Lemmas.FreeListRel
/-!
# The steps of `free` (C26, concrete layer)

`free(s)` of the allocated run `[s, e)`, in the order of the code (`free_eq`, `coalesce_eq`: the two
methods as sequences of the steps named here): `pickStart_ok` / `pickEnd_ok` — the code's two tests
are the abstract `mergeL` / `mergeR`; `free_merge` — `__coalesce` unlinks the absorbed neighbours
(`unlinkIfFree_step`; they join `X`) and writes the size of the coalesced run `[l, r)`; `free_finish` —
`add_to_free(l)`, an instance of `RelX.add_run`.  `free_refines` (`Props/C26`) puts them together.
-/
namespace Mmtk.FreeList
open Mmtk.Runs

variable {X : Nat → Prop} {t : Tab} {a : AS} {L : Nat → List Nat}

/-- one of the two conditional `__remove_from_free` of `__coalesce` -/
def unlinkIfFree (debug : Bool) (t : Tab) (h x : Int) : M Tab := do
  if (← getFree t x) then removeFromFree debug t h x else pure t

theorem coalesce_eq (debug : Bool) (t : Tab) (h start end_ : Int) :
    coalesce debug t h start end_ = (do
      let t ← unlinkIfFree debug t h end_
      let t ← unlinkIfFree debug t h start
      let size ← getSize t end_
      setSize t start (end_ - start + size)) := rfl

/-- the choice of `start` in `free` -/
def pickStart (t : Tab) (u left : Int) : M Int := do
  if (← isCoalescable t u) then
    if (← getFree t left) then pure left else pure u
  else pure u

/-- the choice of `end` in `free` -/
def pickEnd (t : Tab) (u right : Int) : M Int := do
  if (← isCoalescable t right) then
    if (← getFree t right) then pure right else pure u
  else pure u

theorem free_eq (debug : Bool) (t : Tab) (head u : Int) (rcs : Bool) :
    free debug t head u rcs = (do
      if debug then
        if (← getFree t u) then throw .assert
      let freed ← getSize t u
      let left ← getLeft t u
      let start ← pickStart t u left
      let right ← getRight t u
      let end_ ← pickEnd t u right
      let t ← (if start != end_ then coalesce debug t head start end_ else pure t)
      let freed ← (if rcs then getSize t start else pure freed)
      let t ← addToFree debug t head start
      pure (t, freed)) := rfl

theorem unlinkIfFree_step {k x y : Nat} (debug : Bool)
    (h : RelX X t a L) (hk : (k : Int) < t.heads) (hr : IsRun a x y)
    (hown : ∀ j, a.own x = some j → j = k) (hX : ¬ X x) :
    ∃ t' L', unlinkIfFree debug t (hd k) (x : Int) = .ok t' ∧
      RelX (fun z => X z ∨ (a.own x ≠ none ∧ z = x)) t' a L' ∧ t'.heads = t.heads := by
  have ok := h.run x y hr
  unfold unlinkIfFree
  simp only [bind, Except.bind, h.getFree_run hr]
  cases ho : a.own x with
  | none =>
    refine ⟨t, L, by simp [pure, Except.pure], ?_, rfl⟩
    exact h.congrX (fun z => by simp)
  | some j =>
    have hjk := hown j ho
    subst hjk
    have hx : x ∈ L j := by
      rcases (ok.mem j ho).2 with g | g
      · exact g
      · exact absurd g hX
    obtain ⟨r1, r2⟩ := remove_step debug h hk hx
    have r3 : RelX (fun z => X z ∨ (some j ≠ none ∧ z = x)) _ a _ := r2.congrX (fun z => by simp)
    exact ⟨_, _, by simpa using r1, r3, by simp [pRemoveFromFree]⟩

theorem pickStart_ok {k s e l : Nat}
    (h : Rel t a L) (hp : Pre a (.free k s e)) (hl : MergeStart a s l) :
    pickStart t (s : Int) (leftOf t (s : Int)) = .ok (l : Int) := by
  obtain ⟨hse, hown, hL, hR⟩ := hp
  have hsu : s ≤ a.units := Nat.le_of_lt (hse.lt_units).1
  unfold pickStart
  simp only [bind, Except.bind, isCoalescable_ok (h.inR_nat hsu), ← h.unc s hsu]
  by_cases hm : mergeL a s
  · have hrun : IsRun a l s := (if_pos hm).mp hl
    have hls := hrun.1
    have hs0 := hm.1
    rw [h.leftOf_run hrun, h.getFree_run hrun, ← (h.run l s hrun).own (s - 1) (by omega) (by omega), hL hm]
    simp [hm.2.1, pure, Except.pure]
  · obtain rfl : l = s := (if_neg hm).mp hl
    cases hu : a.unc l
    · -- no mark: the unit to the left is a head or the end of an allocated run
      rcases Nat.eq_zero_or_pos l with rfl | h0
      · have e1 : ((0 : Nat) : Int) - 1 = hd 0 := by unfold hd; omega
        have hleft : leftOf t ((0 : Nat) : Int) = hd 0 := by
          unfold leftOf; rw [e1, h.head_multi 0 h.hpos]; simp
        rw [hleft, getFree_ok (h.inR_hd h.hpos), h.head_free 0 h.hpos]
        simp [pure, Except.pure]
      · obtain ⟨l0, hl0⟩ := exists_run_left a hse h0
        have hl0s := hl0.1
        have hnone : a.own l0 = none := by
          rw [← (h.run l0 l hl0).own (l - 1) (by omega) (by omega)]
          cases ho : a.own (l - 1) with
          | none => rfl
          | some j => exact absurd ⟨h0, hu, by rw [ho]; exact Option.some_ne_none j⟩ hm
        rw [h.leftOf_run hl0, h.getFree_run hl0, hnone]
        simp [pure, Except.pure]
    · simp [pure, Except.pure]

theorem RelX.fFree_end (h : RelX X t a L) {s e : Nat} (hr : IsRun a s e) :
    fFree t (e : Int) = true ↔ e < a.units ∧ a.own e ≠ none := by
  rcases Nat.lt_or_ge e a.units with he | he
  · obtain ⟨r0, hr0⟩ := exists_run_right a hr he
    rw [(h.run e r0 hr0).free, Option.isSome_iff_ne_none]
    exact ⟨fun c => ⟨he, c⟩, fun c => c.2⟩
  · obtain rfl : e = a.units := Nat.le_antisymm hr.2.1 he
    rw [h.top_free]
    exact ⟨fun c => (Bool.false_ne_true c).elim, fun c => absurd c.1 (Nat.lt_irrefl _)⟩

/-- The answer is the start of the last run to coalesce (`e`, or `s` itself), not the end `r`: `__coalesce` reads the size there. -/
theorem pickEnd_ok {k s e : Nat}
    (h : Rel t a L) (hp : Pre a (.free k s e)) :
    pickEnd t (s : Int) (e : Int) = .ok ((if mergeR a e then e else s : Nat) : Int) := by
  have heu := hp.1.2.1
  have heR : InR t (e : Int) := h.inR_nat heu
  have hf := h.fFree_end hp.1
  unfold pickEnd
  simp only [bind, Except.bind, isCoalescable_ok heR, ← h.unc e heu, getFree_ok heR]
  by_cases hm : mergeR a e
  · simp [hm, hm.2.1, hf.mpr ⟨hm.1, hm.2.2⟩, pure, Except.pure]
  · rw [if_neg hm]
    cases hu : a.unc e
    · cases hff : fFree t (e : Int)
      · simp [pure, Except.pure]
      · exact absurd ⟨(hf.mp hff).1, hu, (hf.mp hff).2⟩ hm
    · simp [pure, Except.pure]

/-- Where `free(s)` of `[s, e)` stands before its `add_to_free(l)`: `t2` represents `a` with the absorbed
neighbours unlinked (`X`: the starts `l`, `e` of those that are absorbed, nothing outside `[l, r)`), and `t3`
is `t2` with the size fields of the coalesced run `[l, r)` written. -/
structure Coalesced (t : Tab) (a : AS) (s e l r : Nat) (X : Nat → Prop) (t2 t3 : Tab) (L2 : Nat → List Nat) : Prop where
  rel : RelX X t2 a L2
  same : SameOutside t2 t3 l r
  sized : Sized t3 l r
  heads : t2.heads = t.heads
  inside : ∀ y, X y → l ≤ y ∧ y < r
  left : mergeL a s → X l
  right : mergeR a e → X e

/-- `__coalesce` when at least one neighbour is absorbed (`endN`: the argument `end` that `free` passes). -/
theorem free_merge {k s e l r endN : Nat} (debug : Bool)
    (h : Rel t a L) (hk : (k : Int) < t.heads) (hp : Pre a (.free k s e))
    (hl : MergeStart a s l) (hr : MergeEnd a e r)
    (hend : endN = if mergeR a e then e else s) (hne : l ≠ endN) :
    ∃ t2 t3 L2 X, coalesce debug t (hd k) (l : Int) (endN : Int) = .ok t3 ∧ Coalesced t a s e l r X t2 t3 L2 := by
  obtain ⟨hse, hown, hL, hR⟩ := hp
  have hls := (left_facts a hse hl).le
  have hru := (right_facts a hse hr).le_units
  have hse1 := hse.1
  have hul := h.units_le
  -- the run that starts at `endN`: the right neighbour if it is absorbed, else the freed run itself
  obtain ⟨hendrun, hendown, hsend, hXe⟩ : IsRun a endN r ∧ (∀ j, a.own endN = some j → j = k) ∧ s ≤ endN ∧
      (mergeR a e → endN = e ∧ a.own endN ≠ none) := by
    subst hend
    by_cases hm : mergeR a e
    · rw [if_pos hm]
      exact ⟨(if_pos hm).mp hr, fun j hj => (Option.some.inj ((hR hm).symm.trans hj)).symm, Nat.le_of_lt hse1,
        fun _ => ⟨rfl, by rw [hR hm]; exact Option.some_ne_none k⟩⟩
    · rw [if_neg hm]
      obtain rfl : r = e := (if_neg hm).mp hr
      exact ⟨hse, fun j hj => (by rw [hown] at hj; cases hj), Nat.le_refl _, fun c => absurd c hm⟩
  -- the run that starts at `l`: the left neighbour if it is absorbed, else the freed run itself
  obtain ⟨ly, hlrun, hlown, hXl⟩ : ∃ ly, IsRun a l ly ∧ (∀ j, a.own l = some j → j = k) ∧
      (mergeL a s → a.own l ≠ none) := by
    by_cases hm : mergeL a s
    · have hrun : IsRun a l s := (if_pos hm).mp hl
      have hol : a.own l = some k := by
        have := hm.1
        have := hrun.1
        rw [← (h.run l s hrun).own (s - 1) (by omega) (by omega)]; exact hL hm
      exact ⟨s, hrun, fun j hj => (Option.some.inj (hol.symm.trans hj)).symm, fun _ => by rw [hol]; exact Option.some_ne_none k⟩
    · obtain rfl : l = s := (if_neg hm).mp hl
      exact ⟨e, hse, fun j hj => (by rw [hown] at hj; cases hj), fun c => absurd c hm⟩
  obtain ⟨t1, L1, u1, r1, hh1⟩ := unlinkIfFree_step debug h hk hendrun hendown (fun f => f)
  obtain ⟨t2, L2, u2, r2, hh2⟩ := unlinkIfFree_step debug r1 (hh1 ▸ hk) hlrun hlown (by
    rintro (f | ⟨_, f⟩)
    · exact f
    · exact hne f)
  have hendr := hendrun.1
  have hR2 : ∀ w : Int, (l : Int) ≤ w → w < r → InR t2 w := fun w h0 h1 =>
    r2.inR (by have := r2.hpos; omega) (by omega)
  have hcalc : (endN : Int) - l + ((r : Int) - endN) = (r : Int) - l := by omega
  refine ⟨t2, pSetSize t2 (l : Int) ((r : Int) - l), L2, _, ?_, r2,
    (sameOutside_pSetSize t2 l _ (by omega)).mono (Int.le_refl _) (by omega), sized_pSetSize rfl rfl (by omega) (by omega) hR2,
    by rw [hh2, hh1], ?_, fun hm => Or.inr ⟨hXl hm, rfl⟩, fun hm => Or.inl (Or.inr ⟨(hXe hm).1 ▸ (hXe hm).2, (hXe hm).1.symm⟩)⟩
  · rw [coalesce_eq]
    simp only [bind, Except.bind, u1, u2, r2.getSize_run hendrun, hcalc]
    exact setSize_range (by omega) fun w h0 h1 => hR2 w h0 (by omega)
  · rintro y ((f | ⟨_, f⟩) | ⟨_, f⟩)
    · exact f.elim
    · omega
    · omega

theorem free_finish {t0 t2 t3 : Tab} {L2 : Nat → List Nat} {k s e l r : Nat} (debug : Bool)
    (hk : (k : Int) < t0.heads) (hp : Pre a (.free k s e)) (hl : MergeStart a s l) (hr : MergeEnd a e r)
    (c : Coalesced t0 a s e l r X t2 t3 L2) :
    addToFree debug t3 (hd k) (l : Int) = .ok (pAddToFree t3 (hd k) (l : Int)) ∧
    Rel (pAddToFree t3 (hd k) (l : Int)) (Runs.apply a (.free k s e)) (setL L2 k (l :: L2 k)) := by
  have h := c.rel
  obtain ⟨hse, hown, hL, hR⟩ := hp
  have hE := left_facts a hse hl
  have hF := right_facts a hse hr
  have hls := hE.le
  have her := hF.le
  have hse1 := hse.1
  refine h.add_run debug (c.heads ▸ hk) (free_within a hse hl hr) hE.cut hF.cut (free_run_merged a hse hl hr)
    (fun u h1 h2 => ?_) c.inside (fun y z m3 h1 h2 => ?_) c.same c.sized
  · -- the absorbed neighbours belong to head `k`
    rw [free_own]
    split
    · rfl
    · rcases Nat.lt_or_ge u s with hus | hus
      · have cL := hE.merged (by omega)
        have ok := h.run l s ((if_pos cL).mp hl)
        have := cL.1
        rw [ok.own u h1 hus, ← ok.own (s - 1) (by omega) (by omega)]; exact hL cL
      · have cR := hF.merged (by omega)
        rw [(h.run e r ((if_pos cR).mp hr)).own u (by omega) h2]; exact hR cR
  · -- a run of `a` that starts inside `[l, r)` starts at `l`, `s` or `e`: unlinked, allocated, unlinked
    rcases Nat.lt_trichotomy y s with hys | rfl | hys
    · have cL := hE.merged (by omega)
      have := IsRun.start_outside ((if_pos cL).mp hl) m3
      obtain rfl : y = l := by omega
      exact Or.inr (c.left cL)
    · exact Or.inl hown
    · have := hse.start_outside m3
      have cR := hF.merged (by omega)
      have := IsRun.start_outside ((if_pos cR).mp hr) m3
      obtain rfl : y = e := by omega
      exact Or.inr (c.right cR)

end Mmtk.FreeList
