import MmtkModel.Model.SideMeta
import MmtkModel.Lemmas.MetaBits
/-!
# Side metadata: where the field of a region lies, and what a load returns

`fieldBase s r` is the first memory bit of the entry of region `r` (`field_position`: the address arithmetic of the
code lands there), `absArr m s r` reads the entry out of byte memory bit by bit (`testBit_absArr`), and a load at any
address of the region returns it (`load_eq_absArr`; `load_region` at the region's start). A sub-byte field is a header-style field (`fieldSpec`); a byte-or-wider
field is a little-endian word. This is what the accessors (C20), the bulk operations (C21) and the searches (C22)
share about the layout.
-/
namespace Mmtk.SideMeta
open Mmtk.Mem

/-- The specs the property speaks about: a field of `2^logBits` bits with `logBits ≤ 6` (the widths 1, 2, 4, …, 64),
and not more metadata bits than data bits per region (`log_data_meta_ratio` is an unsigned subtraction in
the code). -/
def Spec.ok (s : Spec) : Prop := s.logBits ≤ 6 ∧ s.logBits ≤ s.logRegion + 3
instance (s : Spec) : Decidable s.ok := by unfold Spec.ok; exact inferInstance

/-- first bit (global bit index `8·byte address + bit`) of the field of region `r`. -/
def fieldBase (s : Spec) (r : Nat) : Nat := 8 * s.start + r * 2 ^ s.logBits

def bitAt (m : Mem) (p : Nat) : Bool := (m (p / 8)).testBit (p % 8)

def InFieldOf (s : Spec) (r p : Nat) : Prop := fieldBase s r ≤ p ∧ p < fieldBase s r + 2 ^ s.logBits

theorem fieldBase_mono (s : Spec) {r r' : Nat} (h : r ≤ r') : fieldBase s r ≤ fieldBase s r' := by
  unfold fieldBase
  have := Nat.mul_le_mul_right (2 ^ s.logBits) h
  omega

theorem fieldBase_succ (s : Spec) (r : Nat) : fieldBase s (r + 1) = fieldBase s r + 2 ^ s.logBits := by
  unfold fieldBase; rw [Nat.add_mul r 1, Nat.one_mul]; omega

theorem bitAt_mk (m : Mem) (k i : Nat) (hi : i < 8) : bitAt m (8 * k + i) = (m k).testBit i := by
  unfold bitAt
  have h1 : (8 * k + i) / 8 = k := by omega
  have h2 : (8 * k + i) % 8 = i := by omega
  rw [h1, h2]

/-- with `K = 8 / W` fields of `W` bits to the byte, field `r` starts `W · (r mod K)` bits into byte
`r / K` and ends inside that byte. -/
theorem field_in_byte {W K : Nat} (hWK : W * K = 8) (r : Nat) :
    r * W = 8 * (r / K) + W * (r % K) ∧ W * (r % K) + W ≤ 8 := by
  have hK : 0 < K := Nat.pos_of_ne_zero (by rintro rfl; omega)
  constructor
  · rw [← hWK, Nat.mul_assoc, ← Nat.mul_add, Nat.div_add_mod, Nat.mul_comm]
  · rw [← Nat.mul_succ, ← hWK]; exact Nat.mul_le_mul_left W (Nat.mod_lt r hK)

theorem pow_field {lb : Nat} (h : lb ≤ 3) : 2 ^ lb * 2 ^ (3 - lb) = 8 := by
  rw [← Nat.pow_add, Nat.add_sub_cancel' h]

theorem pow_wide {lb : Nat} (h : 3 ≤ lb) : 2 ^ lb = 8 * 2 ^ (lb - 3) := by
  rw [show (8 : Nat) = 2 ^ 3 from rfl, ← Nat.pow_add, Nat.add_sub_cancel' h]

/-- the closed form of `meta_byte_lshift` holds of every `a`: shifting left by `rem = 64 - (3 - log_bits)`
on 64 bits and back keeps exactly the low `3 - log_bits` bits of the region index. -/
theorem lshift_closed (s : Spec) (a : Nat) (hlb : s.logBits < 3) :
    lshift s a = ((a >>> s.logRegion) % 2 ^ (3 - s.logBits)) * 2 ^ s.logBits := by
  have hfit := (field_in_byte (pow_field (Nat.le_of_lt hlb)) (a >>> s.logRegion)).2
  have hW := Nat.two_pow_pos s.logBits
  unfold lshift
  rw [if_neg (Nat.not_le_of_lt hlb)]
  simp only [Nat.shiftLeft_eq, Nat.shiftRight_eq_div_pow (_ % _)]
  have e64 : (2 : Nat) ^ 64 = 2 ^ (3 - s.logBits) * 2 ^ (64 - (3 - s.logBits)) := by
    rw [← Nat.pow_add]; congr 1; omega
  rw [e64, Nat.mul_mod_mul_right, Nat.mul_div_cancel _ (Nat.two_pow_pos _), ← e64]
  rw [Nat.mul_comm] at hfit
  rw [Nat.mod_eq_of_lt (by omega), Nat.mod_eq_of_lt (by omega)]

theorem lshift_wide (s : Spec) (a : Nat) (hlb : ¬ s.logBits < 3) : lshift s a = 0 := by
  unfold lshift; rw [if_pos (Nat.le_of_not_lt hlb)]

/-- no wrap in `address_to_contiguous_meta_address` for byte-or-wider fields. -/
theorem metaAddr_word (s : Spec) (hs : s.ok) (a : Nat) (ha : a < 2 ^ 64) (hlb : 3 ≤ s.logBits) :
    metaAddr s a = s.start + (a >>> s.logRegion) * 2 ^ (s.logBits - 3) := by
  unfold metaAddr
  by_cases h3 : s.logBits ≤ 3
  · have : s.logBits = 3 := by omega
    simp [this]
  · simp only [h3, if_false, Nat.shiftLeft_eq]
    congr 1
    apply Nat.mod_eq_of_lt
    have h1 : (a >>> s.logRegion) * 2 ^ (s.logBits - 3) ≤ (a >>> s.logRegion) * 2 ^ s.logRegion :=
      Nat.mul_le_mul_left _ (Nat.pow_le_pow_right (by omega) (by have := hs.2; omega))
    have h2 : (a >>> s.logRegion) * 2 ^ s.logRegion ≤ a := by
      rw [Nat.shiftRight_eq_div_pow]; exact Nat.div_mul_le_self _ _
    omega

/-- **where a field lives**: the field of data address `a` starts at global bit
`8·start + region(a)·2^logBits` (byte `metaAddr`, bit `lshift`). -/
theorem field_position (s : Spec) (hs : s.ok) (a : Nat) (ha : a < 2 ^ 64) :
    8 * metaAddr s a + lshift s a = fieldBase s (a >>> s.logRegion) := by
  by_cases hlb : s.logBits < 3
  · have hf := (field_in_byte (pow_field (Nat.le_of_lt hlb)) (a >>> s.logRegion)).1
    rw [lshift_closed s a hlb]
    unfold metaAddr fieldBase
    rw [if_pos (Nat.le_of_lt hlb), Nat.shiftRight_eq_div_pow (a >>> s.logRegion), hf, Nat.mul_comm (_ % _)]
    omega
  · rw [metaAddr_word s hs a ha (by omega)]
    rw [lshift_wide s a hlb]
    unfold fieldBase
    rw [pow_wide (Nat.le_of_not_lt hlb)]
    generalize 2 ^ (s.logBits - 3) = w
    generalize a >>> s.logRegion = x
    rw [Nat.mul_add, Nat.add_zero, ← Nat.mul_assoc x 8 w, Nat.mul_comm x 8, Nat.mul_assoc]

/-- an interval between two field starts consists of whole fields. -/
theorem field_in_interval (s : Spec) (r0 r1 r i : Nat) (hi : i < 2 ^ s.logBits) :
    (fieldBase s r0 ≤ fieldBase s r + i ∧ fieldBase s r + i < fieldBase s r1) ↔ (r0 ≤ r ∧ r < r1) := by
  unfold fieldBase
  constructor
  · intro ⟨h1, h2⟩
    constructor
    · apply Nat.le_of_not_lt
      intro c
      have := Nat.mul_le_mul_right (2 ^ s.logBits) (Nat.succ_le_of_lt c)
      rw [Nat.succ_mul] at this
      omega
    · apply Nat.lt_of_not_le
      intro c
      have := Nat.mul_le_mul_right (2 ^ s.logBits) c
      omega
  · intro ⟨h1, h2⟩
    have a1 := Nat.mul_le_mul_right (2 ^ s.logBits) h1
    have a2 := Nat.mul_le_mul_right (2 ^ s.logBits) (Nat.succ_le_of_lt h2)
    rw [Nat.succ_mul] at a2
    omega

open Mmtk.HeaderMeta (ByteMem)

theorem testBit_absArr (m : Mem) (hm : ByteMem m) (s : Spec) (r i : Nat) :
    (absArr m s r).testBit i = (decide (i < 2 ^ s.logBits) && bitAt m (fieldBase s r + i)) := by
  unfold absArr bitAt fieldBase
  by_cases hlb : s.logBits < 3
  · simp only [hlb, if_true]
    rw [Nat.testBit_mod_two_pow, Nat.testBit_shiftRight]
    by_cases hi : i < 2 ^ s.logBits
    · obtain ⟨hf1, hf2⟩ := field_in_byte (pow_field (Nat.le_of_lt hlb)) r
      rw [Nat.mul_comm _ (r % _)] at hf1 hf2
      obtain ⟨e1, e2⟩ : (8 * s.start + r * 2 ^ s.logBits + i) / 8 = s.start + r / 2 ^ (3 - s.logBits) ∧
        (8 * s.start + r * 2 ^ s.logBits + i) % 8 = r % 2 ^ (3 - s.logBits) * 2 ^ s.logBits + i := by omega
      simp only [hi, decide_true, Bool.true_and]
      rw [e1, e2]
    · simp [hi]
  · simp only [hlb, if_false]
    rw [HeaderMeta.testBit_readLE m hm]
    rw [pow_wide (Nat.le_of_not_lt hlb), Nat.mul_left_comm r 8]
    generalize r * 2 ^ (s.logBits - 3) = k
    obtain ⟨e1, e2⟩ : (8 * s.start + 8 * k + i) / 8 = s.start + k + i / 8 ∧ (8 * s.start + 8 * k + i) % 8 = i % 8 := by
      omega
    rw [e1, e2]

theorem absArr_lt (m : Mem) (hm : ByteMem m) (s : Spec) (r : Nat) : absArr m s r < 2 ^ 2 ^ s.logBits := by
  apply Nat.lt_pow_two_of_testBit
  intro i hi
  rw [testBit_absArr m hm s]
  have : ¬ i < 2 ^ s.logBits := by omega
  simp [this]

theorem absArr_congr (m m' : Mem) (hm : ByteMem m) (hm' : ByteMem m') (s : Spec) (r : Nat)
    (h : ∀ p, InFieldOf s r p → bitAt m' p = bitAt m p) : absArr m' s r = absArr m s r := by
  apply Nat.eq_of_testBit_eq
  intro i
  rw [testBit_absArr m hm s, testBit_absArr m' hm' s]
  by_cases hi : i < 2 ^ s.logBits
  · rw [h _ ⟨by omega, by omega⟩]
  · simp [hi]

theorem absArr_eq_zero_iff (m : Mem) (hm : ByteMem m) (s : Spec) (r : Nat) :
    absArr m s r = 0 ↔ ∀ i, i < 2 ^ s.logBits → bitAt m (fieldBase s r + i) = false := by
  constructor
  · intro h i hi
    have := testBit_absArr m hm s r i
    rw [h] at this
    simpa [hi] using this.symm
  · intro h
    apply Nat.eq_of_testBit_eq
    intro i
    rw [testBit_absArr m hm s, Nat.zero_testBit]
    by_cases hi : i < 2 ^ s.logBits
    · simp [h i hi]
    · simp [hi]

/-! ## bridge to the splice lemmas: the field of `a` as a (byte, shift, width) header-style field (`fieldSpec`; the
lemmas `fs_…` say what its shift, address and well-formedness are) -/

def fieldSpec (s : Spec) (a : Nat) : HeaderMeta.Spec := { bitOffset := ((lshift s a : Nat) : Int), numBits := 2 ^ s.logBits }

theorem lshift_bound (s : Spec) (a : Nat) (hlb : s.logBits < 3) :
    lshift s a + 2 ^ s.logBits ≤ 8 := by
  rw [lshift_closed s a hlb, Nat.mul_comm]
  exact (field_in_byte (pow_field (Nat.le_of_lt hlb)) (a >>> s.logRegion)).2

theorem lshift_lt8 (s : Spec) (a : Nat) : lshift s a < 8 := by
  by_cases hlb : s.logBits < 3
  · have := lshift_bound s a hlb
    have := Nat.two_pow_pos s.logBits
    omega
  · rw [lshift_wide s a hlb]; decide

theorem fs_shift (s : Spec) (a : Nat) (hlb : s.logBits < 3) : (fieldSpec s a).shift = lshift s a := by
  have := lshift_bound s a hlb
  have hp := Nat.two_pow_pos s.logBits
  unfold fieldSpec HeaderMeta.Spec.shift
  simp only
  omega

theorem fs_addr (s : Spec) (a h : Nat) (hlb : s.logBits < 3) : (fieldSpec s a).addr h = h := by
  have := lshift_bound s a hlb
  have hp := Nat.two_pow_pos s.logBits
  unfold fieldSpec HeaderMeta.Spec.addr HeaderMeta.Spec.byteOffset
  simp only
  omega

theorem fs_ok (s : Spec) (a : Nat) (hlb : s.logBits < 3) : (fieldSpec s a).bitsOk := by
  have h1 := lshift_bound s a hlb
  have h2 := fs_shift s a hlb
  refine ⟨Nat.two_pow_pos _, ?_, ?_⟩
  · show 2 ^ s.logBits < 8
    calc 2 ^ s.logBits < 2 ^ 3 := Nat.pow_lt_pow_right (by omega) hlb
      _ = 8 := by decide
  · rw [h2]; exact h1

theorem fieldSize_dvd_256 (s : Spec) (hlb : s.logBits < 3) : 2 ^ 2 ^ s.logBits ∣ 256 :=
  Nat.pow_dvd_pow 2 (Nat.pow_le_pow_right (by decide) (Nat.le_of_lt hlb) : 2 ^ s.logBits ≤ 2 ^ 3)

theorem byteMask_eq (s : Spec) (hlb : s.logBits < 3) : byteMask s = 2 ^ 2 ^ s.logBits - 1 := by
  unfold byteMask
  simp only [Nat.one_shiftLeft]
  apply Nat.mod_eq_of_lt
  have := Nat.le_of_dvd (by decide) (fieldSize_dvd_256 s hlb)
  have := Nat.two_pow_pos (2 ^ s.logBits)
  omega

theorem fmask_eq (s : Spec) (a : Nat) (hlb : s.logBits < 3) :
    fmask s a = HeaderMeta.mask8 (fieldSpec s a) := by
  unfold fmask HeaderMeta.mask8
  rw [fs_shift s a hlb, byteMask_eq s hlb]
  rfl

theorem absArr_bits (m : Mem) (s : Spec) (a : Nat) (hlb : s.logBits < 3) :
    absArr m s (a >>> s.logRegion) = HeaderMeta.getBits (fieldSpec s a) (m (metaAddr s a)) := by
  rw [HeaderMeta.getBits_eq _ (fs_ok s a hlb), fs_shift s a hlb, lshift_closed s a hlb]
  unfold absArr metaAddr
  have h3 : s.logBits ≤ 3 := by omega
  simp only [hlb, h3, if_true, Nat.shiftRight_eq_div_pow (a >>> s.logRegion)]
  rfl

theorem absArr_word (m : Mem) (s : Spec) (hs : s.ok) (a : Nat) (hlb : ¬ s.logBits < 3) (ha : a < 2 ^ 64) :
    absArr m s (a >>> s.logRegion) = readLE m (metaAddr s a) (tbytes s) := by
  rw [metaAddr_word s hs a ha (by omega)]
  unfold absArr tbytes
  simp only [hlb, if_false]

theorem load_eq_absArr (s : Spec) (hs : s.ok) (m : Mem) (a : Nat) (ha : a < 2 ^ 64) :
    load s m a = absArr m s (a >>> s.logRegion) := by
  by_cases hlb : s.logBits < 3
  · rw [absArr_bits m s a hlb]
    unfold load HeaderMeta.getBits
    simp only [hlb, if_true, fmask_eq s a hlb, fs_shift s a hlb]
  · rw [absArr_word m s hs a hlb ha]
    unfold load
    simp only [hlb, if_false]

theorem shiftRight_mul_pow (r lr : Nat) : (r * 2 ^ lr) >>> lr = r := by
  rw [Nat.shiftRight_eq_div_pow, Nat.mul_div_cancel _ (Nat.two_pow_pos lr)]

theorem load_region (s : Spec) (hs : s.ok) (m : Mem) (r : Nat) (h : r * 2 ^ s.logRegion < 2 ^ 64) :
    load s m (r * 2 ^ s.logRegion) = absArr m s r := by
  rw [load_eq_absArr s hs m _ h, shiftRight_mul_pow]

end Mmtk.SideMeta
