/-!
# Verdict chains

The monitor's verdict functions (`checkAlloc`, `checkObj`, `checkSnap`, …) are chains
`if bad₁ then some e₁ else if bad₂ then some e₂ else … else none` (or `if ok then … else some e`): they answer
`none` iff no clause fails.  Checks of neighbours (`strictIncr`, `adjacentOk`) for a transitive relation cover every
ordered pair.
-/
namespace Mmtk.Heap

theorem ite_some_eq_none {α} {c : Prop} [Decidable c] {a : α} {r : Option α} :
    (if c then some a else r) = none ↔ ¬ c ∧ r = none := by
  by_cases h : c
  · rw [if_pos h]; exact ⟨nofun, fun h' => absurd h h'.1⟩
  · rw [if_neg h]; exact ⟨fun h' => ⟨h, h'⟩, fun h' => h'.2⟩

theorem ite_else_some_eq_none {α} {c : Prop} [Decidable c] {a : α} {r : Option α} :
    (if c then r else some a) = none ↔ c ∧ r = none := by
  rw [← ite_not, ite_some_eq_none, Decidable.not_not]

theorem pairwise_of_neighbours {α} (R : α → α → Prop) [DecidableRel R] (tr : ∀ a b c, R a b → R b c → R a c)
    (chk : List α → Bool) (hc : ∀ a b rest, chk (a :: b :: rest) = (decide (R a b) && chk (b :: rest))) :
    ∀ l, chk l = true → l.Pairwise R
  | [], _ => .nil
  | [a], _ => List.pairwise_singleton R a
  | a :: b :: rest, h => by
    rw [hc, Bool.and_eq_true, decide_eq_true_eq] at h
    have ih := pairwise_of_neighbours R tr chk hc (b :: rest) h.2
    refine List.pairwise_cons.2 ⟨fun c hm => ?_, ih⟩
    rcases List.mem_cons.1 hm with rfl | hm
    · exact h.1
    · exact tr _ _ _ h.1 ((List.pairwise_cons.1 ih).1 c hm)

end Mmtk.Heap
