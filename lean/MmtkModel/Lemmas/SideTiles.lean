import MmtkModel.Model.SideMetaBulk
import MmtkModel.Lemmas.SideGeom
/-!
# `break_bit_range` tiles a bit interval

The ranges `break_bit_range` visits between two metadata positions (`BBR`: whole bytes, or bits within one byte) tile
the bit interval between them (`Tiles`, `breakBitRange_partition`), in either visiting order
(`breakBitRange_backwards`). For the interval `bulk_update_metadata` and the searches compute for a range of regions
the tiles are exactly the fields of those regions (`bulk_interval`, `meta_tiles`). The bulk operations (C21) fold a
visitor over the tiles; the searches (C22) take the first stop over them.
-/
namespace Mmtk.SideMeta
open Mmtk.Mem
open Mmtk.HeaderMeta (ByteMem)

def BBR.lo : BBR → Nat
  | .bytes s _ => 8 * s
  | .bits a bs _ => 8 * a + bs
def BBR.hi : BBR → Nat
  | .bytes _ e => 8 * e
  | .bits a _ be => 8 * a + be
/-- "A range is never empty" (doc of `BitByteRange`, `ranges.rs`), and an in-byte range stays inside its byte. -/
def BBR.wf : BBR → Prop
  | .bytes s e => s < e
  | .bits _ bs be => bs < be ∧ be ≤ 8

/-- `Tiles x L y`: the ranges of `L`, in order, tile the bit interval `[x, y)`; hence they are pairwise disjoint,
ordered, and their union is exactly `[x, y)` (`tiles_cover`, `tiles_sorted` in Props/C21). -/
def Tiles : Nat → List BBR → Nat → Prop
  | x, [], y => x = y
  | x, r :: rs, y => r.lo = x ∧ r.wf ∧ Tiles r.hi rs y

theorem tiles_append {x y z : Nat} {L1 L2 : List BBR} (h1 : Tiles x L1 y) (h2 : Tiles y L2 z) :
    Tiles x (L1 ++ L2) z := by
  induction L1 generalizing x with
  | nil => rw [show x = y from h1]; exact h2
  | cons r rs ih => exact ⟨h1.1, h1.2.1, ih h1.2.2⟩

theorem tiles_optional (c : Prop) [Decidable c] (r : BBR) {x y : Nat}
    (h1 : c → r.lo = x ∧ r.wf ∧ r.hi = y) (h2 : ¬ c → x = y) : Tiles x (if c then [r] else []) y := by
  by_cases hc : c
  · rw [if_pos hc]; exact ⟨(h1 hc).1, (h1 hc).2.1, (h1 hc).2.2⟩
  · rw [if_neg hc]; exact h2 hc

/-- **C21 (partition)**: for a well-ordered pair of positions the visited ranges tile exactly the
bit interval `[8·sa+sb, 8·ea+eb)`. -/
theorem breakBitRange_partition (sa sb ea eb : Nat) (hsb : sb < 8) (heb : eb < 8)
    (hord : sa < ea ∨ (sa = ea ∧ sb ≤ eb)) :
    Tiles (8 * sa + sb) (breakBitRange sa sb ea eb true) (8 * ea + eb) := by
  unfold breakBitRange
  by_cases c1 : sa = ea ∧ sb = eb
  · rw [if_pos c1, c1.1, c1.2]; rfl
  rw [if_neg c1]
  by_cases c2 : sb = 0 ∧ eb = 0
  · rw [if_pos c2, c2.1, c2.2]; exact ⟨rfl, show sa < ea by omega, rfl⟩
  rw [if_neg c2]
  by_cases c3 : sa = ea
  · rw [if_pos c3, c3]; exact ⟨rfl, ⟨by omega, by omega⟩, rfl⟩
  rw [if_neg c3]
  by_cases c4 : sa + 1 = ea ∧ eb = 0
  · rw [if_pos c4, ← c4.1, c4.2]; exact ⟨rfl, ⟨hsb, Nat.le_refl 8⟩, show 8 * sa + 8 = _ by omega⟩
  rw [if_neg c4, if_pos rfl]
  -- head bits up to the next byte boundary, whole bytes, tail bits: each piece is there iff non-empty
  exact tiles_append (tiles_append
    (tiles_optional _ _ (y := 8 * (if sb = 0 then sa else sa + 1))
      (fun h => ⟨rfl, ⟨hsb, Nat.le_refl 8⟩, by rw [if_neg h]; show 8 * sa + 8 = _; omega⟩)
      (fun h => by rw [if_pos (Decidable.not_not.1 h), Decidable.not_not.1 h]; rfl))
    (tiles_optional _ _ (y := 8 * ea) (fun h => ⟨rfl, h, rfl⟩)
      (fun h => by by_cases c : sb = 0 <;> simp only [c, if_true, if_false] at h ⊢ <;> omega)))
    (tiles_optional _ _ (x := 8 * ea) (y := 8 * ea + eb) (fun h => ⟨rfl, ⟨by omega, by omega⟩, rfl⟩) (fun h => by omega))

theorem reverse_ite_singleton {α : Type} (c : Prop) [Decidable c] (a : α) :
    (if c then [a] else []).reverse = if c then [a] else [] := by
  by_cases h : c
  · rw [if_pos h]; rfl
  · rw [if_neg h]; rfl

theorem breakBitRange_backwards (sa sb ea eb : Nat) :
    breakBitRange sa sb ea eb false = (breakBitRange sa sb ea eb true).reverse := by
  unfold breakBitRange
  by_cases c1 : sa = ea ∧ sb = eb
  · rw [if_pos c1, if_pos c1]; rfl
  rw [if_neg c1, if_neg c1]
  by_cases c2 : sb = 0 ∧ eb = 0
  · rw [if_pos c2, if_pos c2]; rfl
  rw [if_neg c2, if_neg c2]
  by_cases c3 : sa = ea
  · rw [if_pos c3, if_pos c3]; rfl
  rw [if_neg c3, if_neg c3]
  by_cases c4 : sa + 1 = ea ∧ eb = 0
  · rw [if_pos c4, if_pos c4]; rfl
  rw [if_neg c4, if_neg c4]
  show _ = List.reverse (_ ++ _ ++ _)
  rw [List.reverse_append, List.reverse_append, reverse_ite_singleton, reverse_ite_singleton,
    reverse_ite_singleton, ← List.append_assoc]
  rfl

theorem BBR.lo_lt_hi (r : BBR) (h : r.wf) : r.lo < r.hi := by
  cases r <;> simp only [BBR.lo, BBR.hi, BBR.wf] at * <;> omega

theorem tiles_le {x y : Nat} {L : List BBR} (h : Tiles x L y) : x ≤ y := by
  induction L generalizing x with
  | nil => simp only [Tiles] at h; omega
  | cons r rs ih =>
    obtain ⟨h1, h2, h3⟩ := h
    have := ih h3
    have := r.lo_lt_hi h2
    omega

theorem tiles_bounds {x y : Nat} {L : List BBR} (h : Tiles x L y) : ∀ r ∈ L, x ≤ r.lo ∧ r.hi ≤ y ∧ r.wf := by
  induction L generalizing x with
  | nil => intro r hr; cases hr
  | cons r0 rs ih =>
    obtain ⟨h1, h2, h3⟩ := h
    intro r hr
    have hlt := r0.lo_lt_hi h2
    have hle := tiles_le h3
    rcases List.mem_cons.1 hr with e | e
    · subst e; exact ⟨by omega, hle, h2⟩
    · have := ih h3 r e
      exact ⟨by omega, this.2.1, this.2.2⟩

/-- **C21 (the interval is a set of whole fields)**: the metadata positions `bulk_update_metadata`
computes for `[start, start+size)` are the first bit of the field of region `⌊start/R⌋` and the first bit of
the field of region `⌊(start+size)/R⌋`, in this order and fit for `break_bit_range` — for any alignment of `start`
and `size`. That the interval between them consists exactly of the fields of the regions in between is
`field_in_interval` (Lemmas/SideGeom). -/
theorem bulk_interval (s : Spec) (hs : s.ok) (start size : Nat) (h : start + size < 2 ^ 64) :
    8 * metaAddr s start + lshift s start = fieldBase s (start >>> s.logRegion) ∧
    8 * metaAddr s (start + size) + lshift s (start + size) = fieldBase s ((start + size) >>> s.logRegion) ∧
    lshift s start < 8 ∧ lshift s (start + size) < 8 ∧
    (metaAddr s start < metaAddr s (start + size) ∨
      (metaAddr s start = metaAddr s (start + size) ∧ lshift s start ≤ lshift s (start + size))) := by
  have h1 := field_position s hs start (by omega)
  have h2 := field_position s hs (start + size) h
  have h3 := lshift_lt8 s start
  have h4 := lshift_lt8 s (start + size)
  have hm : start >>> s.logRegion ≤ (start + size) >>> s.logRegion := by
    rw [Nat.shiftRight_eq_div_pow, Nat.shiftRight_eq_div_pow]
    exact Nat.div_le_div_right (by omega)
  have := fieldBase_mono s hm
  exact ⟨h1, h2, h3, h4, by omega⟩

theorem meta_tiles (s : Spec) (hs : s.ok) (x y : Nat) (hxy : x ≤ y) (hy : y < 2 ^ 64) :
    Tiles (fieldBase s (x >>> s.logRegion))
      (breakBitRange (metaAddr s x) (lshift s x) (metaAddr s y) (lshift s y) true) (fieldBase s (y >>> s.logRegion)) := by
  have e : x + (y - x) = y := Nat.add_sub_cancel' hxy
  obtain ⟨e1, e2, b1, b2, ho⟩ := bulk_interval s hs x (y - x) (by rw [e]; exact hy)
  rw [e] at e2 b2 ho
  rw [← e1, ← e2]
  exact breakBitRange_partition _ _ _ _ b1 b2 ho

end Mmtk.SideMeta
