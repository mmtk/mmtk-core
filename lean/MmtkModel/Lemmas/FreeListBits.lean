import MmtkModel.Model.FreeList
import MmtkModel.Lemmas.Bits
/-!
# Field view of the `i32` entries of the free-list table (C26, concrete layer)

Every entry is read through three fields only: bit 31 (`FREE` in a lo entry, `MULTI` in a hi entry),
bit 30 (`COALESC` in a lo entry) and the low 30 bits (`lo30`: `prev` / `next` link, or a size).  The
lemmas here say how each of the mask expressions of `Mmtk.FreeList` acts on the three fields: the fields
of the six masks themselves are evaluated (`B31_bits` …), the rest is `testBit_or` / `testBit_and` /
`mod_two_pow`.  Those about the mask expressions of the writes (`flag31_*`, `flag30_*`, `setLink_*`,
`B31_or_*`) are `simp` lemmas: the table layer uses them to see which fields an entry update writes
back unchanged.
-/
namespace Mmtk.FreeList

theorem B31_eq : B31 = 2 ^ 31 := by decide
theorem B30_eq : B30 = 2 ^ 30 := by decide
theorem M30_eq : M30 = 2 ^ 30 - 1 := by decide

theorem and_B31_beq (x : Nat) : (x &&& B31 == B31) = x.testBit 31 := by
  rw [B31_eq, Bits.and_two_pow_eq]
  cases x.testBit 31 <;> simp

theorem and_B30_beq (x : Nat) : (x &&& B30 == 0) = !x.testBit 30 := by
  rw [B30_eq, Bits.and_two_pow_eq]
  cases x.testBit 30 <;> simp

theorem and_M30 (x : Nat) : x &&& M30 = x % 2 ^ 30 := by
  rw [M30_eq, Nat.and_two_pow_sub_one_eq_mod]

/-- the low 30 bits of an entry: a link or a size (a name of its own, so that `simp` leaves `2 ^ 30` alone) -/
def lo30 (x : Nat) : Nat := x % 2 ^ 30

theorem B31_bits : B31.testBit 31 = true ∧ B31.testBit 30 = false ∧ B31 % 2 ^ 30 = 0 := by decide
theorem B30_bits : B30.testBit 31 = false ∧ B30.testBit 30 = true ∧ B30 % 2 ^ 30 = 0 := by decide
theorem NOT_B31_bits : NOT_B31.testBit 31 = false ∧ NOT_B31.testBit 30 = true ∧ NOT_B31 % 2 ^ 30 = 2 ^ 30 - 1 := by
  decide
theorem NOT_B30_bits : NOT_B30.testBit 31 = true ∧ NOT_B30.testBit 30 = false ∧ NOT_B30 % 2 ^ 30 = 2 ^ 30 - 1 := by
  decide
theorem NOT_M30_bits : NOT_M30.testBit 31 = true ∧ NOT_M30.testBit 30 = true ∧ NOT_M30 % 2 ^ 30 = 0 := by decide
theorem M30_bits : M30.testBit 31 = false ∧ M30.testBit 30 = false ∧ M30 % 2 ^ 30 = 2 ^ 30 - 1 := by decide

theorem and_low_mask (x m : Nat) (h : m % 2 ^ 30 = 2 ^ 30 - 1) : lo30 (x &&& m) = lo30 x := by
  rw [lo30, lo30, Nat.and_mod_two_pow, h, Nat.and_two_pow_sub_one_eq_mod, Nat.mod_mod]

@[simp] theorem flag31_t31 (x : Nat) (b : Bool) : (if b then x ||| B31 else x &&& NOT_B31).testBit 31 = b := by
  cases b
  · rw [if_neg Bool.false_ne_true, Nat.testBit_and, NOT_B31_bits.1, Bool.and_false]
  · rw [if_pos rfl, Nat.testBit_or, B31_bits.1, Bool.or_true]
@[simp] theorem flag31_t30 (x : Nat) (b : Bool) : (if b then x ||| B31 else x &&& NOT_B31).testBit 30 = x.testBit 30 := by
  cases b
  · rw [if_neg Bool.false_ne_true, Nat.testBit_and, NOT_B31_bits.2.1, Bool.and_true]
  · rw [if_pos rfl, Nat.testBit_or, B31_bits.2.1, Bool.or_false]
@[simp] theorem flag31_lnk (x : Nat) (b : Bool) : lo30 (if b then x ||| B31 else x &&& NOT_B31) = lo30 x := by
  cases b
  · rw [if_neg Bool.false_ne_true, and_low_mask x _ NOT_B31_bits.2.2]
  · rw [if_pos rfl, lo30, Nat.or_mod_two_pow, B31_bits.2.2, Nat.or_zero]; rfl

@[simp] theorem flag30_t31 (x : Nat) (b : Bool) : (if b then x ||| B30 else x &&& NOT_B30).testBit 31 = x.testBit 31 := by
  cases b
  · rw [if_neg Bool.false_ne_true, Nat.testBit_and, NOT_B30_bits.1, Bool.and_true]
  · rw [if_pos rfl, Nat.testBit_or, B30_bits.1, Bool.or_false]
@[simp] theorem flag30_t30 (x : Nat) (b : Bool) : (if b then x ||| B30 else x &&& NOT_B30).testBit 30 = b := by
  cases b
  · rw [if_neg Bool.false_ne_true, Nat.testBit_and, NOT_B30_bits.2.1, Bool.and_false]
  · rw [if_pos rfl, Nat.testBit_or, B30_bits.2.1, Bool.or_true]
@[simp] theorem flag30_lnk (x : Nat) (b : Bool) : lo30 (if b then x ||| B30 else x &&& NOT_B30) = lo30 x := by
  cases b
  · rw [if_neg Bool.false_ne_true, and_low_mask x _ NOT_B30_bits.2.2]
  · rw [if_pos rfl, lo30, Nat.or_mod_two_pow, B30_bits.2.2, Nat.or_zero]; rfl

/-! `simp high` (here and at `B31_or_t31`): at default priority core's `Nat.testBit_or` / `Nat.testBit_and`
rewrite the same term first and the mask's bit is never evaluated. -/
@[simp high] theorem setLink_t31 (x v : Nat) : ((x &&& NOT_M30) ||| (v &&& M30)).testBit 31 = x.testBit 31 := by
  rw [Nat.testBit_or, Nat.testBit_and, Nat.testBit_and, NOT_M30_bits.1, M30_bits.1, Bool.and_true, Bool.and_false,
    Bool.or_false]
@[simp high] theorem setLink_t30 (x v : Nat) : ((x &&& NOT_M30) ||| (v &&& M30)).testBit 30 = x.testBit 30 := by
  rw [Nat.testBit_or, Nat.testBit_and, Nat.testBit_and, NOT_M30_bits.2.1, M30_bits.2.1, Bool.and_true, Bool.and_false,
    Bool.or_false]
@[simp] theorem setLink_lnk (x v : Nat) : lo30 ((x &&& NOT_M30) ||| (v &&& M30)) = lo30 v := by
  rw [lo30, Nat.or_mod_two_pow, Nat.and_mod_two_pow (a := x), NOT_M30_bits.2.2, Nat.and_zero, Nat.zero_or]
  exact and_low_mask v _ M30_bits.2.2

@[simp high] theorem B31_or_t31 (v : Nat) : (B31 ||| v).testBit 31 = true := by
  rw [Nat.testBit_or, B31_bits.1, Bool.true_or]
@[simp] theorem B31_or_lnk (v : Nat) : lo30 (B31 ||| v) = lo30 v := by
  rw [lo30, Nat.or_mod_two_pow, B31_bits.2.2, Nat.zero_or]; rfl

theorem enc_nat (n : Nat) (h : n < 2 ^ 32) : enc (n : Int) = n := by
  have h' : n < 4294967296 := by simpa using h
  simp only [enc]; omega
theorem enc_neg_lnk (k : Nat) (h : k < 2 ^ 30) : enc (-((k : Int) + 1)) % 2 ^ 30 = 2 ^ 30 - (k + 1) := by
  have h' : k < 1073741824 := by simpa using h
  simp only [enc]; omega

end Mmtk.FreeList
