import MmtkModel.Lemmas.FreeListRel
/-!
# The steps of `alloc`, `alloc_from_unit`, `set_uncoalescable`, `clear_uncoalescable` (C26, concrete layer)

`__split(s, n)` of the free run `[s, e)`: two `set_size` and the `set_free` of `add_to_free` change the
table inside `[s, e)` only and make `[s, s + n)`, `[s + n, e)` two well-formed runs, the second not yet
linked (`cut_step`, by `RelX.frame`); the link writes of `add_to_free` then put it on the list
(`link_step`).  `__alloc` of the first `n` units of a free run is `split_step` (if the run is larger),
then `take_run` (`remove_step`, `take_finish`): `allocAt_refines`; `alloc` finds the run by the first-fit walk
(`allocLoop_walk`, on the ghost list split at the first member that fits: `first_split`).  The theorems
per method, `alloc_refines` …, are in `Props/C26`.
-/
namespace Mmtk.FreeList
open Mmtk.Runs

variable {X : Nat → Prop} {t : Tab} {a : AS} {L : Nat → List Nat}

/-- the abstract state after `__split`: a new boundary at `c`, nothing else.  It has the `cut` of
`Runs.apply a (.alloc k s n e)` for `c = s + n`, so `alloc_run_taken` / `alloc_run_rest` speak of it as they stand. -/
def splitAt (a : AS) (c : Nat) : AS := { a with cut := fun b => if b = c then true else a.cut b }

/-- the two `set_size` of `__split` -/
def pSplitSizes (t : Tab) (s n rest : Int) : Tab := pSetSize (pSetSize t s n) (s + n) rest

/-- `__split` as a pure function -/
def pSplit (t : Tab) (h : Int) (s n rest : Int) : Tab := pAddToFree (pSplitSizes t s n rest) h (s + n)

@[simp] theorem heads_pSplit (t : Tab) (h s n rest : Int) : (pSplit t h s n rest).heads = t.heads := by
  simp [pSplit, pSplitSizes]

section split
variable {k s e n : Nat}

theorem split_sizes (h : RelX X t a L) (hr : IsRun a s e) (hn : 1 ≤ n) (hf : s + n < e) :
    Sized (pSplitSizes t s n ((e : Int) - s - n)) s (s + n) ∧ Sized (pSplitSizes t s n ((e : Int) - s - n)) (s + n) e ∧
    SameOutside t (pSplitSizes t s n ((e : Int) - s - n)) s e ∧
    ∀ w, fFree (pSplitSizes t s n ((e : Int) - s - n)) w = fFree t w := by
  unfold pSplitSizes
  have hlt := hr.lt_units
  have hul := h.units_le
  have hpos := h.hpos
  have hR : ∀ (t' : Tab), SameOutside t t' s e → ∀ w : Int, (s : Int) ≤ w → w < e → InR t' w := fun t' ht w h0 h1 =>
    (ht.inR w).mpr (h.inR (by omega) (by omega))
  have o1 : SameOutside t (pSetSize t s n) s e := (sameOutside_pSetSize t s n (by omega)).mono (Int.le_refl _) (by omega)
  have o2 : SameOutside (pSetSize t s n) (pSetSize (pSetSize t s n) ((s : Int) + n) ((e : Int) - s - n)) ((s : Int) + n) e :=
    (sameOutside_pSetSize _ _ _ (by omega)).mono (Int.le_refl _) (by omega)
  have s1 : Sized (pSetSize t s n) s (s + n) :=
    sized_pSetSize rfl (by omega) (by omega) (by omega) fun w h0 h1 => hR t (.refl ..) w h0 (by omega)
  have s2 : Sized (pSetSize (pSetSize t s n) ((s : Int) + n) ((e : Int) - s - n)) (s + n) e :=
    sized_pSetSize (by omega) (by omega) hf (by omega) fun w h0 h1 => hR _ o1 w (by omega) h1
  exact ⟨s1.congr (by omega) (fun w _ h1 => o2.multi w (Or.inl (by omega))) (fun w _ h1 => o2.next w (Or.inl (by omega))),
    s2, o1.trans (o2.mono (by omega) (Int.le_refl _)), fun w => by simp⟩

theorem cut_step (h : RelX X t a L) (hr : IsRun a s e) (hown : a.own s = some k) (hn : 1 ≤ n) (hf : s + n < e) :
    RelX (fun y => X y ∨ y = s + n) (pSetFree (pSplitSizes t s n ((e : Int) - s - n)) ((s : Int) + n) true)
      (splitAt a (s + n)) L := by
  obtain ⟨s1, s2, ht, hfr⟩ := split_sizes h hr hn hf
  generalize pSplitSizes t s n ((e : Int) - s - n) = t2 at s1 s2 ht hfr
  have hse := hr.1
  have hlt := hr.lt_units
  have ok := h.run s e hr
  have hc : (s : Int) + n = ((s + n : Nat) : Int) := by omega
  have hR : InR t2 ((s : Int) + n) := (ht.inR _).mpr (h.inR_nat (by omega))
  have hsz : sizeOf t2 ((s : Int) + n) = (e : Int) - ((s : Int) + n) := by rw [hc, s2.sizeOf hf]
  have hf2 := sameOutside_pSetFree t2 ((s : Int) + n) true hsz (by omega)
  have r1 : IsRun (splitAt a (s + n)) s (s + n) := alloc_run_taken (k := k) a hr hn (Nat.le_of_lt hf)
  have r2 : IsRun (splitAt a (s + n)) (s + n) e := alloc_run_rest (k := k) a hr hf
  have hown2 : a.own (s + n) = a.own s := ok.own _ (by omega) hf
  refine h.frame (ht := ht.trans (hf2.mono (by omega) (Int.le_refl _)))
    (hw := ⟨rfl, fun _ => rfl, fun b hb _ => if_neg (by omega), fun _ _ => rfl⟩) (hlh := hse) (hhi := hlt.2)
    (hblo := hr.2.2.1) (hbhi := hr.2.2.2.1) (hX := fun y hy => ⟨fun f => f.elim id (by omega), Or.inl⟩)
    (hin := fun x y hxy h1 h2 => ?_) (hmem := fun j y hj hy h1 h2 => ?_)
  · have hxy1 := hxy.1
    rcases run_eq_or_disjoint _ r1 hxy with ⟨rfl, rfl⟩ | g1
    · refine ⟨(s1.pSetFree (by omega) ..).multi, (s1.pSetFree (by omega) ..).sz, ?_, fun u h1 h2 => ok.own u h1 (by omega),
        fun j hj => ⟨by rw [heads_pSetFree, ht.heads]; exact (ok.mem j hj).1, (ok.mem j hj).2.imp id Or.inl⟩⟩
      rw [hf2.free _ (Or.inl (by omega)), hfr]; exact ok.free
    · obtain ⟨rfl, rfl⟩ : x = s + n ∧ y = e := by
        rcases run_eq_or_disjoint _ r2 hxy with g2 | g2 <;> omega
      refine ⟨(s2.pSetFree hf ..).multi, (s2.pSetFree hf ..).sz, ?_,
        fun u h1 h2 => (ok.own u (by omega) h2).trans hown2.symm,
        fun j hj => ⟨by rw [heads_pSetFree, ht.heads]; exact (ok.mem j (hown2 ▸ hj)).1, Or.inr (Or.inr rfl)⟩⟩
      rw [← hc, fFree_pSetFree_self hR]
      exact (congrArg Option.isSome (hown2.trans hown)).symm
  · obtain rfl : y = s := by have := h.mem_outside hj hy hr; omega
    obtain ⟨m1, m2, -⟩ := (h.list j hj).2.2 y hy
    exact ⟨rfl, m1, fun f => f.elim m2 (by omega), _, r1⟩

theorem split_step (debug : Bool) (h : Rel t a L) (hr : IsRun a s e) (hown : a.own s = some k) (hn : 1 ≤ n)
    (hf : s + n < e) :
    split debug t (hd k) (s : Int) (n : Int) = .ok (pSplit t (hd k) s n ((e : Int) - s - n)) ∧
    Rel (pSplit t (hd k) s n ((e : Int) - s - n)) (splitAt a (s + n)) (setL L k ((s + n) :: L k)) := by
  have hlt := hr.lt_units
  have hpos := h.hpos
  have hk := ((h.run s e hr).mem k hown).1
  have hR : ∀ w : Int, (s : Int) ≤ w → w < e → InR t w := fun w h0 h1 => h.inR (by omega) (by omega)
  obtain ⟨-, s2, ht, -⟩ := split_sizes h hr hn hf
  have hc : (s : Int) + n = ((s + n : Nat) : Int) := by omega
  constructor
  · unfold split pSplit pSplitSizes
    rw [h.getSize_run hr]
    have hdb : (debug && !decide ((e : Int) - s > n)) = false := by
      rw [decide_eq_true (by omega : (e : Int) - s > n)]; cases debug <;> rfl
    simp only [bind, Except.bind, hdb, Bool.false_eq_true, if_false]
    rw [setSize_range (by omega) fun w h0 h1 => hR w h0 (by omega)]
    simp only []
    rw [setSize_range (by omega) fun w h0 h1 => (InR_pSetSize ..).mpr (hR w (by omega) (by omega))]
    simp only []
    rw [hc]
    exact addToFree_sized debug h hk ht (hc ▸ s2) hf hlt.2
  · have h1 := cut_step h hr hown hn hf
    have hk1 : (k : Int) < (pSetFree (pSplitSizes t s n ((e : Int) - s - n)) ((s : Int) + n) true).heads := by
      rw [heads_pSetFree, ht.heads]; exact hk
    have h2 := link_step h1 hk1 (alloc_run_rest (k := k) a hr hf)
      (((h.run s e hr).own _ (by omega) hf).trans hown) (Or.inr rfl)
    rw [← hc] at h2
    exact h2.congrX fun y => ⟨fun f => f.1.elim id (fun c => absurd c f.2), False.elim⟩

end split

/-- `set_free(unit, false)` of an unlinked free run; abstractly `alloc` of the exact run. -/
theorem take_finish (k : Nat) {s e : Nat} (h : RelX (fun y => y = s) t a L) (hr : IsRun a s e) :
    setFree t (s : Int) false = .ok (pSetFree t (s : Int) false) ∧
    Rel (pSetFree t (s : Int) false) (Runs.apply a (.alloc k s (e - s) e)) L := by
  have hse := hr.1
  have hlt := hr.lt_units
  have hpos := h.hpos
  have hsz := h.sizeOf_run hr
  have hsR : InR t (s : Int) := h.inR_nat (by omega)
  have hn : 1 ≤ e - s := by omega
  have hf : s + (e - s) ≤ e := by omega
  have hin : ∀ u, s ≤ u → u < e → (Runs.apply a (.alloc k s (e - s) e)).own u = none := fun u h1 h2 =>
    if_pos ⟨h1, by omega⟩
  refine ⟨setFree_sized (h.sized hr) hse (h.inR_run hr) false, ?_⟩
  refine h.frame (ht := sameOutside_pSetFree t s false hsz (by omega)) (hw := alloc_within a hr hn hf)
    (hlh := hse) (hhi := hlt.2) (hblo := hr.2.2.1) (hbhi := hr.2.2.2.1)
    (hX := fun y hy => ⟨False.elim, fun c => by omega⟩) (hin := fun x y hxy h1 h2 => ?_)
    (hmem := fun j y hj hy h1 h2 => ?_)
  · have hxy1 := hxy.1
    obtain ⟨rfl, rfl⟩ : x = s ∧ y = e := by
      rcases run_eq_or_disjoint _ (alloc_run_taken a hr hn hf) hxy with g | g | g <;> omega
    have ok := h.run x y hr
    refine ⟨by rw [fMulti_pSetFree]; exact ok.multi, by rw [fNext_pSetFree, fMulti_pSetFree, fNext_pSetFree]; exact ok.sz,
      ?_, fun u h1 h2 => ?_, fun j hj => ?_⟩
    · rw [fFree_pSetFree_self hsR, hin x (Nat.le_refl _) hse]; rfl
    · rw [hin u h1 h2, hin x (Nat.le_refl _) hse]
    · rw [hin x (Nat.le_refl _) hse] at hj; cases hj
  · have := h.mem_outside hj hy hr
    exact absurd (by omega : y = s) ((h.list j hj).2.2 y hy).2.1

/-- The left side has the shape in which `take_run` hands it to `allocAt_refines`. -/
theorem apply_splitAt_alloc (a : AS) (k s n e : Nat) :
    Runs.apply (splitAt a (s + n)) (.alloc k s (s + n - s) (s + n)) = Runs.apply a (.alloc k s n e) := by
  have e1 : s + n - s = n := by omega
  rw [e1]
  simp only [Runs.apply, splitAt]
  congr 1
  funext b
  by_cases hb : b = s + n <;> simp [hb]

theorem take_run {k s e : Nat} (debug : Bool) (h : Rel t a L) (hr : IsRun a s e) (hown : a.own s = some k) :
    ∃ t1 t' L', removeFromFree debug t (hd k) (s : Int) = .ok t1 ∧ setFree t1 (s : Int) false = .ok t' ∧
      Rel t' (Runs.apply a (.alloc k s (e - s) e)) L' ∧ t'.heads = t.heads := by
  obtain ⟨hk, hsk⟩ := h.mem_list hr hown
  obtain ⟨r1, r2⟩ := remove_step debug h hk hsk
  obtain ⟨f1, f2⟩ := take_finish k (r2.congrX (X' := fun y => y = s) fun y => by simp) hr
  exact ⟨_, _, _, r1, f1, f2, by simp⟩

theorem allocAt_refines {k s e n : Nat} (debug : Bool)
    (h : Rel t a L) (hr : IsRun a s e) (hown : a.own s = some k) (hn : 1 ≤ n) (hf : s + n ≤ e) :
    ∃ t' L', allocAt debug t (hd k) (n : Int) (s : Int) ((e : Int) - s) = .ok (t', (s : Int)) ∧
      Rel t' (Runs.apply a (.alloc k s n e)) L' ∧ t'.heads = t.heads := by
  unfold allocAt
  have c1 : (e : Int) - s ≥ n := by omega
  simp only [c1, if_true, bind, Except.bind]
  by_cases hlt : s + n < e
  · have c2 : (e : Int) - s > n := by omega
    obtain ⟨hso, h1⟩ := split_step debug h hr hown hn hlt
    obtain ⟨t1, t', L', g1, g2, g3, g4⟩ := take_run debug h1 (alloc_run_taken (k := k) a hr hn hf) hown
    rw [apply_splitAt_alloc] at g3
    simp only [c2, if_true, hso, g1, g2]
    exact ⟨_, _, rfl, g3, by rw [g4, heads_pSplit]⟩
  · have c2 : ¬ (e : Int) - s > n := by omega
    obtain rfl : n = e - s := by omega
    obtain ⟨t1, t', L', g1, g2, g3, g4⟩ := take_run debug h hr hown
    simp only [c2, if_false, pure, Except.pure, g1, g2]
    exact ⟨_, _, rfl, g3, g4⟩

/-- The mark is a field of its own, read by `RelX.unc` only. -/
theorem unc_step {u : Nat} (h : Rel t a L) (hu : u ≤ a.units) (b : Bool) :
    Rel (wUnc t (u : Int) b) { a with unc := fun x => if x = u then b else a.unc x } L := by
  have hR := h.inR_nat hu
  constructor
  · simpa using h.hpos
  · simpa using h.hle
  · simpa using h.size_eq
  · exact h.units_le
  · simpa using h.top_free
  · intro j hj; simpa using h.head_free j (by simpa using hj)
  · intro j hj; simpa using h.head_multi j (by simpa using hj)
  · intro w hw
    rw [fUnc_wUnc]
    by_cases c : w = u
    · subst c; simp [hR]
    · have c' : (w : Int) ≠ (u : Int) := by omega
      simp only [c, c', false_and, if_false]; exact h.unc w hw
  · intro x y hxy
    have ok := h.run x y hxy
    exact ⟨by simpa using ok.multi, by simpa using ok.sz, by simpa using ok.free, ok.own,
      fun j hj => by simpa using ok.mem j hj⟩
  · intro j hj
    obtain ⟨q1, q2, q3⟩ := h.list j (by simpa using hj)
    exact ⟨Links_congr _ _ (by simp) (fun _ _ => by simp) (by simp) (fun _ _ => by simp) q1, q2, q3⟩

theorem first_split {α : Type} (p : α → Prop) [DecidablePred p] (l : List α) :
    ∃ l1 rest, l = l1 ++ rest ∧ (∀ z ∈ l1, ¬ p z) ∧ ∀ y, rest.head? = some y → p y := by
  cases h : l.find? (fun z => decide (p z)) with
  | none => exact ⟨l, [], (List.append_nil l).symm, fun z hz => by simpa using List.find?_eq_none.mp h z hz, nofun⟩
  | some y =>
    obtain ⟨hy, l1, l2, e, h1⟩ := List.find?_eq_some_iff_append.mp h
    exact ⟨l1, y :: l2, e, fun z hz => by simpa using h1 z hz, fun _ c => by cases c; simpa using hy⟩

end Mmtk.FreeList
