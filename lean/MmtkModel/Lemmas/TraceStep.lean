import MmtkModel.Lemmas.TraceInv
import MmtkModel.Lemmas.Sums
/-!
# The tracing closure: every step of every schedule preserves the invariant and lowers the measure

The step function is opened once (`processSlot_cases`: stutter / drop / store the forwarded reference /
visit, then store); invariant and measure are proved against those four outcomes.
-/
namespace Mmtk.Trace

@[simp] theorem forward_fwd (moves : Id → Bool) (st : State) (r : Id) (o : Obj) (a : Id) :
    (forward moves st r o).fwd a = if a = r then some st.fresh else st.fwd a := rfl
@[simp] theorem forward_tobjs (moves : Id → Bool) (st : State) (r : Id) (o : Obj) (m : Id) :
    (forward moves st r o).tobjs m =
      if m = st.fresh then some ⟨o.size, o.hash, o.fields.map ofRef, moves r⟩ else st.tobjs m := rfl
@[simp] theorem forward_pending (moves : Id → Bool) (st : State) (r : Id) (o : Obj) :
    (forward moves st r o).pending = st.pending ++ fieldSlots st.fresh o.fields.length := rfl

theorem readSlot_forward (moves : Id → Bool) (st : State) (r : Id) (o : Obj) (sl : Slot)
    (h : ∀ j, sl ≠ .field st.fresh j) : readSlot (forward moves st r o) sl = readSlot st sl := by
  cases sl with
  | root k => rfl
  | field n j => simp only [readSlot, forward_tobjs, if_neg fun e : n = st.fresh => h j (e ▸ rfl)]

theorem readSlot_forward_new (moves : Id → Bool) (st : State) (r : Id) (o : Obj) (j : Nat) :
    readSlot (forward moves st r o) (.field st.fresh j) = ((o.fields.map ofRef)[j]?).getD .null := by
  simp only [readSlot, forward_tobjs, if_pos]

/-- the first visit of `r`, before the store: the visiting slot is still pending -/
theorem inv_forward {S : Snap} {moves : Id → Bool} {st : State} {r : Id} {o : Obj}
    (inv : Inv S moves st) (hf : st.fwd r = none) (ho : S.heap r = some o) (hreach : Reach S r) :
    Inv S moves (forward moves st r o) := by
  -- a forwarding entry of the new state is the new one, `r ↦ fresh`, or an old one, named below `fresh`
  have key : ∀ a m, (forward moves st r o).fwd a = some m →
      (a = r ∧ m = st.fresh) ∨ (st.fwd a = some m ∧ m ≠ st.fresh) := by
    intro a m h
    rw [forward_fwd] at h
    by_cases ha : a = r
    · rw [if_pos ha] at h; exact .inl ⟨ha, (Option.some.inj h).symm⟩
    · rw [if_neg ha] at h; exact .inr ⟨h, Nat.ne_of_lt (inv.lt a m h)⟩
  have fwd_mono : ∀ a m, st.fwd a = some m → (forward moves st r o).fwd a = some m := by
    intro a m h
    rw [forward_fwd, if_neg fun e => by rw [e, hf] at h; cases h]; exact h
  refine ⟨?_, ?_, ?_, ?_, inv.rootsLen, ?_, ?_⟩
  · intro a m h
    rcases key a m h with ⟨rfl, rfl⟩ | ⟨h', hne⟩
    · exact ⟨o, ho, by simp only [forward_tobjs, if_pos, Option.map_some, hdr, List.length_map]⟩
    · rw [forward_tobjs, if_neg hne]; exact inv.hdr a m h'
  · intro a b m h1 h2
    rcases key a m h1 with ⟨rfl, rfl⟩ | ⟨h1', hne1⟩ <;> rcases key b _ h2 with ⟨rfl, e⟩ | ⟨h2', hne2⟩
    · rfl
    · exact absurd rfl hne2
    · exact absurd e hne1
    · exact inv.inj a b m h1' h2'
  · intro a m h
    rcases key a m h with ⟨_, rfl⟩ | ⟨h', _⟩
    · exact Nat.lt_succ_self _
    · exact Nat.lt_succ_of_lt (inv.lt a m h')
  · intro m h
    by_cases hm : m = st.fresh
    · exact ⟨r, by rw [forward_fwd, if_pos rfl, hm]⟩
    · rw [forward_tobjs, if_neg hm] at h
      obtain ⟨a, ha⟩ := inv.onto m h
      exact ⟨a, fwd_mono a m ha⟩
  · intro sl x hc
    -- old covered slots keep their relation; the new object's fields are fresh `old` references, pending
    have old_ok : Covered S st sl x → (∀ j, sl ≠ .field st.fresh j) → SlotRel (forward moves st r o) x sl :=
      fun hc' hne => (inv.slots sl x hc').mono (readSlot_forward moves st r o sl hne)
        (fun _ _ hm => List.mem_append_left _ hm) fwd_mono
    cases sl with
    | root k => exact old_ok hc fun j => Slot.noConfusion
    | field n j =>
      obtain ⟨a, oa, hfa, hoa, hj⟩ := hc
      have hrd := readSlot_forward_new moves st r o j
      rcases key a n hfa with ⟨rfl, rfl⟩ | ⟨hfa', hne⟩
      · cases ho.symm.trans hoa
        rw [List.getElem?_map, hj] at hrd
        cases x with
        | none => exact hrd
        | some y =>
          exact .inl ⟨hrd, List.mem_append_right _ (List.mem_map.2
            ⟨j, List.mem_range.2 (List.getElem?_eq_some_iff.mp hj).1, rfl⟩)⟩
      · exact old_ok ⟨a, oa, hfa', hoa, hj⟩ fun j' e => hne (Slot.field.inj e).1
  · intro a m h
    rcases key a m h with ⟨rfl, _⟩ | ⟨h', _⟩
    · exact hreach
    · exact inv.reach a m h'

theorem forward_erase (moves : Id → Bool) (st : State) (r : Id) (o : Obj) (i : Nat)
    (hi : i < st.pending.length) :
    forward moves { st with pending := st.pending.eraseIdx i } r o
      = { forward moves st r o with pending := (forward moves st r o).pending.eraseIdx i } := by
  simp only [forward, List.eraseIdx_append_of_lt_length hi]

@[elab_as_elim]
theorem processSlot_cases {P : State → Prop} (S : Snap) (moves : Id → Bool) (st : State) (i : Nat)
    (stutter : st.pending[i]? = none → P st)
    (drop : ∀ sl, st.pending[i]? = some sl → (∀ r, readSlot st sl = .old r → S.heap r = none) →
      P { st with pending := st.pending.eraseIdx i })
    (update : ∀ sl r n, st.pending[i]? = some sl → readSlot st sl = .old r → st.fwd r = some n →
      P (writeSlot { st with pending := st.pending.eraseIdx i } sl (.new n)))
    (visit : ∀ sl r o, st.pending[i]? = some sl → readSlot st sl = .old r → st.fwd r = none → S.heap r = some o →
      P (writeSlot (forward moves { st with pending := st.pending.eraseIdx i } r o) sl (.new st.fresh))) :
    P (processSlot S moves st i) := by
  unfold processSlot
  cases hp : st.pending[i]? with
  | none => exact stutter hp
  | some sl =>
    simp only
    cases hr : readSlot st sl with
    | null => exact drop sl hp fun _ h => Val.noConfusion (hr.symm.trans h)
    | new n => exact drop sl hp fun _ h => Val.noConfusion (hr.symm.trans h)
    | old r =>
      simp only
      cases hf : st.fwd r with
      | some n => exact update sl r n hp hr hf
      | none =>
        simp only
        cases ho : S.heap r with
        | none => exact drop sl hp fun r' h => Val.old.inj (hr.symm.trans h) ▸ ho
        | some o => exact visit sl r o hp hr hf ho

theorem reach_of_old {S : Snap} {moves : Id → Bool} {st : State} (inv : Inv S moves st) {sl : Slot} {r : Id}
    (hr : readSlot st sl = .old r) : Reach S r := by
  have hc := covered_of_old inv hr
  -- the slot is a root slot, or a field of the to-object of a visited, hence reachable, object
  cases sl with
  | root k => exact Reach.root (List.mem_of_getElem? hc)
  | field n j =>
    obtain ⟨r0, o, hf, ho, hj⟩ := hc
    exact Reach.field (inv.reach r0 n hf) ho (List.mem_of_getElem? hj)

theorem step_inv {S : Snap} {moves : Id → Bool} (wf : WF S) {st : State} (i : Nat)
    (inv : Inv S moves st) : Inv S moves (processSlot S moves st i) := by
  refine processSlot_cases S moves st i (fun _ => inv) (fun sl hp hd => ?_)
    (fun _ _ _ => inv_update inv) fun sl r o hp hr hf ho => ?_
  · -- well-formedness: no dangling reference
    refine inv_drop inv hp fun r hr => ?_
    have := (reach_of_old inv hr).alloc wf
    rw [hd r hr] at this; cases this
  · have hi : i < st.pending.length := (List.getElem?_eq_some_iff.mp hp).1
    -- erasing the slot and visiting `r` commute, so `inv_forward` is applied to the state in which the visiting
    -- slot is still pending (its `SlotRel` still holds there); `inv_update` then erases it and stores
    rw [forward_erase moves st r o i hi]
    have hp2 : (forward moves st r o).pending[i]? = some sl := by
      rw [forward_pending, List.getElem?_append_left hi]; exact hp
    -- the visiting slot is not a field of the object being created: names in use are below `fresh`
    have hne : ∀ j, sl ≠ .field st.fresh j := by
      rintro j rfl
      obtain ⟨a, _, ha, -⟩ := covered_of_old inv hr
      exact Nat.lt_irrefl _ (inv.lt a _ ha)
    exact inv_update (inv_forward inv hf ho (reach_of_old inv hr)) hp2
      ((readSlot_forward moves st r o sl hne).trans hr) (by rw [forward_fwd, if_pos rfl])

theorem exec_inv {S : Snap} {moves : Id → Bool} (wf : WF S) (run : List Nat) {st : State}
    (inv : Inv S moves st) : Inv S moves (exec S moves st run) :=
  List.foldlRecOn (motive := Inv S moves) run _ inv fun _ h i _ => step_inv wf i h

theorem sumTo_eq (f : Nat → Nat) (n : Nat) : sumTo f n = ((List.range n).map f).sum := by
  induction n with
  | zero => rfl
  | succ n ih => rw [Sums.sum_range_succ, ← ih]; rfl

theorem sumTo_congr {f g : Nat → Nat} {n : Nat} (h : ∀ i, i < n → f i = g i) : sumTo f n = sumTo g n := by
  rw [sumTo_eq, sumTo_eq, Sums.sum_range_congr n f g h]

theorem sumTo_update {f g : Nat → Nat} {n r c : Nat} (hr : r < n) (hfr : f r = g r + c)
    (h : ∀ i, i ≠ r → f i = g i) : sumTo f n = sumTo g n + c := by
  have := Sums.sum_range_update n g f r hr h
  rw [sumTo_eq, sumTo_eq]; omega

@[simp] theorem owed_pending (S : Snap) (st : State) (p : List Slot) :
    owed S { st with pending := p } = owed S st := rfl

theorem owed_writeSlot (S : Snap) (st : State) (sl : Slot) (v : Val) :
    owed S (writeSlot st sl v) = owed S st := by
  funext i; simp [owed]

theorem owed_forward (S : Snap) (moves : Id → Bool) (st : State) (r : Id) (o : Obj) (a : Id) :
    owed S (forward moves st r o) a = if a = r then 0 else owed S st a := by
  unfold owed
  rw [forward_fwd]
  by_cases h : a = r
  · rw [if_pos h, if_pos h]
  · rw [if_neg h, if_neg h]

/-- no well-formedness is needed, only that all allocated ids are below `B` -/
theorem step_decreases (S : Snap) (moves : Id → Bool) (B : Nat)
    (hB : ∀ i, (S.heap i).isSome = true → i < B) (st : State) (i : Nat) (hi : i < st.pending.length) :
    measure S B (processSlot S moves st i) < measure S B st := by
  have hlen : (st.pending.eraseIdx i).length + 1 = st.pending.length := by
    rw [List.length_eraseIdx_of_lt hi, Nat.sub_add_cancel (Nat.zero_lt_of_lt hi)]
  refine processSlot_cases S moves st i (fun hn => ?_) (fun _ _ _ => ?_) (fun _ _ _ _ _ _ => ?_)
    fun _ r o _ _ hf ho => ?_
  · rw [List.getElem?_eq_getElem hi] at hn; cases hn
  · simp only [measure, owed_pending]; omega
  · simp only [measure, owed_writeSlot, writeSlot_pending, owed_pending]; omega
  · simp only [measure, owed_writeSlot, writeSlot_pending]
    -- `r` no longer owes its `nfields + 1`; its fields are new pending slots
    have hsum : sumTo (owed S st) B
        = sumTo (owed S (forward moves { st with pending := st.pending.eraseIdx i } r o)) B
          + (o.fields.length + 1) := by
      apply sumTo_update (hB r (by rw [ho]; rfl))
      · rw [owed_forward, if_pos rfl, Nat.zero_add]; simp only [owed, hf, ho]
      · intro a ha; rw [owed_forward, if_neg ha]; rfl
    simp only [forward_pending, fieldSlots, List.length_append, List.length_map, List.length_range]
    omega

theorem step_stutter (S : Snap) (moves : Id → Bool) (st : State) (i : Nat)
    (hi : st.pending.length ≤ i) : processSlot S moves st i = st := by
  unfold processSlot; rw [List.getElem?_eq_none hi]

theorem effSteps_le (S : Snap) (moves : Id → Bool) (B : Nat)
    (hB : ∀ i, (S.heap i).isSome = true → i < B) (run : List Nat) (st : State) :
    effSteps S moves st run + measure S B (exec S moves st run) ≤ measure S B st := by
  induction run generalizing st with
  | nil => simp [effSteps, exec]
  | cons i rest ih =>
    simp only [effSteps, exec, List.foldl_cons]
    have := ih (processSlot S moves st i)
    simp only [exec] at this
    by_cases hi : i < st.pending.length
    · have := step_decreases S moves B hB st i hi
      simp only [hi, if_true]; omega
    · rw [step_stutter S moves st i (Nat.le_of_not_lt hi)] at this ⊢
      simp only [hi, if_false]; omega

theorem exec_nil_pending (S : Snap) (moves : Id → Bool) (run : List Nat) (st : State)
    (h : st.pending = []) : exec S moves st run = st :=
  List.foldlRecOn (motive := (· = st)) run _ rfl fun _ e i _ =>
    e ▸ step_stutter S moves st i (h ▸ Nat.zero_le i)

theorem drain (S : Snap) (moves : Id → Bool) (B : Nat)
    (hB : ∀ i, (S.heap i).isSome = true → i < B) (n : Nat) (st : State) (h : measure S B st ≤ n) :
    (exec S moves st (List.replicate n 0)).pending = [] := by
  induction n generalizing st with
  | zero =>
    simp only [measure] at h
    simp only [List.replicate, exec, List.foldl_nil]
    exact List.eq_nil_of_length_eq_zero (by omega)
  | succ n ih =>
    by_cases hp : 0 < st.pending.length
    · simp only [List.replicate, exec, List.foldl_cons]
      have := step_decreases S moves B hB st 0 hp
      exact ih _ (by omega)
    · have hnil : st.pending = [] := List.eq_nil_of_length_eq_zero (Nat.eq_zero_of_not_pos hp)
      rw [exec_nil_pending S moves _ st hnil]; exact hnil

end Mmtk.Trace
