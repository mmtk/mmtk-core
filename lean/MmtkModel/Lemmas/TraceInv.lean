import MmtkModel.Model.Trace
import MmtkModel.Lemmas.ListAux
/-!
# Invariant of the tracing closure

`Inv` ties a state of `Model/Trace.lean` to the snapshot it started from: the forwarding table is an
injection from visited (hence reachable) objects onto the to-objects, which carry the headers of
their originals, and every slot that exists (`Covered`) holds what the snapshot held there, either
still as a from-space reference **in a pending slot**, or already forwarded (`SlotRel`).
-/
namespace Mmtk.Trace

structure WF (S : Snap) : Prop where
  roots : ∀ r, some r ∈ S.roots → (S.heap r).isSome = true
  fields : ∀ i o r, S.heap i = some o → some r ∈ o.fields → (S.heap r).isSome = true

inductive Reach (S : Snap) : Id → Prop
  | root {r : Id} : some r ∈ S.roots → Reach S r
  | field {i : Id} {o : Obj} {r : Id} : Reach S i → S.heap i = some o → some r ∈ o.fields → Reach S r

theorem Reach.alloc {S : Snap} (wf : WF S) {r : Id} (h : Reach S r) : (S.heap r).isSome = true := by
  cases h with
  | root h => exact wf.roots r h
  | field _ ho hr => exact wf.fields _ _ r ho hr

theorem readSlot_writeSlot_ne (st : State) (sl sl' : Slot) (v : Val) (h : sl' ≠ sl) :
    readSlot (writeSlot st sl v) sl' = readSlot st sl' := by
  cases sl with
  | root k =>
    cases sl' with
    | root k' =>
      have : k ≠ k' := fun e => h (by rw [e])
      simp [readSlot, writeSlot, List.getElem?_set_ne this]
    | field n' j' => simp [readSlot, writeSlot]
  | field n j =>
    cases sl' with
    | root k' =>
      simp only [readSlot, writeSlot]; split <;> rfl
    | field n' j' =>
      simp only [writeSlot]
      cases ht : st.tobjs n with
      | none => rfl
      | some t =>
        simp only [readSlot]
        by_cases hn : n' = n
        · subst hn
          have hj : j ≠ j' := fun e => h (by rw [e])
          simp [ht, setFields, List.getElem?_set_ne hj]
        · simp [hn]

theorem readSlot_writeSlot_same (st : State) (sl : Slot) (v : Val) (h : readSlot st sl ≠ .null) :
    readSlot (writeSlot st sl v) sl = v := by
  cases sl with
  | root k =>
    simp only [readSlot, writeSlot] at h ⊢
    by_cases hk : k < st.troots.length
    · simp [List.getElem?_set_self hk]
    · simp [List.getElem?_eq_none (Nat.le_of_not_lt hk)] at h
  | field n j =>
    simp only [readSlot] at h
    simp only [writeSlot]
    cases ht : st.tobjs n with
    | none => simp [ht] at h
    | some t =>
      simp only [ht] at h
      by_cases hj : j < t.fields.length
      · simp [readSlot, setFields, List.getElem?_set_self hj]
      · simp [List.getElem?_eq_none (Nat.le_of_not_lt hj)] at h

/-- Everything of a to-object that a slot write leaves alone: size, hash, moved flag, number of fields. -/
def hdr (t : TObj) : Nat × Nat × Bool × Nat := (t.size, t.hash, t.moved, t.fields.length)

theorem writeSlot_hdr (st : State) (sl : Slot) (v : Val) (m : Id) :
    ((writeSlot st sl v).tobjs m).map hdr = (st.tobjs m).map hdr := by
  cases sl with
  | root k => rfl
  | field n j =>
    simp only [writeSlot]
    cases ht : st.tobjs n with
    | none => rfl
    | some t =>
      by_cases hm : m = n
      · subst hm; simp [ht, hdr, setFields]
      · simp [hm]

@[simp] theorem writeSlot_fwd (st : State) (sl : Slot) (v : Val) : (writeSlot st sl v).fwd = st.fwd := by
  cases sl <;> simp only [writeSlot] <;> (try split) <;> rfl
@[simp] theorem writeSlot_pending (st : State) (sl : Slot) (v : Val) : (writeSlot st sl v).pending = st.pending := by
  cases sl <;> simp only [writeSlot] <;> (try split) <;> rfl
@[simp] theorem writeSlot_fresh (st : State) (sl : Slot) (v : Val) : (writeSlot st sl v).fresh = st.fresh := by
  cases sl <;> simp only [writeSlot] <;> (try split) <;> rfl
@[simp] theorem writeSlot_troots_length (st : State) (sl : Slot) (v : Val) :
    (writeSlot st sl v).troots.length = st.troots.length := by
  cases sl <;> simp only [writeSlot] <;> (try split) <;> simp

/-- What slot `sl` holds, relative to what it held in the snapshot (`x`): a null stays null; a
reference to `r` is either still the from-space reference **and the slot is pending**, or it is the
forwarded reference of `r`. -/
def SlotRel (st : State) (x : Option Id) (sl : Slot) : Prop :=
  match x with
  | none => readSlot st sl = .null
  | some r => (readSlot st sl = .old r ∧ sl ∈ st.pending) ∨ (∃ m, readSlot st sl = .new m ∧ st.fwd r = some m)

/-- Slot `sl` exists and held `x` in the snapshot: a root slot, or field `j` of the to-object of
some visited `r`. -/
def Covered (S : Snap) (st : State) (sl : Slot) (x : Option Id) : Prop :=
  match sl with
  | .root k => S.roots[k]? = some x
  | .field n j => ∃ r o, st.fwd r = some n ∧ S.heap r = some o ∧ o.fields[j]? = some x

/-- In the field `hdr` the `hdr` of the body is the header projection `Trace.hdr` above.  `onto` and `reach` are
clauses because the *step* needs them, not only the end results: a slot that holds a from-space reference is covered (`covered_of_old`,
through `onto`) and the from-space reference it holds is to a reachable object (`reach_of_old`, through `reach`).
Nothing says that `pending` is duplicate-free: the step erases by index (`eraseIdx`), so no clause needs it. -/
structure Inv (S : Snap) (moves : Id → Bool) (st : State) : Prop where
  hdr : ∀ r n, st.fwd r = some n →
    ∃ o, S.heap r = some o ∧ (st.tobjs n).map hdr = some (o.size, o.hash, moves r, o.fields.length)
  inj : ∀ r r' n, st.fwd r = some n → st.fwd r' = some n → r = r'
  lt : ∀ r n, st.fwd r = some n → n < st.fresh
  onto : ∀ n, (st.tobjs n).isSome = true → ∃ r, st.fwd r = some n
  rootsLen : st.troots.length = S.roots.length
  slots : ∀ sl x, Covered S st sl x → SlotRel st x sl
  reach : ∀ r n, st.fwd r = some n → Reach S r

theorem mem_eraseIdx_of_ne {α : Type} {l : List α} {i : Nat} {a b : α} (hi : l[i]? = some a)
    (hb : b ∈ l) (hne : b ≠ a) : b ∈ l.eraseIdx i :=
  (ListAux.mem_eraseIdx_or i hb).resolve_right fun h => hne (Option.some.inj (h.symm.trans hi))

theorem readSlot_pending (st : State) (p : List Slot) (sl : Slot) :
    readSlot { st with pending := p } sl = readSlot st sl := by
  cases sl <;> rfl

theorem read_field {st : State} {n : Id} {t : TObj} (ht : st.tobjs n = some t) (j : Nat) :
    readSlot st (.field n j) = (t.fields[j]?).getD .null := by
  simp only [readSlot, ht]

theorem rel_old {st : State} {x : Option Id} {sl : Slot} {r : Id} (h : SlotRel st x sl)
    (hr : readSlot st sl = .old r) : x = some r ∧ sl ∈ st.pending := by
  cases x with
  | none => simp [SlotRel, hr] at h
  | some y =>
    simp only [SlotRel, hr] at h
    rcases h with ⟨e, hp⟩ | ⟨m, e, _⟩
    · injection e with e; exact ⟨by rw [e], hp⟩
    · cases e

theorem SlotRel.mono {st st' : State} {x : Option Id} {sl : Slot} (h : SlotRel st x sl)
    (hrd : readSlot st' sl = readSlot st sl)
    (hpend : ∀ r, readSlot st sl = .old r → sl ∈ st.pending → sl ∈ st'.pending)
    (hfwd : ∀ r m, st.fwd r = some m → st'.fwd r = some m) : SlotRel st' x sl := by
  cases x with
  | none => exact hrd.trans h
  | some r =>
    rcases h with ⟨e, hm⟩ | ⟨m, e, hf⟩
    · exact .inl ⟨hrd.trans e, hpend r e hm⟩
    · exact .inr ⟨m, hrd.trans e, hfwd r m hf⟩

theorem covered_of_old {S : Snap} {moves : Id → Bool} {st : State} (inv : Inv S moves st) {sl : Slot} {r : Id}
    (h : readSlot st sl = .old r) : Covered S st sl (some r) := by
  -- the slot exists, so it is covered; what the snapshot held there is then read off `SlotRel`
  suffices ∃ x, Covered S st sl x by
    obtain ⟨x, hc⟩ := this
    exact (rel_old (inv.slots sl x hc) h).1 ▸ hc
  cases sl with
  | root k =>
    simp only [readSlot] at h
    by_cases hk : k < st.troots.length
    · rw [inv.rootsLen] at hk
      exact ⟨S.roots[k], by simp [Covered, List.getElem?_eq_getElem hk]⟩
    · simp [List.getElem?_eq_none (Nat.le_of_not_lt hk)] at h
  | field n j =>
    simp only [readSlot] at h
    cases ht : st.tobjs n with
    | none => simp [ht] at h
    | some t =>
      simp only [ht] at h
      obtain ⟨a, ha⟩ := inv.onto n (by simp [ht])
      obtain ⟨o, ho, hh⟩ := inv.hdr a n ha
      simp only [ht, Option.map_some, hdr, Option.some.injEq, Prod.mk.injEq] at hh
      by_cases hj : j < t.fields.length
      · have hj' : j < o.fields.length := by omega
        exact ⟨o.fields[j], a, o, ha, ho, by simp [List.getElem?_eq_getElem hj']⟩
      · simp [List.getElem?_eq_none (Nat.le_of_not_lt hj)] at h

theorem covered_congr {S : Snap} {st st' : State} (h : st'.fwd = st.fwd) (sl : Slot) (x : Option Id) :
    Covered S st' sl x ↔ Covered S st sl x := by
  cases sl with
  | root k => exact Iff.rfl
  | field n j => simp only [Covered, h]

theorem init_inv (S : Snap) (moves : Id → Bool) : Inv S moves (init S) := by
  refine ⟨fun _ _ h => (nomatch h), fun _ _ _ h => (nomatch h), fun _ _ h => (nomatch h),
    fun _ h => (nomatch h), List.length_map _, ?_, fun _ _ h => (nomatch h)⟩
  intro sl x hc
  cases sl with
  | root k =>
    simp only [Covered] at hc
    have hk : k < S.roots.length := (List.getElem?_eq_some_iff.mp hc).1
    cases x with
    | none => simp [SlotRel, readSlot, init, hc, ofRef]
    | some r =>
      left
      obtain ⟨_, he⟩ := List.getElem?_eq_some_iff.mp hc
      simp [readSlot, init, ofRef, hk, he]
  | field n j =>
    obtain ⟨r, o, hf, -⟩ := hc
    simp [init] at hf

theorem inv_drop {S : Snap} {moves : Id → Bool} {st : State} {i : Nat} {sl : Slot}
    (inv : Inv S moves st) (hp : st.pending[i]? = some sl) (hr : ∀ r, readSlot st sl ≠ .old r) :
    Inv S moves { st with pending := st.pending.eraseIdx i } := by
  refine ⟨inv.hdr, inv.inj, inv.lt, inv.onto, inv.rootsLen, ?_, inv.reach⟩
  intro sl' x hc
  refine (inv.slots sl' x hc).mono (readSlot_pending _ _ _)
    (fun r e hm => mem_eraseIdx_of_ne hp hm ?_) fun _ _ h => h
  rintro rfl
  exact hr r e

theorem inv_update {S : Snap} {moves : Id → Bool} {st : State} {i : Nat} {sl : Slot} {r n : Id}
    (inv : Inv S moves st) (hp : st.pending[i]? = some sl) (hr : readSlot st sl = .old r)
    (hf : st.fwd r = some n) :
    Inv S moves (writeSlot { st with pending := st.pending.eraseIdx i } sl (.new n)) := by
  -- the store touches neither the forwarding table nor any header
  have hfwd : (writeSlot { st with pending := st.pending.eraseIdx i } sl (.new n)).fwd = st.fwd :=
    writeSlot_fwd _ _ _
  refine ⟨?_, ?_, ?_, ?_, ?_, ?_, ?_⟩
  · simp only [hfwd, writeSlot_hdr]; exact inv.hdr
  · rw [hfwd]; exact inv.inj
  · rw [hfwd, writeSlot_fresh]; exact inv.lt
  · intro m h
    rw [← Option.isSome_map (f := hdr), writeSlot_hdr, Option.isSome_map] at h
    rw [hfwd]; exact inv.onto m h
  · rw [writeSlot_troots_length]; exact inv.rootsLen
  · intro sl' x hc
    have h := inv.slots sl' x ((covered_congr hfwd sl' x).mp hc)
    by_cases hs : sl' = sl
    · subst hs
      obtain ⟨rfl, -⟩ := rel_old h hr
      exact .inr ⟨n, readSlot_writeSlot_same _ _ _ (by rw [readSlot_pending, hr]; exact Val.noConfusion),
        by rw [hfwd]; exact hf⟩
    · exact h.mono ((readSlot_writeSlot_ne _ _ _ _ hs).trans (readSlot_pending _ _ _))
        (fun _ _ hm => by rw [writeSlot_pending]; exact mem_eraseIdx_of_ne hp hm hs)
        fun _ _ h' => by rw [hfwd]; exact h'
  · rw [hfwd]; exact inv.reach

end Mmtk.Trace
