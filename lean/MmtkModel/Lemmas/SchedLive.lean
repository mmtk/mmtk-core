import MmtkModel.Lemmas.SchedLivePark
/-!
# A requested GC completes (liveness core of C14, used by C16)

`gc_done_changes`: while the Gc goal is current in a fair run, `gcDone` eventually changes.  Otherwise the run becomes
calm (`CalmGc`: only stutters, quiet steps and `park`s of the last parker, which — progress lemma — recur forever).
Each such `park` runs `on_last_parked` without completing the GC, so it empties a sentinel slot, opens a closed bucket or
finds designated work.  The first two happen finitely often, because nothing closes a bucket or fills a sentinel slot in
a calm GC; and the worker for which designated work was found has just been woken, keeps being able to take it, and by
fairness of `take` does: a packet starts in a calm run.

`gc_goal_then_done` puts the progress lemma in front: from a pending Gc request the last parker starts the goal;
`gc_completing_step` names the `park` at which `gcDone` changes.
-/
namespace Mmtk.Sched

structure CalmGc (c : Cfg) (tr : Nat → State) (act : Nat → Option Act) : Prop where
  run : FairRun c tr act
  cur : ∀ j, (tr j).current = some .gc
  done : ∀ j, (tr (j+1)).gcDone = (tr j).gcDone
  kinds : ∀ j, (act j = none ∧ tr (j+1) = tr j) ∨ (∃ a, act j = some a ∧ QuietEff c (tr j) a (tr (j+1))) ∨
    (∃ w tag, act j = some (.park w tag) ∧ (tr j).parked + 1 = c.n ∧ step c (tr j) (.park w tag) = some (tr (j+1)))

section calm
variable {c : Cfg} {tr : Nat → State} {act : Nat → Option Act}

theorem CalmGc.quiet_of (G : CalmGc c tr act) {j : Nat} {a : Act} (ha : act j = some a) (hnp : ∀ w tag, a ≠ .park w tag) :
    QuietEff c (tr j) a (tr (j+1)) := by
  rcases G.kinds j with ⟨e, _⟩ | ⟨a', ha', he⟩ | ⟨w, tag, ha', _⟩
  · rw [ha] at e; cases e
  · rw [ha] at ha'; cases ha'; exact he
  · rw [ha] at ha'; cases ha'; exact absurd rfl (hnp w tag)

theorem CalmGc.desig_const (G : CalmGc c tr act) (j : Nat) : (tr (j+1)).desig = (tr j).desig := by
  rcases G.kinds j with ⟨_, e⟩ | ⟨a, _, he⟩ | ⟨w, tag, _, hl, hs⟩
  · rw [e]
  · exact quietEff_desig he
  · obtain ⟨_, _, hd, _⟩ := step_lastpark_gc hs hl (G.cur j) (G.done j); exact hd

theorem CalmGc.desig_later (G : CalmGc c tr act) {j i : Nat} (h : j ≤ i) : (tr i).desig = (tr j).desig := by
  induction h with
  | refl => rfl
  | step _ ih => rw [G.desig_const, ih]

theorem CalmGc.flags_mono (G : CalmGc c tr act) (j b : Nat) : FlagsMono ((tr j).bkt b) ((tr (j+1)).bkt b) := by
  rcases G.kinds j with ⟨_, e⟩ | ⟨a, _, he⟩ | ⟨w, tag, _, hl, hs⟩
  · rw [e]; exact ⟨id, id⟩
  · obtain ⟨h1, h2⟩ := quietEff_flags he b; unfold FlagsMono; rw [h1, h2]; exact ⟨id, id⟩
  · obtain ⟨_, _, _, hm, _⟩ := step_lastpark_gc hs hl (G.cur j) (G.done j); exact hm b

theorem CalmGc.flags_settle (G : CalmGc c tr act) : ∃ J, ∀ b, b < c.L → ∀ j, J ≤ j →
    (((tr (j+1)).bkt b).isOpen = true → ((tr j).bkt b).isOpen = true) ∧
    (((tr (j+1)).bkt b).sentinel = none → ((tr j).bkt b).sentinel = none) :=
  eventually_forall_lt c.L _ (fun b _ => by
    obtain ⟨J1, h1⟩ := gained_once (fun j => ((tr j).bkt b).isOpen = true) (fun j => (G.flags_mono j b).1)
    obtain ⟨J2, h2⟩ := gained_once (fun j => ((tr j).bkt b).sentinel = none) (fun j => (G.flags_mono j b).2)
    exact ⟨max J1 J2, fun j hj => ⟨h1 j (by omega), h2 j (by omega)⟩⟩)

/-- designated work of a worker that is woken or at its loop head gets taken: a packet starts -/
theorem CalmGc.desig_taken (G : CalmGc c tr act) {x j : Nat} (hx : x < c.n) (hd : (tr j).desig x ≠ [])
    (hp : (tr j).pc x = .woken ∨ (tr j).pc x = .polling []) : False := by
  have hdes : ∀ m, j ≤ m → looksEmpty (tr m) x .desig = false := by
    intro m hm
    show ((tr m).desig x).isEmpty = false
    rw [G.desig_later hm]
    cases h : (tr j).desig x with
    | nil => exact absurd h hd
    | cons _ _ => rfl
  -- `x` reaches its loop head
  obtain ⟨m3, hm3, hp3⟩ : ∃ m, j ≤ m ∧ (tr m).pc x = .polling [] := by
    rcases hp with hwk | hpl
    · obtain ⟨m, hm, _, ha⟩ := woken_leads_to_wake G.run hx hwk
      exact ⟨m + 1, by omega, quietEff_wake (G.quiet_of ha (fun _ _ e => by cases e))⟩
    · exact ⟨j, Nat.le_refl _, hpl⟩
  -- from then on it can take its designated packet, forever: fairness makes it do so
  obtain ⟨m4, hm4, _, a, ha, hmem⟩ := wf1 G.run (.take x) (fun s => Cov s x .desig) m3
    ⟨hdes m3 hm3, [], hp3, List.not_mem_nil⟩
    (fun m _ hm _ hPm _ => by
      rcases G.kinds m with ⟨_, e⟩ | ⟨a, _, he⟩ | ⟨w', tag', _, _, hs2⟩
      · rw [e]; exact hPm
      · exact cov_stable he (List.mem_cons_self ..) (fun _ _ _ _ e => by cases e) hPm
      · obtain ⟨_, seen, hpc, hns⟩ := hPm
        have e : x ≠ w' := by
          intro e; subst e
          rw [(step_park_eff hs2).2.1] at hpc; cases hpc
        refine ⟨hdes (m+1) (by omega), seen, ?_, hns⟩
        rcases step_park_other hs2 e with h | ⟨h, _⟩
        · rw [h]; exact hpc
        · rw [hpc] at h; cases h)
    (fun m _ hPm => cov_enabled hx (List.mem_cons_self ..) hPm)
  refine quietEff_not_take (G.quiet_of ha (fun w tag e => ?_)) x hmem
  subst e
  rcases hmem with ⟨_, _, e⟩ | ⟨_, e⟩ | ⟨_, e⟩ | ⟨_, _, e⟩ <;> cases e

end calm

theorem gc_done_changes {c : Cfg} {tr : Nat → State} {act : Nat → Option Act}
    (hn : 0 < c.n) (hu : c.unconIdx < c.L)
    (R : FairRun c tr act) (hN : FiniteSpawn tr) (hE : FiniteEnv act) (hA : NoAssert c tr) (hP : Pending c (tr 0))
    (hc : (tr 0).current = some .gc) : ∃ j, (tr j).gcDone ≠ (tr 0).gcDone := by
  apply Classical.byContradiction
  intro hno
  have hg1 : ∀ j, (tr (j+1)).gcDone = (tr j).gcDone := fun j =>
    (Decidable.not_not.1 fun h => hno ⟨j+1, h⟩).trans (Decidable.not_not.1 fun h => hno ⟨j, h⟩).symm
  have hinv : ∀ j, (tr j).current = some .gc ∧ Pending c (tr j) :=
    R.always (Q := fun s => s.current = some .gc ∧ Pending c s) ⟨hc, hP⟩
      (fun j a _ hs ih => gc_goal_step hn (R.reach j) ih.2 ih.1 hs (hg1 j))
  have hcur := fun j => (hinv j).1
  have hpend := fun j => (hinv j).2
  have hnx : ∀ j, NoExit (tr j) := fun j => noExit_of_gc (hcur j)
  obtain ⟨K, hK⟩ := eventually_quiet hn hu R hN hE
  have G : CalmGc c (fun j => tr (K + j)) (fun j => act (K + j)) := {
    run := R.shift K
    cur := fun j => hcur (K + j)
    done := fun j => hg1 (K + j)
    kinds := fun j => by
      cases ha : act (K + j) with
      | none => exact Or.inl ⟨rfl, R.stutter_at ha⟩
      | some a =>
        by_cases hl : IsLastPark c (tr (K + j)) (some a)
        · obtain ⟨w, tag, e, hl⟩ := hl
          cases e
          exact Or.inr (Or.inr ⟨w, tag, rfl, hl, R.step_at ha⟩)
        · exact Or.inr (Or.inl ⟨a, rfl, (hK _ (Nat.le_add_right ..)).2 a ha (hnx _) hl⟩) }
  obtain ⟨J, hJ⟩ := G.flags_settle
  obtain ⟨j1, ⟨w, tag, hact, hlast⟩, _⟩ := last_park_eventually hn hu (G.run.shift J) ((hN.shift K).shift J)
    ((hE.shift K).shift J) ((hA.shift K).shift J) (hpend (K + (J + 0)))
  have hs := G.run.step_at hact
  obtain ⟨s1, hlp, hd, _, h3⟩ := step_lastpark_gc hs hlast (G.cur _) (G.done _)
  rcases h3 with ⟨x, hx, hdx⟩ | ⟨b, hbL, h1, h2⟩ | ⟨b, hbL, h1, h2⟩
  · obtain ⟨hothers, hself, _⟩ := step_park_wakeAll_pcs (G.run.reach _) hs hlast hlp
    refine G.desig_taken (j := J + j1 + 1) hx (by rw [hd]; exact hdx) ?_
    by_cases e : x = w
    · subst e; exact Or.inr (hself (hnx _))
    · exact Or.inl (hothers x hx e)
  · exact h1 ((hJ b hbL (J + j1) (Nat.le_add_right ..)).2 h2)
  · have := (hJ b hbL (J + j1) (Nat.le_add_right ..)).1 h2
    rw [h1] at this; cases this

theorem gc_goal_then_done {c : Cfg} {tr : Nat → State} {act : Nat → Option Act}
    (hn : 0 < c.n) (hu : c.unconIdx < c.L)
    (R : FairRun c tr act) (hN : FiniteSpawn tr) (hE : FiniteEnv act) (hA : NoAssert c tr) (hP : GcPending c (tr 0)) :
    ∃ j0, (tr j0).current = some .gc ∧ (∀ i, i ≤ j0 → (tr i).gcDone = (tr 0).gcDone) ∧
      ∃ j, j0 ≤ j ∧ (tr j).gcDone ≠ (tr 0).gcDone := by
  obtain ⟨j0, w, tag, hact, hlast, hpre⟩ := first_last_park hn hu R hN hE hA hP.pending
  obtain ⟨hp0, hc0, hg0, hr0, _⟩ := hpre j0 (Nat.le_refl _)
  have hs := R.step_at hact
  -- at `j0` the Gc goal is current already, or the last parker starts it
  obtain ⟨j1, hc1, hp1, hg1⟩ : ∃ j1, (tr j1).current = some .gc ∧ Pending c (tr j1) ∧
      ∀ i, i ≤ j1 → (tr i).gcDone = (tr 0).gcDone := by
    by_cases hc : (tr j0).current = some .gc
    · exact ⟨j0, hc, hp0, fun i hi => (hpre i hi).2.2.1⟩
    · have hreq : (tr j0).reqGc = true := hr0 (hP.1.resolve_right (fun h => hc (hc0.trans h)))
      obtain ⟨hc1, hgd, _⟩ := step_lastpark_starts_gc hs hlast hc hreq
      refine ⟨j0 + 1, hc1, ⟨Or.inr hc1, noExit_of_gc hc1, step_park_nosurr hs hp0.2.2⟩,
        fun i hi => ?_⟩
      rcases Nat.le_succ_iff.1 hi with e | rfl
      · exact (hpre i e).2.2.1
      · exact hgd.trans hg0
  obtain ⟨j, hj⟩ := gc_done_changes hn hu (R.shift j1) (hN.shift j1) (hE.shift j1) (hA.shift j1) hp1 hc1
  exact ⟨j1, hc1, hg1, j1 + j, Nat.le_add_right .., by rw [← hg1 j1 (Nat.le_refl _)]; exact hj⟩

/-- `gc_goal_then_done` under the hypotheses of C14's statements; `mutAddOpen = false` is not used -/
theorem gc_request_completes {c : Cfg} {tr : Nat → State} {act : Nat → Option Act}
    (hn : 0 < c.n) (hmut : c.mutAddOpen = false) (hu : c.unconIdx < c.L)
    (R : FairRun c tr act) (hN : FiniteSpawn tr) (hE : FiniteEnv act) (hA : NoAssert c tr) (hP : GcPending c (tr 0)) :
    ∃ j0, (tr j0).current = some .gc ∧ (∀ i, i ≤ j0 → (tr i).gcDone = (tr 0).gcDone) ∧
      ∃ j, j0 ≤ j ∧ (tr j).gcDone ≠ (tr 0).gcDone :=
  gc_goal_then_done hn hu R hN hE hA hP

theorem gc_completing_step {c : Cfg} {tr : Nat → State} {act : Nat → Option Act}
    (hn : 0 < c.n) (hu : c.unconIdx < c.L)
    (R : FairRun c tr act) (hN : FiniteSpawn tr) (hE : FiniteEnv act) (hA : NoAssert c tr) (hP : GcPending c (tr 0)) :
    ∃ j w tag, act j = some (.park w tag) ∧ (∀ i, i ≤ j → (tr i).gcDone = (tr 0).gcDone) ∧
      (tr (j+1)).gcDone ≠ (tr j).gcDone := by
  obtain ⟨_, _, _, j1, _, hj1⟩ := gc_goal_then_done hn hu R hN hE hA hP
  obtain ⟨j, hne, hsame⟩ := first_change (fun i => (tr i).gcDone) ⟨j1, hj1⟩
  cases ha : act j with
  | none => rw [R.stutter_at ha] at hne; exact absurd rfl hne
  | some a =>
    rcases step_other c _ _ a (R.step_at ha) with ⟨w, tag, rfl⟩ | ⟨h, _⟩
    · exact ⟨j, w, tag, ha, hsame, hne⟩
    · exact absurd h hne


end Mmtk.Sched
