import MmtkModel.Model.Sched
import MmtkModel.Lemmas.Sums
/-!
# Sums and counts over the indices below `n`

`sumW n f` adds `f` over the workers (or buckets) `0, …, n-1`.  The model's `countW n f` is `List.countP f` over
`List.range n` (`countW_eq_countP`: bounds, positivity, "all" and "none" come from core's lemmas) and the sum of the indicator
of `f` (`countW_eq_sumW`: what changes when one index changes comes from `sumW_set`).  The lemma the invariants use most is
`sumW_set` / `countW_set`: what changing one worker's program counter, deque or bucket does to a sum over all of them.
-/
namespace Mmtk.Sched

def sumW (n : Nat) (f : Nat → Nat) : Nat := ((List.range n).map f).sum

theorem sumW_succ (n : Nat) (f : Nat → Nat) : sumW (n+1) f = sumW n f + f n := Sums.sum_range_succ n f

theorem sumW_congr (n : Nat) (f g : Nat → Nat) (h : ∀ x, x < n → f x = g x) : sumW n f = sumW n g :=
  Sums.sum_range_congr n f g h

theorem sumW_zero (n : Nat) (f : Nat → Nat) (h : ∀ x, x < n → f x = 0) : sumW n f = 0 := Sums.sum_range_zero n f h

theorem sumW_single (n : Nat) (f : Nat → Nat) (u v : Nat) (hu : u < n) :
    sumW n (fun x => f x + (if x = u then v else 0)) = sumW n f + v := by
  have := Sums.sum_range_update n f (fun x => f x + (if x = u then v else 0)) u hu fun x hx => by simp [hx]
  simp only [if_true] at this
  show ((List.range n).map _).sum = ((List.range n).map f).sum + v
  omega

theorem sumW_set {α : Type} (n : Nat) (φ : α → Nat) (g : Nat → α) (w : Nat) (v : α) (hw : w < n) :
    sumW n (fun x => φ (if x = w then v else g x)) + φ (g w) = sumW n (fun x => φ (g x)) + φ v := by
  have := Sums.sum_range_update n (fun x => φ (g x)) (fun x => φ (if x = w then v else g x)) w hw
    fun x hx => by rw [if_neg hx]
  rwa [if_pos rfl] at this

theorem sumW_eq_one (n : Nat) (f : Nat → Nat) (h : sumW n f = 1) :
    ∃ b, b < n ∧ f b = 1 ∧ ∀ b', b' < n → b' ≠ b → f b' = 0 := by
  induction n with
  | zero => cases h
  | succ n ih =>
    rw [sumW_succ] at h
    by_cases hn : f n = 0
    · obtain ⟨b, hb, hb1, hbo⟩ := ih (by omega)
      refine ⟨b, by omega, hb1, fun b' hb' hne => ?_⟩
      by_cases e : b' = n
      · subst e; exact hn
      · exact hbo b' (by omega) hne
    · refine ⟨n, by omega, by omega, fun b' hb' hne => ?_⟩
      have : f b' ≤ sumW n f := Sums.le_sum_range n f b' (by omega)
      omega

theorem countW_eq_countP (n : Nat) (f : Nat → Bool) : countW n f = (List.range n).countP f :=
  (List.countP_eq_length_filter ..).symm

theorem countW_succ (n : Nat) (f : Nat → Bool) : countW (n+1) f = countW n f + (if f n then 1 else 0) := by
  unfold countW
  rw [List.range_succ, List.filter_append, List.length_append]
  by_cases h : f n <;> simp [h]

theorem countW_eq_sumW (n : Nat) (f : Nat → Bool) : countW n f = sumW n (fun x => if f x then 1 else 0) := by
  induction n with
  | zero => rfl
  | succ n ih => rw [countW_succ, sumW_succ, ih]

theorem countW_congr (n : Nat) (f g : Nat → Bool) (h : ∀ x, x < n → f x = g x) : countW n f = countW n g := by
  rw [countW_eq_countP, countW_eq_countP]
  exact List.countP_congr fun x hx => by rw [h x (List.mem_range.1 hx)]

theorem countW_zero (n : Nat) (f : Nat → Bool) (h : ∀ x, x < n → f x = false) : countW n f = 0 := by
  rw [countW_eq_countP]; exact List.countP_eq_zero.2 fun x hx => by rw [h x (List.mem_range.1 hx)]; decide

theorem countW_set {α : Type} (n : Nat) (φ : α → Bool) (g : Nat → α) (w : Nat) (v : α) (hw : w < n) :
    countW n (fun x => φ (if x = w then v else g x)) + (if φ (g w) then 1 else 0) =
      countW n (fun x => φ (g x)) + (if φ v then 1 else 0) := by
  rw [countW_eq_sumW, countW_eq_sumW]
  exact sumW_set n (fun a => if φ a then 1 else 0) g w v hw

theorem countW_le (n : Nat) (f : Nat → Bool) : countW n f ≤ n := by
  rw [countW_eq_countP]; exact Nat.le_trans List.countP_le_length (Nat.le_of_eq List.length_range)

theorem countW_pos (n : Nat) (f : Nat → Bool) (w : Nat) (hw : w < n) (h : f w = true) : 0 < countW n f := by
  rw [countW_eq_countP]; exact List.countP_pos_iff.2 ⟨w, List.mem_range.2 hw, h⟩

theorem countW_eq_iff (n : Nat) (f : Nat → Bool) : countW n f = n ↔ ∀ x, x < n → f x = true := by
  rw [countW_eq_countP]
  conv => lhs; rhs; rw [← List.length_range (n := n)]
  rw [List.countP_eq_length]
  exact ⟨fun h x hx => h x (List.mem_range.2 hx), fun h x hx => h x (List.mem_range.1 hx)⟩

theorem countW_all_but (n : Nat) (f : Nat → Bool) (w : Nat) (hw : w < n) (hfw : f w = false) :
    countW n f + 1 = n ↔ ∀ x, x < n → x ≠ w → f x = true := by
  have h2 : countW n (fun x => if x = w then true else f x) + 0 = countW n f + 1 := by
    have := countW_set n id f w true hw
    rw [hfw] at this
    exact this
  rw [← h2, Nat.add_zero, countW_eq_iff]
  constructor
  · intro h x hx hxw
    have : (if x = w then true else f x) = true := h x hx
    rw [if_neg hxw] at this; exact this
  · intro h x hx
    show (if x = w then true else f x) = true
    by_cases e : x = w
    · rw [if_pos e]
    · rw [if_neg e]; exact h x hx e

end Mmtk.Sched
