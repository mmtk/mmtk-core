import MmtkModel.Lemmas.FreeListLinks
import MmtkModel.Lemmas.RunsChar
/-!
# The refinement relation between the table and the abstract runs (C26, concrete layer)

`RelX X t a L`: table `t` represents the abstract state `a`; `L k` is the ghost list (run starts, in
list order) of head `k` (unit `-(k+1)`).  `X` is the set of free runs that are momentarily unlinked
(in the middle of `alloc` / `free`); `Rel = RelX ∅` is the invariant between operations.

Every method is followed through two facts about `RelX`: it is local (`RelX.frame`: writes inside a
window between two boundaries only oblige the runs inside the window) and it does not care how the
nodes of one head are linked (`RelX.relink`).  `remove_step` / `link_step` move a free run off / onto
its list; `RelX.add_run` is `add_to_free` of a run whose size fields are written, the last step of
`free` and of the constructor.
-/
namespace Mmtk.FreeList
open Mmtk.Runs

def hd (k : Nat) : Int := -((k : Int) + 1)

theorem hd_inj {j k : Nat} (h : hd j = hd k) : j = k := by unfold hd at h; omega
theorem hd_neg (k : Nat) : hd k < 0 := by unfold hd; omega

def setL (L : Nat → List Nat) (k : Nat) (l : List Nat) : Nat → List Nat := fun j => if j = k then l else L j

theorem setL_self (L : Nat → List Nat) (k : Nat) (l : List Nat) : setL L k l k = l := if_pos rfl
theorem setL_ne (L : Nat → List Nat) {j k : Nat} (l : List Nat) (h : j ≠ k) : setL L k l j = L j := if_neg h

/-- What the table holds for a run `[s, e)` of `a`.  `multi`, `sz`: the MULTI flag at `s` and, for a run
of more than one unit, the size entries at `s + 1` and `e - 1` (what `get_size(s)` / `get_left(e)` read;
`Sized t s e`).  `free`: the FREE flag at `s` says whether the run has an owner (no clause reads the
flag `set_free` also writes at `e - 1`: `get_free` reads first units only).  `mem`: a run free on head `k` is on `k`'s ghost list, or momentarily unlinked (`X`). -/
structure RunOK (t : Tab) (a : AS) (L : Nat → List Nat) (X : Nat → Prop) (s e : Nat) : Prop where
  multi : fMulti t (s : Int) = decide (s + 1 < e)
  sz : s + 1 < e → fNext t ((s : Int) + 1) = e - s ∧ fMulti t ((e : Int) - 1) = true ∧ fNext t ((e : Int) - 1) = e - s
  free : fFree t (s : Int) = (a.own s).isSome
  own : ∀ u, s ≤ u → u < e → a.own u = a.own s
  mem : ∀ k, a.own s = some k → (k : Int) < t.heads ∧ (s ∈ L k ∨ X s)

/-- `hle`: 128 is `MAX_HEADS`; a head's 30-bit pattern then lies above `MAX_UNITS`, which is how `dl`
tells it from a unit (`dl_lk`).  `size_eq`: the array holds the heads, the units and the top sentinel
(unit `a.units`), two entries each; the proofs use it only as a lower bound (`RelX.inR`: these units are
in range).  `top_free`, `head_free`, `head_multi`: the top sentinel and every head read as allocated
single units; `free` meets them next to the two ends of the list (head 0 below unit 0, the sentinel
above the last run) and finds nothing to coalesce with.  `unc`: the mark is kept for `u = units` too
(`pickEnd` reads it at the end of the last run).  `list`: the links of head `k` run through exactly
`L k`, whose members are linked free runs of `k`. -/
structure RelX (X : Nat → Prop) (t : Tab) (a : AS) (L : Nat → List Nat) : Prop where
  hpos : 1 ≤ t.heads
  hle : t.heads ≤ 128
  size_eq : (t.cells.size : Int) = 2 * ((a.units : Int) + 1 + t.heads)
  units_le : (a.units : Int) ≤ MAX_UNITS
  top_free : fFree t (a.units : Int) = false
  head_free : ∀ k : Nat, (k : Int) < t.heads → fFree t (hd k) = false
  head_multi : ∀ k : Nat, (k : Int) < t.heads → fMulti t (hd k) = false
  unc : ∀ u, u ≤ a.units → a.unc u = fUnc t (u : Int)
  run : ∀ s e, IsRun a s e → RunOK t a L X s e
  list : ∀ k : Nat, (k : Int) < t.heads → Links t (hd k) (hd k) (L k) ∧ (L k).Nodup ∧
    ∀ x ∈ L k, a.own x = some k ∧ ¬ X x ∧ ∃ e, IsRun a x e

def Rel (t : Tab) (a : AS) (L : Nat → List Nat) : Prop := RelX (fun _ => False) t a L

theorem MAX_UNITS_eq : MAX_UNITS = 1073741694 := rfl

variable {X : Nat → Prop} {t : Tab} {a : AS} {L : Nat → List Nat}

namespace RelX

theorem inR (h : RelX X t a L) {w : Int} (h0 : -t.heads ≤ w) (h1 : w ≤ a.units) : InR t w := by
  have := h.size_eq
  unfold InR; omega

theorem inR_hd (h : RelX X t a L) {k : Nat} (hk : (k : Int) < t.heads) : InR t (hd k) :=
  h.inR (by unfold hd; omega) (by unfold hd; omega)

theorem inR_nat (h : RelX X t a L) {w : Nat} (h1 : w ≤ a.units) : InR t (w : Int) :=
  h.inR (by have := h.hpos; omega) (by omega)

/-- The first bound lets `dl` tell the head from a unit (`dl_lk`); the second is what the
`debug_assert!` of `set_next` / `set_prev` checks (`LinkOK.range`). -/
theorem hd_bounds (h : RelX X t a L) {k : Nat} (hk : (k : Int) < t.heads) :
    (-MAX_HEADS ≤ hd k ∧ hd k < 0) ∧ (-t.heads ≤ hd k ∧ hd k < 0) := by
  have := h.hle; unfold hd MAX_HEADS; omega

theorem sized (h : RelX X t a L) {s e : Nat} (hr : IsRun a s e) : Sized t s e :=
  ⟨(h.run s e hr).multi, (h.run s e hr).sz⟩

theorem sizeOf_run (h : RelX X t a L) {s e : Nat} (hr : IsRun a s e) : sizeOf t (s : Int) = (e : Int) - s :=
  (h.sized hr).sizeOf hr.1

theorem leftOf_run (h : RelX X t a L) {l s : Nat} (hr : IsRun a l s) : leftOf t (s : Int) = (l : Int) :=
  (h.sized hr).leftOf hr.1

theorem inR_run (h : RelX X t a L) {s e : Nat} (hr : IsRun a s e) (w : Int) (h0 : (s : Int) ≤ w) (h1 : w < e) : InR t w :=
  h.inR (by have := h.hpos; omega) (by have := hr.lt_units; omega)

theorem getSize_run (h : RelX X t a L) {s e : Nat} (hr : IsRun a s e) : getSize t (s : Int) = .ok ((e : Int) - s) :=
  getSize_sized (h.sized hr) hr.1 (h.inR_run hr)

theorem getFree_run (h : RelX X t a L) {s e : Nat} (hr : IsRun a s e) : getFree t (s : Int) = .ok (a.own s).isSome := by
  rw [getFree_ok (h.inR_run hr _ (Int.le_refl _) (by have := hr.1; omega)), (h.run s e hr).free]

theorem units_list (h : RelX X t a L) {k : Nat} (hk : (k : Int) < t.heads) : Units t (L k) := by
  intro y hy
  obtain ⟨_, _, e, hr⟩ := (h.list k hk).2.2 y hy
  have := hr.lt_units
  have := h.units_le
  exact ⟨by omega, h.inR_nat (by omega)⟩

theorem mem_outside (h : RelX X t a L) {k : Nat} (hk : (k : Int) < t.heads) {y : Nat} (hy : y ∈ L k)
    {s e : Nat} (hr : IsRun a s e) : y ≤ s ∨ e ≤ y := by
  obtain ⟨_, _, z, hz⟩ := (h.list k hk).2.2 y hy
  exact hr.start_outside hz

end RelX

theorem Rel.mem_list {k s e : Nat} (h : Rel t a L) (hr : IsRun a s e)
    (hown : a.own s = some k) : (k : Int) < t.heads ∧ s ∈ L k :=
  ⟨((h.run s e hr).mem k hown).1, ((h.run s e hr).mem k hown).2.elim id False.elim⟩

theorem RelX.congrX {X' : Nat → Prop} (hX : ∀ y, X y ↔ X' y)
    (h : RelX X t a L) : RelX X' t a L := by
  have : X = X' := funext fun y => propext (hX y)
  exact this ▸ h

/-- Table and abstract state change only inside a window `[lo, hi)` between two boundaries: `RelX` survives
if every run of the new state inside the window is `RunOK`; a list member inside the window can only be
its first unit and must still be a free run of its head. -/
theorem RelX.frame {X' : Nat → Prop} {t' : Tab} {a' : AS} {lo hi : Nat}
    (h : RelX X t a L) (ht : SameOutside t t' lo hi) (hw : Within a a' lo hi) (hlh : lo < hi) (hhi : hi ≤ a.units)
    (hblo : lo = 0 ∨ a.cut lo = true) (hbhi : hi = a.units ∨ a.cut hi = true)
    (hX : ∀ y, y < lo ∨ hi ≤ y → (X' y ↔ X y))
    (hin : ∀ s e, IsRun a' s e → lo ≤ s → e ≤ hi → RunOK t' a' L X' s e)
    (hmem : ∀ (k y : Nat), (k : Int) < t.heads → y ∈ L k → lo ≤ y → y < hi → y = lo ∧ a'.own y = some k ∧ ¬ X' y ∧ ∃ e, IsRun a' y e) :
    RelX X' t' a' L := by
  have hout : ∀ {s e : Nat}, e ≤ lo ∨ hi ≤ s → (IsRun a' s e ↔ IsRun a s e) := hw.isRun_iff
  obtain ⟨hunits, hunc, hcut, hown⟩ := hw
  have hpos := h.hpos
  have hblo' : lo = 0 ∨ a'.cut lo = true := by
    rcases hblo with h0 | hc
    · exact Or.inl h0
    · rw [hcut lo (Or.inl (Nat.le_refl _)) (by omega)]; exact Or.inr hc
  have hbhi' : hi = a'.units ∨ a'.cut hi = true := by
    rcases hbhi with h0 | hc
    · exact Or.inl (h0.trans hunits.symm)
    · rcases Nat.lt_or_ge hi a.units with h1 | h1
      · rw [hcut hi (Or.inr (Nat.le_refl _)) h1]; exact Or.inr hc
      · exact Or.inl (by omega)
  constructor
  · rw [ht.heads]; exact h.hpos
  · rw [ht.heads]; exact h.hle
  · rw [ht.heads, ht.size, hunits]; exact h.size_eq
  · rw [hunits]; exact h.units_le
  · rw [hunits, ht.free _ (Or.inr (by omega))]; exact h.top_free
  · intro k hk
    rw [ht.heads] at hk
    rw [ht.free _ (Or.inl (by have := hd_neg k; omega))]; exact h.head_free k hk
  · intro k hk
    rw [ht.heads] at hk
    rw [ht.multi _ (Or.inl (by have := hd_neg k; omega))]; exact h.head_multi k hk
  · intro u hu
    rw [hunc, ht.unc]; exact h.unc u (hunits ▸ hu)
  · intro s e hr
    by_cases c : lo ≤ s ∧ e ≤ hi
    · exact hin s e hr c.1 c.2
    · have hse := hr.1
      have hd : e ≤ lo ∨ hi ≤ s := by
        rcases hr.inside_or_outside hblo' hbhi' with g | g | g <;> omega
      have ok := h.run s e ((hout hd).mp hr)
      refine ⟨?_, fun hm => ?_, ?_, fun u h1 h2 => ?_, fun k hk => ?_⟩
      · rw [ht.multi _ (by omega)]; exact ok.multi
      · rw [ht.next _ (by omega), ht.multi _ (by omega), ht.next _ (by omega)]; exact ok.sz hm
      · rw [ht.free _ (by omega), hown s (by omega)]; exact ok.free
      · rw [hown u (by omega), hown s (by omega)]; exact ok.own u h1 h2
      · rw [hown s (by omega)] at hk
        rw [ht.heads]
        exact ⟨(ok.mem k hk).1, (ok.mem k hk).2.imp id (hX s (by omega)).mpr⟩
  · intro k hk
    rw [ht.heads] at hk
    obtain ⟨q1, q2, q3⟩ := h.list k hk
    have hmemN : ∀ y ∈ L k, (y : Int) ≤ lo ∨ (hi : Int) ≤ y := fun y hy => by
      by_cases c : lo ≤ y ∧ y < hi
      · have := (hmem k y hk hy c.1 c.2).1; omega
      · omega
    refine ⟨Links_congr (L k) (hd k) (ht.next _ (Or.inl (by have := hd_neg k; omega))) (fun y hy => ht.next _ (hmemN y hy))
      (ht.prev _) (fun y _ => ht.prev _) q1, q2, fun y hy => ?_⟩
    by_cases c : lo ≤ y ∧ y < hi
    · exact (hmem k y hk hy c.1 c.2).2
    · obtain ⟨m1, m2, e, m3⟩ := q3 y hy
      have hd : e ≤ lo ∨ hi ≤ y := by
        rcases m3.inside_or_outside hblo hbhi with g | g | g <;> omega
      exact ⟨by rw [hown y (by omega)]; exact m1, fun f => m2 ((hX y (by omega)).mp f), e, (hout hd).mpr m3⟩

/-- a node of the list of head `k`, seen from the abstract state: the head itself or the first unit of
a run owned by `k` (`LinkOK` is the table's side; `RelX.node_ok` gives both for the head and the
members of `L k`) -/
def NodeOf (a : AS) (k : Nat) (w : Int) : Prop := w = hd k ∨ ∃ y : Nat, w = (y : Int) ∧ a.own y = some k ∧ ∃ e, IsRun a y e

/-- If only link fields of nodes of head `k` change and `l'` is again a well-formed list of free runs of `k`, `RelX`
holds with `l'` for `L k`; `hXk`, `hXo`: a run of `k` leaves or joins the list only through the unlinked set, other heads' keep theirs. -/
theorem RelX.relink {X' : Nat → Prop} {t' : Tab} {k : Nat} {l' : List Nat}
    (h : RelX X t a L) (heads : t'.heads = t.heads) (size : t'.cells.size = t.cells.size)
    (free : ∀ w, fFree t' w = fFree t w) (unc : ∀ w, fUnc t' w = fUnc t w) (multi : ∀ w, fMulti t' w = fMulti t w)
    (next : ∀ w, ¬ NodeOf a k w → fNext t' w = fNext t w) (prev : ∀ w, ¬ NodeOf a k w → fPrev t' w = fPrev t w)
    (links : Links t' (hd k) (hd k) l') (nodup : l'.Nodup)
    (mem : ∀ x ∈ l', a.own x = some k ∧ ¬ X' x ∧ ∃ e, IsRun a x e)
    (hXk : ∀ s, a.own s = some k → s ∈ L k ∨ X s → s ∈ l' ∨ X' s)
    (hXo : ∀ y, a.own y ≠ some k → (X' y ↔ X y)) :
    RelX X' t' a (setL L k l') := by
  -- units strictly inside a run are not nodes
  have inside : ∀ {s e : Nat}, IsRun a s e → ∀ w : Int, (s : Int) < w → w < e → ¬ NodeOf a k w := by
    rintro s e hr w h1 h2 (rfl | ⟨y, rfl, -, z, hy⟩)
    · have := hd_neg k; omega
    · have := hr.start_outside hy; omega
  constructor
  · rw [heads]; exact h.hpos
  · rw [heads]; exact h.hle
  · rw [heads, size]; exact h.size_eq
  · exact h.units_le
  · rw [free]; exact h.top_free
  · intro j hj; rw [free]; exact h.head_free j (heads ▸ hj)
  · intro j hj; rw [multi]; exact h.head_multi j (heads ▸ hj)
  · intro u hu; rw [unc]; exact h.unc u hu
  · intro s e hr
    have ok := h.run s e hr
    refine ⟨by rw [multi]; exact ok.multi, fun hm => ?_, by rw [free]; exact ok.free, ok.own, fun j hj => ?_⟩
    · rw [next _ (inside hr _ (by omega) (by omega)), multi, next _ (inside hr _ (by omega) (by omega))]
      exact ok.sz hm
    · refine ⟨heads ▸ (ok.mem j hj).1, ?_⟩
      by_cases hjk : j = k
      · subst hjk; rw [setL_self]; exact hXk s hj (ok.mem j hj).2
      · rw [setL_ne _ _ hjk]
        exact (ok.mem j hj).2.imp id (hXo s (by rw [hj]; exact fun e => hjk (Option.some.inj e))).mpr
  · intro j hj
    rw [heads] at hj
    by_cases hjk : j = k
    · subst hjk; rw [setL_self]; exact ⟨links, nodup, mem⟩
    · rw [setL_ne _ _ hjk]
      obtain ⟨q1, q2, q3⟩ := h.list j hj
      have hnh : ¬ NodeOf a k (hd j) := by
        rintro (e | ⟨y, e, -⟩)
        · exact hjk (hd_inj e)
        · have := hd_neg j; omega
      have hnm : ∀ y ∈ L j, a.own y ≠ some k ∧ ¬ NodeOf a k (y : Int) := fun y hy => by
        have hoy : a.own y ≠ some k := by rw [(q3 y hy).1]; exact fun e => hjk (Option.some.inj e)
        refine ⟨hoy, ?_⟩
        rintro (e | ⟨z, e, hz, -⟩)
        · have := hd_neg k; omega
        · exact hoy (Int.ofNat_inj.mp e ▸ hz)
      exact ⟨Links_congr (L j) (hd j) (next _ hnh) (fun y hy => next _ (hnm y hy).2) (prev _ hnh)
        (fun y hy => prev _ (hnm y hy).2) q1, q2,
        fun y hy => ⟨(q3 y hy).1, fun f => (q3 y hy).2.1 ((hXo y (hnm y hy).1).mp f), (q3 y hy).2.2⟩⟩

theorem RelX.node_ok {k : Nat} (h : RelX X t a L)
    (hk : (k : Int) < t.heads) {w : Int} (hw : w = hd k ∨ ∃ y ∈ L k, w = (y : Int)) :
    NodeOf a k w ∧ LinkOK t (hd k) w := by
  rcases hw with rfl | ⟨y, hy, rfl⟩
  · exact ⟨Or.inl rfl, Or.inl rfl, h.inR_hd hk⟩
  · obtain ⟨m1, -, m3⟩ := (h.list k hk).2.2 y hy
    exact ⟨Or.inr ⟨y, rfl, m1, m3⟩, Or.inr ⟨by omega, (h.units_list hk y hy).1⟩, (h.units_list hk y hy).2⟩

/-- the first node after the head (what `add_to_free` reads as `next`) -/
theorem RelX.node_first {k : Nat} (h : RelX X t a L) (hk : (k : Int) < t.heads) :
    NodeOf a k (nxt t (hd k) (hd k)) ∧ LinkOK t (hd k) (nxt t (hd k) (hd k)) := by
  rw [Links_nxt (h.list k hk).1]
  exact firstI_of (p := fun w => NodeOf a k w ∧ LinkOK t (hd k) w) (h.node_ok hk (Or.inl rfl))
    fun y hy => h.node_ok hk (Or.inr ⟨y, hy, rfl⟩)

/-- `__remove_from_free`: the abstract state is unchanged, the run joins `X`. -/
theorem remove_step (debug : Bool)
    (h : RelX X t a L) {k : Nat} (hk : (k : Int) < t.heads) {x : Nat} (hx : x ∈ L k) :
    removeFromFree debug t (hd k) (x : Int) = .ok (pRemoveFromFree t (hd k) (x : Int)) ∧
    RelX (fun y => X y ∨ y = x) (pRemoveFromFree t (hd k) (x : Int)) a (setL L k ((L k).erase x)) := by
  obtain ⟨hlk, hnd, hmem⟩ := h.list k hk
  obtain ⟨l1, l2, hsplit⟩ := List.append_of_mem hx
  have hb := h.hd_bounds hk
  have hne : ∀ y ∈ l1 ++ x :: l2, (y : Int) ≠ hd k := fun y _ => by have := hd_neg k; omega
  obtain ⟨e1, e2⟩ := Links_at x l2 l1 (hd k) (hsplit ▸ hlk)
  have herase : l1 ++ l2 = (L k).erase x := by
    have hx1 : x ∉ l1 := fun hm =>
      (List.nodup_append.mp (hsplit ▸ hnd)).2.2 x hm x (List.mem_cons_self ..) rfl
    rw [hsplit, List.erase_append_right _ hx1, List.erase_cons_head]
  -- the two written nodes: predecessor and successor of `x`
  have hp := lastI_of (p := fun w => NodeOf a k w ∧ LinkOK t (hd k) w) (l := l1) (h.node_ok hk (Or.inl rfl))
    fun y hy => h.node_ok hk (Or.inr ⟨y, hsplit ▸ List.mem_append_left _ hy, rfl⟩)
  have hn := firstI_of (p := fun w => NodeOf a k w ∧ LinkOK t (hd k) w) (l := l2) (h.node_ok hk (Or.inl rfl))
    fun y hy => h.node_ok hk (Or.inr ⟨y, hsplit ▸ List.mem_append_right _ (List.mem_cons_of_mem _ hy), rfl⟩)
  have fn : ∀ w, w ≠ lastI (hd k) l1 → fNext (pRemoveFromFree t (hd k) (x : Int)) w = fNext t w := fun w hw => by
    rw [pRemoveFromFree, e1, e2, fNext_wPrev, fNext_wNext, if_neg fun c => hw c.1]
  have fp : ∀ w, w ≠ firstI l2 (hd k) → fPrev (pRemoveFromFree t (hd k) (x : Int)) w = fPrev t w := fun w hw => by
    rw [pRemoveFromFree, e1, e2, fPrev_wPrev, if_neg fun c => hw c.1, fPrev_wNext]
  have e3 := Links_unlink (hd_neg k) x l2 l1 (hd k) (hsplit ▸ hnd) hne (hsplit ▸ hlk) fn fp
    (by rw [nxt, pRemoveFromFree, e1, e2, fNext_wPrev, fNext_wNext, if_pos ⟨rfl, hp.2.2⟩]; exact dl_lk hb.1 hn.2.1)
    (by rw [prv, pRemoveFromFree, e1, e2, fPrev_wPrev, if_pos ⟨rfl, (InR_wNext ..).mpr hn.2.2⟩]; exact dl_lk hb.1 hp.2.1)
  refine ⟨removeFromFree_ok debug hb.2 (h.units_list hk x hx).2 (e1 ▸ hn.2) (e2 ▸ hp.2), ?_⟩
  refine h.relink (heads := by simp) (size := by simp [pRemoveFromFree]) (free := fun _ => by simp [pRemoveFromFree])
    (unc := fun _ => by simp [pRemoveFromFree]) (multi := fun _ => by simp [pRemoveFromFree])
    (next := fun w hw => fn w fun e => hw (e ▸ hp.1)) (prev := fun w hw => fp w fun e => hw (e ▸ hn.1))
    (links := herase ▸ e3) (nodup := hnd.erase x) (mem := fun y hy => ?_) (hXk := fun s hs hm => ?_) (hXo := fun y hy => ?_)
  · obtain ⟨hyx, hy'⟩ := (List.Nodup.mem_erase_iff hnd).mp hy
    obtain ⟨m1, m2, m3⟩ := hmem y hy'
    exact ⟨m1, fun f => f.elim m2 hyx, m3⟩
  · by_cases c : s = x
    · exact Or.inr (Or.inr c)
    · exact hm.elim (fun g => Or.inl ((List.Nodup.mem_erase_iff hnd).mpr ⟨c, g⟩)) (fun g => Or.inr (Or.inl g))
  · exact ⟨fun f => f.elim id (fun c => absurd (c ▸ (hmem x hx).1) hy), Or.inl⟩

/-- The link writes of `add_to_free`: the inverse of `remove_step`. -/
theorem link_step {k x e : Nat}
    (h : RelX X t a L) (hk : (k : Int) < t.heads) (hr : IsRun a x e) (hown : a.own x = some k) (hx : X x) :
    RelX (fun y => X y ∧ y ≠ x) (pLink t (hd k) (x : Int)) a (setL L k (x :: L k)) := by
  obtain ⟨hlk, hnd, hmem⟩ := h.list k hk
  have hb := h.hd_bounds hk
  have hxl : x ∉ L k := fun hm => (hmem x hm).2.1 hx
  have hxU : (x : Int) ≤ MAX_UNITS ∧ InR t (x : Int) := by
    have := hr.lt_units
    have := h.units_le
    exact ⟨by omega, h.inR_nat (by omega)⟩
  have hn := h.node_first hk
  have hxn : NodeOf a k (x : Int) := Or.inr ⟨x, rfl, hown, e, hr⟩
  refine h.relink (heads := by simp) (size := by simp [pLink]) (free := fun _ => by simp [pLink])
    (unc := fun _ => by simp [pLink]) (multi := fun _ => by simp [pLink]) (next := fun w hw => ?_) (prev := fun w hw => ?_)
    (links := Links_push hb.1 (h.inR_hd hk) x hxU (L k) (h.units_list hk) hnd hxl hlk)
    (nodup := List.nodup_cons.mpr ⟨hxl, hnd⟩) (mem := fun y hy => ?_) (hXk := fun s hs hm => ?_) (hXo := fun y hy => ?_)
  · unfold pLink
    rw [fNext_wPrev, fNext_wPrev, fNext_wNext, if_neg, fNext_wNext, if_neg]
    · rintro ⟨rfl, -⟩; exact hw hxn
    · rintro ⟨rfl, -⟩; exact hw (Or.inl rfl)
  · unfold pLink
    rw [fPrev_wPrev, if_neg, fPrev_wPrev, if_neg, fPrev_wNext, fPrev_wNext]
    · rintro ⟨rfl, -⟩; exact hw hxn
    · rintro ⟨rfl, -⟩; exact hw hn.1
  · rcases List.mem_cons.mp hy with rfl | hy
    · exact ⟨hown, fun f => f.2 rfl, e, hr⟩
    · exact ⟨(hmem y hy).1, fun f => (hmem y hy).2.1 f.1, (hmem y hy).2.2⟩
  · by_cases c : s = x
    · exact Or.inl (c ▸ List.mem_cons_self ..)
    · exact hm.elim (fun g => Or.inl (List.mem_cons_of_mem _ g)) (fun g => Or.inr ⟨g, c⟩)
  · exact ⟨And.left, fun f => ⟨f, fun c => hy (c ▸ hown)⟩⟩

theorem addToFree_sized {t0 : Tab} {k x e lo hi : Nat} (debug : Bool)
    (h : RelX X t0 a L) (hk : (k : Int) < t0.heads) (ht : SameOutside t0 t lo hi) (hs : Sized t x e)
    (hxe : x < e) (heu : e ≤ a.units) : addToFree debug t (hd k) (x : Int) = .ok (pAddToFree t (hd k) (x : Int)) := by
  have hpos := h.hpos
  have hul := h.units_le
  have hnx : nxt t (hd k) (hd k) = nxt t0 (hd k) (hd k) := by
    unfold nxt; rw [ht.next _ (Or.inl (by have := hd_neg k; omega))]
  have hn := h.node_first hk
  exact addToFree_ok debug (ht.heads ▸ (h.hd_bounds hk).2) ((ht.inR _).mpr (h.inR_hd hk)) hs hxe
    (fun w h0 h1 => (ht.inR w).mpr (h.inR (by omega) (by omega))) (by omega) (hnx ▸ ⟨hn.2.1, (ht.inR _).mpr hn.2.2⟩)

/-- `t2` represents `a` with some runs unlinked (`X`: all inside the window, `hX1`; every run of `a` inside it is
allocated or one of them, `hin`).  `add_to_free(l)` of a window `[l, r)` whose size fields are written (`t3`): its `set_free` together with the
step from `a` to `a'` is a change inside `[l, r)` (`RelX.frame`); then the run is linked (`link_step`).  The
last step of `free` and the constructor's initial `add_to_free` are the two instances. -/
theorem RelX.add_run {t2 t3 : Tab} {a' : AS} {L2 : Nat → List Nat} {k l r : Nat} (debug : Bool)
    (h : RelX X t2 a L2) (hk : (k : Int) < t2.heads) (hw : Within a a' l r)
    (hbl : l = 0 ∨ a.cut l = true) (hbr : r = a.units ∨ a.cut r = true)
    (hrun : IsRun a' l r) (hown' : ∀ u, l ≤ u → u < r → a'.own u = some k)
    (hX1 : ∀ y, X y → l ≤ y ∧ y < r)
    (hin : ∀ y z, IsRun a y z → l ≤ y → y < r → a.own y = none ∨ X y)
    (ht : SameOutside t2 t3 l r) (hs : Sized t3 l r) :
    addToFree debug t3 (hd k) (l : Int) = .ok (pAddToFree t3 (hd k) (l : Int)) ∧
    Rel (pAddToFree t3 (hd k) (l : Int)) a' (setL L2 k (l :: L2 k)) := by
  have hlr := hrun.1
  have hru : r ≤ a.units := hw.units ▸ hrun.2.1
  have hsz := hs.sizeOf hlr
  have hlR : InR t3 (l : Int) := (ht.inR _).mpr (h.inR_nat (by omega))
  have h1 : RelX (fun y => y = l) (pSetFree t3 (l : Int) true) a' L2 := by
    refine h.frame (ht := ht.trans (sameOutside_pSetFree t3 l true hsz (by omega))) (hw := hw) (hlh := hlr) (hhi := hru)
      (hblo := hbl) (hbhi := hbr) (hX := fun y hy => ⟨fun c => by omega, fun c => by have := hX1 y c; omega⟩)
      (hin := fun x y hxy h1 h2 => ?_) (hmem := fun j y hj hy h1 h2 => ?_)
    · have hxy1 := hxy.1
      obtain ⟨rfl, rfl⟩ : x = l ∧ y = r := by
        rcases run_eq_or_disjoint _ hrun hxy with g | g | g <;> omega
      refine ⟨(hs.pSetFree hlr ..).multi, (hs.pSetFree hlr ..).sz, ?_, fun u h1 h2 => ?_, fun j hj => ?_⟩
      · rw [fFree_pSetFree_self hlR, hown' x (Nat.le_refl _) hlr]; rfl
      · rw [hown' u h1 h2, hown' x (Nat.le_refl _) hlr]
      · rw [hown' x (Nat.le_refl _) hlr] at hj
        obtain rfl := Option.some.inj hj
        exact ⟨by rw [heads_pSetFree, ht.heads]; exact hk, Or.inr rfl⟩
    · -- a list member is a linked free run
      obtain ⟨m1, m2, z, m3⟩ := (h.list j hj).2.2 y hy
      rcases hin y z m3 h1 h2 with c | c
      · rw [c] at m1; cases m1
      · exact absurd c m2
  have h2 := link_step h1 (by rw [heads_pSetFree, ht.heads]; exact hk) hrun (hown' l (Nat.le_refl _) hlr) rfl
  exact ⟨addToFree_sized debug h hk ht hs hlr hru, h2.congrX fun y => ⟨fun f => f.2 f.1, False.elim⟩⟩

end Mmtk.FreeList
