import MmtkModel.Lemmas.Sched
/-!
# Single steps of the scheduler model, as the liveness arguments need them

What one step does, read off the effect relation `Eff` and the worker automaton `PcMove` of `Lemmas/SchedStep.lean`;
no runs occur here.  The goals are written only by the last parker's `park` (`on_last_parked`), the last `surrender`
and `make_request`, so `Pending` survives every other step; a worker leaves a program point only by the one action of
its own that the automaton allows there; a call of `on_last_parked` that does not complete the GC only opens buckets
and empties sentinel slots (`FlagsMono`, `onLastParked_gc_unfinished` in `Lemmas/SchedLastParked.lean`).
-/
namespace Mmtk.Sched

def NoExit (s : State) : Prop := ∀ g, s.current = some g → g.isExit = false

theorem noExit_of_gc {s : State} (h : s.current = some .gc) : NoExit s := fun g hg => by
  rw [h] at hg; cases hg; rfl

theorem Unparks.noExit {s : State} {p : PC} (h : Unparks s p) (hn : NoExit s) : p = .polling [] := by
  rcases h with ⟨⟨g, hg, hx⟩, _⟩ | ⟨_, e⟩
  · rw [hn g hg] at hx; cases hx
  · exact e

theorem Unparks.exit {s : State} {p : PC} {g : Goal} (h : Unparks s p) (hg : s.current = some g) (hx : g.isExit = true) :
    p = .exited := by
  rcases h with ⟨_, e⟩ | ⟨hne, _⟩
  · exact e
  · rw [hne g hg] at hx; cases hx

theorem Eff.goal_writers {c : Cfg} {s s' : State} {a : Act} (h : Eff c s a s') :
    (∃ w tag, a = .park w tag ∧ s.parked + 1 = c.n) ∨ (∃ w, a = .surrender w ∧ w < c.n ∧ s.pc w = .exited) ∨
    (s'.current = s.current ∧ s'.gcDone = s.gcDone ∧ s'.exitsDone = s.exitsDone ∧
      (s.reqGc = true → s'.reqGc = true) ∧ (s.reqShutdown = true → s'.reqShutdown = true) ∧
      (s.reqFork = true → s'.reqFork = true)) := by
  cases h with
  | parkLast w tag s1 r _ _ _ _ hl => exact Or.inl ⟨w, tag, rfl, hl⟩
  | surrender w k _ hw hpc _ | surrenderLast w k _ hw hpc _ => exact Or.inr (Or.inl ⟨w, rfl, hw, hpc⟩)
  | makeRequest g x _ _ _ hn =>
    cases g
    · exact Or.inr (Or.inr ⟨rfl, rfl, rfl, fun _ => rfl, id, id⟩)
    · exact Or.inr (Or.inr ⟨rfl, rfl, rfl, id, fun _ => rfl, id⟩)
    · exact Or.inr (Or.inr ⟨rfl, rfl, rfl, id, id, fun _ => rfl⟩)
  | poll _ _ _ _ h | work _ _ _ h | mutator h => rw [h.same]; exact Or.inr (Or.inr ⟨rfl, rfl, rfl, id, id, id⟩)
  | _ => exact Or.inr (Or.inr ⟨rfl, rfl, rfl, id, id, id⟩)

/-- something is left for the last parker to do (a request, or a Gc goal in progress) and the pool is whole: no exit
goal is current and no worker has surrendered, so all `n` workers still park -/
def Pending (c : Cfg) (s : State) : Prop :=
  (anyRequested s = true ∨ s.current = some .gc) ∧ NoExit s ∧ ∀ w, w < c.n → s.pc w ≠ .surrendered

def GcPending (c : Cfg) (s : State) : Prop :=
  (s.reqGc = true ∨ s.current = some .gc) ∧ NoExit s ∧ ∀ w, w < c.n → s.pc w ≠ .surrendered

theorem GcPending.pending {c : Cfg} {s : State} (h : GcPending c s) : Pending c s := by
  refine ⟨?_, h.2.1, h.2.2⟩
  rcases h.1 with h | h
  · left; simp [anyRequested, h]
  · exact Or.inr h

def IsLastPark (c : Cfg) (s : State) (a : Option Act) : Prop := ∃ w tag, a = some (.park w tag) ∧ s.parked + 1 = c.n

theorem anyRequested_mono {s s' : State} (h1 : s.reqGc = true → s'.reqGc = true)
    (h2 : s.reqShutdown = true → s'.reqShutdown = true) (h3 : s.reqFork = true → s'.reqFork = true)
    (h : anyRequested s = true) : anyRequested s' = true := by
  simp only [anyRequested, Bool.or_eq_true] at h ⊢
  rcases h with (h | h) | h
  · exact Or.inl (Or.inl (h1 h))
  · exact Or.inl (Or.inr (h2 h))
  · exact Or.inr (h3 h)

theorem noExit_not_exited {c : Cfg} (hn : 0 < c.n) {s : State} (hr : Reachable c s) (hnx : NoExit s) (x : Nat)
    (hx : x < c.n) : s.pc x ≠ .exited := by
  intro he
  obtain ⟨g, hg1, hg2⟩ := (reachable_invE hn hr).exited x hx he
  rw [hnx g hg1] at hg2; cases hg2

theorem nonlast_step_frame {c : Cfg} (hn : 0 < c.n) {s s' : State} {a : Act} (hr : Reachable c s) (hnx : NoExit s)
    (hs : step c s a = some s') (hnl : ¬ IsLastPark c s (some a)) :
    s'.current = s.current ∧ (s.reqGc = true → s'.reqGc = true) ∧ (s.reqShutdown = true → s'.reqShutdown = true) ∧
    (s.reqFork = true → s'.reqFork = true) ∧ s'.gcDone = s.gcDone := by
  rcases (step_eff hs).goal_writers with ⟨w, tag, rfl, hl⟩ | ⟨w, _, hw, hpc⟩ | ⟨h1, h2, _, h4, h5, h6⟩
  · exact absurd ⟨w, tag, rfl, hl⟩ hnl
  · exact absurd hpc (noExit_not_exited hn hr hnx w hw)
  · exact ⟨h1, h4, h5, h6, h2⟩

theorem step_counters_mono {c : Cfg} {s s' : State} {a : Act} (hs : step c s a = some s') :
    s.started ≤ s'.started ∧ s.ended ≤ s'.ended := by
  cases step_eff hs with
  | poll _ _ _ _ hP =>
    cases hP with
    | observe | batchMove | pollMiss => exact ⟨Nat.le_refl _, Nat.le_refl _⟩
    | _ => exact ⟨Nat.le_succ _, Nat.le_refl _⟩
  | work _ _ _ h | mutator h => rw [h.same]; exact ⟨Nat.le_refl _, Nat.le_refl _⟩
  | execEnd => exact ⟨Nat.le_refl _, Nat.le_succ _⟩
  | parkLast w _ s1 r _ _ _ _ _ hl =>
    have f := frame_onLastParked hl
    exact ⟨Nat.le_of_eq f.started.symm, Nat.le_of_eq f.ended.symm⟩
  | _ => exact ⟨Nat.le_refl _, Nat.le_refl _⟩

theorem step_execEnd_ended {c : Cfg} {s s' : State} {w : Nat} (hs : step c s (.execEnd w) = some s') :
    s'.ended = s.ended + 1 := by
  obtain ⟨p, _, h⟩ := match_exec hs
  obtain ⟨_, e⟩ := Option.ite_none_right_eq_some.1 h; cases e; rfl

theorem step_isExec_stable {c : Cfg} {s s' : State} {a : Act} (hs : step c s a = some s') (w : Nat)
    (h : (s.pc w).isExec = true) : (s'.pc w).isExec = true ∨ a = .execEnd w ∨ a = .respawn := by
  have hm := (step_eff hs).pcMove w
  generalize s.pc w = p at h hm
  generalize s'.pc w = p' at hm
  cases hm with
  | same => exact Or.inl h
  | ended _ e => exact Or.inr (Or.inl e)
  | respawned _ e => exact Or.inr (Or.inr e)
  | _ => cases h

theorem PcMove.to_surrendered {a : Act} {x : Nat} {p p' : PC} (h : PcMove a x p p') (hp : p' = .surrendered) :
    p = .surrendered ∨ (p = .exited ∧ a = .surrender x) := by
  cases h with
  | same => exact Or.inl hp
  | surrendered e => exact Or.inr ⟨rfl, e⟩
  | parked _ _ _ h => rcases h with h | h | h <;> rw [h] at hp <;> cases hp
  | woke _ _ h => rcases h with h | h <;> rw [h] at hp <;> cases hp
  | _ => cases hp

theorem pending_step {c : Cfg} (hn : 0 < c.n) {s s' : State} {a : Act} (hr : Reachable c s) (hP : Pending c s)
    (hs : step c s a = some s') (hnl : ¬ IsLastPark c s (some a)) : Pending c s' := by
  obtain ⟨hreq, hnx, hns⟩ := hP
  obtain ⟨hcur, h1, h2, h3, _⟩ := nonlast_step_frame hn hr hnx hs hnl
  refine ⟨hreq.imp (anyRequested_mono h1 h2 h3) (fun h => hcur.trans h), fun g hg => hnx g (hcur ▸ hg), fun x hx he => ?_⟩
  rcases ((step_eff hs).pcMove x).to_surrendered he with h | ⟨h, _⟩
  · exact hns x hx h
  · exact noExit_not_exited hn hr hnx x hx h

structure LatePred (q : PC → Bool) : Prop where
  polling : ∀ l, q (.polling l) = false
  exec : ∀ p, q (.exec p) = false
  parking : q .parking = false
  waiting : q .waiting = false

theorem step_late_stable {q : PC → Bool} (hq : LatePred q) {c : Cfg} {s s' : State} {a : Act}
    (hs : step c s a = some s') (x : Nat) (h : q (s.pc x) = true) :
    q (s'.pc x) = true ∨ a = .wake x ∨ a = .surrender x ∨ a = .respawn := by
  have hm := (step_eff hs).pcMove x
  generalize s.pc x = p at h hm
  generalize s'.pc x = p' at hm
  cases hm with
  | same => exact Or.inl h
  | woke _ e => exact Or.inr (Or.inl e)
  | surrendered e => exact Or.inr (Or.inr (Or.inl e))
  | respawned _ e => exact Or.inr (Or.inr (Or.inr e))
  | notified => rw [hq.waiting] at h; cases h
  | ended => rw [hq.exec] at h; cases h
  | parked => rw [hq.parking] at h; cases h
  | _ => rw [hq.polling] at h; cases h

def qLate : PC → Bool | .woken | .exited | .surrendered => true | _ => false
theorem late_qLate : LatePred qLate := ⟨fun _ => rfl, fun _ => rfl, rfl, rfl⟩

theorem step_respawn_pre {c : Cfg} {s s' : State} (hr : Reachable c s) (hs : step c s .respawn = some s') :
    s.creation = .surrendered c.n ∧ (∀ x, x < c.n → s.pc x = .surrendered) ∧
    s' = { s with creation := .spawned, pc := fun x => if x < c.n then .polling [] else s.pc x } := by
  cases step_eff hs with
  | respawn hcr => exact ⟨hcr, all_surrendered_of_pool_full (reachable_invA hr) hcr, rfl⟩
  | poll _ _ _ _ h | work _ _ _ h | mutator h => cases h

theorem prepared_step {c : Cfg} {s s' : State} {a : Act} (hk : ∃ k, s.creation = .surrendered k)
    (hs : step c s a = some s') : (∃ k, s'.creation = .surrendered k) ∨ a = .respawn := by
  have keep : ∀ {t : State}, t.creation = s.creation → (∃ k, t.creation = .surrendered k) ∨ a = .respawn :=
    fun e => Or.inl (e ▸ hk)
  cases step_eff hs with
  | poll _ _ _ _ h | work _ _ _ h => exact keep (by rw [h.same])
  | parkLast _ _ s1 r _ _ _ _ _ hl => exact keep (frame_onLastParked hl).creation
  | surrender | surrenderLast => exact Or.inl ⟨_, rfl⟩
  | mutator hM =>
    cases hM with
    | prepareSurrender => exact Or.inl ⟨_, rfl⟩
    | _ => exact keep rfl
  | respawn => exact Or.inr rfl
  | _ => exact keep rfl

theorem creation_prepared_step {c : Cfg} (hn : 0 < c.n) {s s' : State} {a : Act} (hr : Reachable c s)
    (hp : Pending c s) (hs : step c s a = some s') (hk : ∃ k, s.creation = .surrendered k) :
    ∃ k, s'.creation = .surrendered k :=
  (prepared_step hk hs).resolve_right (fun e => hp.2.2 0 hn ((step_respawn_pre hr (e ▸ hs)).2.1 0 hn))

theorem step_woken_stable {c : Cfg} {s s' : State} {a : Act} {x : Nat} (hr : Reachable c s) (hx : x < c.n)
    (hs : step c s a = some s') (h : s.pc x = .woken) : s'.pc x = .woken ∨ a = .wake x := by
  have hm := (step_eff hs).pcMove x
  rw [h] at hm
  generalize s'.pc x = p' at hm
  cases hm with
  | same => exact Or.inl rfl
  | woke _ e => exact Or.inr e
  | respawned _ e =>
    subst e
    have := (step_respawn_pre hr hs).2.1 x hx
    rw [h] at this; cases this

theorem step_wake_exit {c : Cfg} {s s' : State} {x : Nat} (hs : step c s (.wake x) = some s')
    (hg : ∃ g, s.current = some g ∧ g.isExit = true) : s'.pc x = .exited := by
  obtain ⟨g, h1, h2⟩ := hg
  cases step_eff hs with
  | wake _ p _ _ _ hp => rw [setPc_self]; exact hp.exit h1 h2
  | poll _ _ _ _ h | work _ _ _ h | mutator h => cases h

theorem step_surrender_pc {c : Cfg} {s s' : State} {x : Nat} (hs : step c s (.surrender x) = some s') :
    s'.pc x = .surrendered := by
  obtain ⟨k, _, h⟩ := match_surrendered hs
  obtain ⟨_, h⟩ := Option.ite_none_right_eq_some.1 h
  split at h <;> cases h <;> exact setPc_self _ _ _

theorem step_park_last {c : Cfg} {s s' : State} {w tag : Nat} (hs : step c s (.park w tag) = some s')
    (hlast : s.parked + 1 = c.n) :
    ∃ s1 r pcs k, onLastParked c { s with parked := s.parked + 1, trace := [] } tag = some (s1, r) ∧
      Unparked s1 w r pcs k ∧ s' = { s1 with pc := pcs, parked := k } :=
  (step_park_eff hs).2.2.resolve_left (fun h => h.1 hlast) |>.2

theorem step_park_other {c : Cfg} {s s' : State} {w tag x : Nat} (hs : step c s (.park w tag) = some s') (e : x ≠ w) :
    s'.pc x = s.pc x ∨ (s.pc x = .waiting ∧ s'.pc x = .woken) :=
  ((step_eff hs).pcMove x).park.imp_right (·.resolve_right (fun h => e h.1))

theorem step_park_nosurr {c : Cfg} {s s' : State} {w tag : Nat} (hs : step c s (.park w tag) = some s')
    (h : ∀ x, x < c.n → s.pc x ≠ .surrendered) : ∀ x, x < c.n → s'.pc x ≠ .surrendered := by
  intro x hx he
  rcases ((step_eff hs).pcMove x).to_surrendered he with e | ⟨_, e⟩
  · exact h x hx e
  · cases e

/-- every other worker was parked (the parker is the last), so `notify_all` wakes each of them -/
theorem step_park_wakeAll_pcs {c : Cfg} {s s' s1 : State} {w tag : Nat} (hr : Reachable c s)
    (hs : step c s (.park w tag) = some s') (hlast : s.parked + 1 = c.n)
    (hl : onLastParked c { s with parked := s.parked + 1, trace := [] } tag = some (s1, .wakeAll)) :
    (∀ x, x < c.n → x ≠ w → s'.pc x = .woken) ∧ (NoExit s' → s'.pc w = .polling []) ∧
    (∀ g, s'.current = some g → g.isExit = true → s'.pc w = .exited) := by
  obtain ⟨hw, hpcw, _⟩ := step_park_eff hs
  obtain ⟨s1', r, pcs, k, hl', hu, rfl⟩ := step_park_last hs hlast
  rw [hl] at hl'; cases hl'
  cases hu with
  | wakeAll p hp =>
    have f := frame_onLastParked hl
    refine ⟨fun x hx e => ?_, fun hnx => ?_, fun g hg hx => ?_⟩
    · have hp := others_parked_when_last (reachable_invA hr) hw hpcw hlast x hx e
      show (setPc (notifyAll s1) w p).pc x = .woken
      rw [setPc_other _ _ e]
      show (if s1.pc x = .waiting then PC.woken else s1.pc x) = .woken
      rw [f.pc]
      generalize s.pc x = p at hp
      cases p with
      | waiting | woken => rfl
      | _ => cases hp
    · exact (setPc_self _ w p).trans (hp.noExit hnx)
    · exact (setPc_self _ w p).trans (hp.exit hg hx)

theorem step_lastpark_starts_gc {c : Cfg} {s s' : State} {w tag : Nat} (hs : step c s (.park w tag) = some s')
    (hlast : s.parked + 1 = c.n) (hcur : s.current ≠ some .gc) (hreq : s.reqGc = true) :
    s'.current = some .gc ∧ s'.gcDone = s.gcDone ∧ s'.gcStarted = s.gcStarted + 1 := by
  obtain ⟨s1, r, pcs, k, hlp, _, rfl⟩ := step_park_last hs hlast
  rcases onLastParked_cases hlp with ⟨_, hre⟩ | ⟨hc, _⟩
  · rcases (respond_cases hre).2 with ⟨_, rfl, _⟩ | ⟨h, _⟩ | ⟨h, _⟩ | ⟨h, _⟩
    · exact ⟨rfl, rfl, rfl⟩
    all_goals exact absurd (hreq.symm.trans h) (by decide)
  · exact absurd hc hcur

theorem gc_goal_step {c : Cfg} (hn : 0 < c.n) {s s' : State} {a : Act} (hr : Reachable c s) (hP : Pending c s)
    (hc : s.current = some .gc) (hs : step c s a = some s') (hg : s'.gcDone = s.gcDone) :
    s'.current = some .gc ∧ Pending c s' := by
  by_cases hl : IsLastPark c s (some a)
  · obtain ⟨w, tag, e, hlast⟩ := hl
    cases e
    have hc' : s'.current = some .gc := by
      obtain ⟨s1, r, pcs, k, hlp, _, rfl⟩ := step_park_last hs hlast
      exact onLastParked_current c _ s1 tag r hlp hc hg
    exact ⟨hc', Or.inr hc', noExit_of_gc hc', step_park_nosurr hs hP.2.2⟩
  · exact ⟨(nonlast_step_frame hn hr hP.2.1 hs hl).1.trans hc, pending_step hn hr hP hs hl⟩

theorem step_lastpark_gc {c : Cfg} {s s' : State} {w tag : Nat} (hs : step c s (.park w tag) = some s')
    (hlast : s.parked + 1 = c.n) (hc : s.current = some .gc) (hg : s'.gcDone = s.gcDone) :
    ∃ s1, onLastParked c { s with parked := s.parked + 1, trace := [] } tag = some (s1, .wakeAll) ∧
      s'.desig = s.desig ∧
      (∀ k, FlagsMono (s.bkt k) (s'.bkt k)) ∧
      ((∃ x, x < c.n ∧ s.desig x ≠ []) ∨
       (∃ b, b < c.L ∧ (s.bkt b).sentinel ≠ none ∧ (s'.bkt b).sentinel = none) ∨
       (∃ b, b < c.L ∧ (s.bkt b).isOpen = false ∧ (s'.bkt b).isOpen = true)) := by
  obtain ⟨s1, r, pcs, k, hlp, _, rfl⟩ := step_park_last hs hlast
  obtain ⟨rfl, _, hm, h3⟩ := onLastParked_gc_unfinished hlp hc hg
  exact ⟨s1, hlp, (frame_onLastParked hlp).desig, hm, h3.imp_left (fun h => hasDesignated_true h.1)⟩

end Mmtk.Sched
