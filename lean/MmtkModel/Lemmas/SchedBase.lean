import MmtkModel.Lemmas.SchedStep
import MmtkModel.Lemmas.SchedSum
/-!
# Reachable states of the scheduler model and the first invariant

`Reachable.induct` carries an invariant along every run and lets it use the invariants proved before it.  `InvA`
says that the counter `parked` and the count of surrendered worker structs in `creation` agree with the program
counters; it is all that the
conservation theorems (`SchedCount`, `SchedIds`) need of the invariants, which is why it stands apart from
`Lemmas/Sched.lean`.
-/
namespace Mmtk.Sched

theorem exec_some_induct (c : Cfg) (P : State → Prop)
    (hstep : ∀ s s' a, P s → step c s a = some s' → P s')
    (run : List Act) : ∀ s s', P s → exec c s run = some s' → P s' := by
  induction run with
  | nil => intro s s' h e; simp [exec] at e; subst e; exact h
  | cons a as ih =>
    intro s s' h e
    simp only [exec] at e
    split at e
    · rename_i s1 hs; exact ih s1 s' (hstep s s1 a h hs) e
    · cases e

theorem reachable_exec {c : Cfg} (run : List Act) : ∀ {s s' : State}, Reachable c s → exec c s run = some s' →
    Reachable c s' :=
  fun {s s'} hr e => exec_some_induct c (Reachable c) (fun _ _ _ h hs => reachable_step h hs) run s s' hr e

theorem Reachable.induct {c : Cfg} {P : State → Prop} (h0 : P (init c))
    (hstep : ∀ s s' a, Reachable c s → P s → step c s a = some s' → P s') {s : State} (h : Reachable c s) : P s := by
  obtain ⟨run, hr⟩ := h
  exact (exec_some_induct c (fun s => Reachable c s ∧ P s)
    (fun s s' a hh hs => ⟨reachable_step hh.1 hs, hstep s s' a hh.1 hh.2 hs⟩) run _ _ ⟨⟨[], rfl⟩, h0⟩ hr).2

def parkedCount (c : Cfg) (s : State) : Nat := countW c.n (fun x => (s.pc x).isParked)
def surrCount (c : Cfg) (s : State) : Nat := countW c.n (fun x => decide (s.pc x = .surrendered))

theorem parkedCount_setPc (c : Cfg) (s : State) (w : Nat) (p : PC) (hw : w < c.n) :
    parkedCount c (setPc s w p) + (if (s.pc w).isParked then 1 else 0)
      = parkedCount c s + (if p.isParked then 1 else 0) :=
  countW_set c.n PC.isParked s.pc w p hw

theorem surrCount_setPc (c : Cfg) (s : State) (w : Nat) (p : PC) (hw : w < c.n) :
    surrCount c (setPc s w p) + (if s.pc w = .surrendered then 1 else 0)
      = surrCount c s + (if p = .surrendered then 1 else 0) := by
  have := countW_set c.n (fun p => decide (p = PC.surrendered)) s.pc w p hw
  simp only [decide_eq_true_eq] at this
  exact this

theorem parkedCount_congr (c : Cfg) (s s' : State) (h : ∀ x, x < c.n → (s'.pc x).isParked = (s.pc x).isParked) :
    parkedCount c s' = parkedCount c s := countW_congr _ _ _ h

theorem surrCount_congr (c : Cfg) (s s' : State)
    (h : ∀ x, x < c.n → (s'.pc x = .surrendered ↔ s.pc x = .surrendered)) :
    surrCount c s' = surrCount c s := by
  apply countW_congr
  intro x hx
  simp only [decide_eq_decide]
  exact h x hx

structure InvA (c : Cfg) (s : State) : Prop where
  parked_eq : s.parked = parkedCount c s
  pool : ∀ k, s.creation = .surrendered k → k = surrCount c s
  spawned : s.creation = .spawned → surrCount c s = 0

theorem parkedCount_pc (c : Cfg) {s s' : State} (h : s'.pc = s.pc) : parkedCount c s' = parkedCount c s := by
  unfold parkedCount; rw [h]
theorem surrCount_pc (c : Cfg) {s s' : State} (h : s'.pc = s.pc) : surrCount c s' = surrCount c s := by
  unfold surrCount; rw [h]

theorem InvA.of_counts {c : Cfg} {s s' : State} (h : InvA c s)
    (hp : s'.parked + parkedCount c s = s.parked + parkedCount c s') (hs : surrCount c s' = surrCount c s)
    (hc : s'.creation = s.creation) : InvA c s' :=
  ⟨by have := h.parked_eq; omega, fun k hk => by rw [hs]; exact h.pool k (hc ▸ hk),
   fun hk => by rw [hs]; exact h.spawned (hc ▸ hk)⟩

theorem invA_sameClass {c : Cfg} {s s' : State} (h : InvA c s)
    (hk : ∀ x, (s'.pc x).isParked = (s.pc x).isParked ∧ (s'.pc x = .surrendered ↔ s.pc x = .surrendered))
    (hp : s'.parked = s.parked) (hc : s'.creation = s.creation) : InvA c s' :=
  h.of_counts (by rw [hp, parkedCount_congr c s s' (fun x _ => (hk x).1)])
    (surrCount_congr c s s' (fun x _ => (hk x).2)) hc

/-- one lemma for `park`, the last parker's `park` and `wake`: `t` is `s` after the notifications, then `w` alone moves to `p` -/
theorem invA_setPc {c : Cfg} {s t s' : State} {w : Nat} {p : PC} (h : InvA c s) (hw : w < c.n)
    (ht : Notified s t.pc) (hpc : s'.pc = (setPc t w p).pc)
    (hp : s'.parked + (if (s.pc w).isParked then 1 else 0) = s.parked + (if p.isParked then 1 else 0))
    (h1 : s.pc w ≠ .surrendered) (h2 : p ≠ .surrendered) (hc : s'.creation = s.creation) : InvA c s' := by
  have hk : ∀ x, (t.pc x).isParked = (s.pc x).isParked ∧ (t.pc x = .surrendered ↔ s.pc x = .surrendered) := by
    intro x
    rcases ht x with e | ⟨e1, e2⟩
    · rw [e]; exact ⟨rfl, Iff.rfl⟩
    · rw [e1, e2]; exact ⟨rfl, ⟨nofun, nofun⟩⟩
  have e1 := parkedCount_setPc c t w p hw
  have e2 := surrCount_setPc c t w p hw
  rw [(hk w).1, parkedCount_congr c s t (fun x _ => (hk x).1)] at e1
  rw [if_neg (fun e => h1 ((hk w).2.1 e)), if_neg h2, surrCount_congr c s t (fun x _ => (hk x).2)] at e2
  exact h.of_counts (by rw [parkedCount_pc c hpc]; omega) (by rw [surrCount_pc c hpc]; omega) hc

theorem invA_surrender {c : Cfg} {s s' : State} {w k : Nat} (h : InvA c s) (hw : w < c.n) (hpc : s.pc w = .exited)
    (hcr : s.creation = .surrendered k) (hp : s'.pc = (setPc s w .surrendered).pc) (hpk : s'.parked = s.parked)
    (hc : s'.creation = .surrendered (k + 1)) : InvA c s' := by
  have q1 := parkedCount_setPc c s w .surrendered hw
  have q2 := surrCount_setPc c s w .surrendered hw
  rw [hpc] at q1 q2
  have e1 : parkedCount c s' = parkedCount c s := by rw [parkedCount_pc c hp]; simpa [PC.isParked] using q1
  have e2 : surrCount c s' = surrCount c s + 1 := by rw [surrCount_pc c hp]; simpa using q2
  exact ⟨by rw [hpk, e1]; exact h.parked_eq, fun k' hk' => by rw [hc] at hk'; cases hk'; rw [e2, ← h.pool k hcr],
    fun hk => by rw [hc] at hk; cases hk⟩

theorem all_surrendered_of_pool_full {c : Cfg} {s : State} (hA : InvA c s) (hcr : s.creation = .surrendered c.n)
    (x : Nat) (hx : x < c.n) : s.pc x = .surrendered := by
  have := (countW_eq_iff c.n _).mp (hA.pool c.n hcr).symm x hx
  simpa using this

theorem step_invA (c : Cfg) (s s' : State) (a : Act) (h : InvA c s) (hs : step c s a = some s') : InvA c s' := by
  have he := step_eff hs
  have same : a.changesClass = false → s'.parked = s.parked → s'.creation = s.creation → InvA c s' :=
    fun ha => invA_sameClass h (fun x => ⟨(he.sameClass ha x).1, (he.sameClass ha x).2.2⟩)
  cases he with
  | poll w seen _ _ hP => exact same hP.keepsClass (by rw [hP.same]) (by rw [hP.same])
  | work w _ _ hW => exact same hW.keepsClass (by rw [hW.same]) (by rw [hW.same])
  | bucketNotifyOne | mutNotifyOne | makeRequest | bucketNotifyAll | wakeAll | execEnd | spurious => exact same rfl rfl rfl
  | mutator hM =>
    have hp : s'.parked = s.parked := by rw [hM.same]
    rcases hM.creation with hc | ⟨h0, h1⟩
    · exact same hM.keepsClass hp hc
    · exact ⟨by rw [hp, parkedCount_pc c hM.pc]; exact h.parked_eq,
        fun k hk => by rw [h1] at hk; cases hk; rw [surrCount_pc c hM.pc, h.spawned h0],
        fun hk => by rw [h1] at hk; cases hk⟩
  | park w tag hw hpc =>
    exact invA_setPc (t := { s with parked := s.parked + 1, trace := [] }) h hw (.refl s) rfl
      (by rw [hpc]; rfl) (by rw [hpc]; nofun) nofun rfl
  | parkLast w tag s1 r pcs k hw hpc _ hl hu =>
    have f := frame_onLastParked hl
    have hp1 : s1.parked = s.parked + 1 := f.parked
    rcases hu.cases with ⟨_, rfl, rfl⟩ | ⟨_, t, p, ht, hp, rfl, rfl⟩
    · exact invA_setPc (t := s1) h hw ((Notified.refl s1).of_pc f.pc) rfl (by rw [hpc]; exact hp1) (by rw [hpc]; nofun)
        nofun f.creation
    · have hpp : p.isParked = false ∧ p ≠ .surrendered := by
        rcases hp.pc with rfl | rfl <;> exact ⟨rfl, nofun⟩
      exact invA_setPc (t := { s1 with pc := t }) h hw (ht.of_pc f.pc) rfl
        (by rw [hpc, hpp.1]; show s1.parked - 1 + 0 = s.parked + 0; omega) (by rw [hpc]; nofun) hpp.2 f.creation
  | wake w p hw hpc hpos hp =>
    have hpp : p.isParked = false ∧ p ≠ .surrendered := by
      rcases hp.pc with rfl | rfl <;> exact ⟨rfl, nofun⟩
    exact invA_setPc (t := { s with parked := s.parked - 1 }) h hw (.refl s) rfl
      (by rw [hpc, hpp.1]; show s.parked - 1 + 1 = s.parked + 0; omega) (by rw [hpc]; nofun) hpp.2 rfl
  | surrender _ _ hcr hw hpc | surrenderLast _ _ hcr hw hpc => exact invA_surrender h hw hpc hcr rfl rfl rfl
  | respawn hcr =>
    have hz : parkedCount c s = 0 := by
      apply countW_zero; intro x hx
      rw [all_surrendered_of_pool_full h hcr x hx]; rfl
    refine ⟨?_, nofun, fun _ => ?_⟩
    · show s.parked = _
      rw [h.parked_eq, hz]; symm
      apply countW_zero; intro x hx; simp [hx]; rfl
    · apply countW_zero; intro x hx; simp [hx]

theorem init_invA (c : Cfg) : InvA c (init c) := by
  refine ⟨?_, fun k hk => by simp [init] at hk, fun _ => ?_⟩
  · show 0 = _; symm; apply countW_zero; intro x _; rfl
  · apply countW_zero; intro x _; simp [init]

theorem reachable_invA {c : Cfg} {s : State} (h : Reachable c s) : InvA c s :=
  h.induct (init_invA c) (fun s s' a _ hi hs => step_invA c s s' a hi hs)

end Mmtk.Sched
