import MmtkModel.Lemmas.SchedLiveRun
/-!
# Fair runs from finite runs (for the examples that show the liveness hypotheses satisfiable)

A finite run that ends with every worker waiting, continued by stuttering, is a fair run: no action of a fairness class
is enabled when all workers wait, because each such action is made by a worker that does not wait.  `finite_run_fair`
packs this with the other hypotheses of the liveness theorems (`FiniteSpawn`, `FiniteEnv`, `NoAssert`) so that one
evaluation of the checker `runAll` on a concrete run yields all of them.
-/
namespace Mmtk.Sched

/-- the states of the run `l` from `s`; once `l` is used up (or its next action is not enabled) the state repeats -/
def runStates (c : Cfg) : State → List Act → Nat → State
  | s, [], _ => s
  | s, _ :: _, 0 => s
  | s, a :: as, k+1 =>
    match step c s a with
    | some s' => runStates c s' as k
    | none => s

theorem runStates_zero (c : Cfg) (s : State) (l : List Act) : runStates c s l 0 = s := by
  cases l <;> rfl

theorem runStates_spec (c : Cfg) : ∀ (l : List Act) (s sf : State), exec c s l = some sf →
    (∀ k, StepOf c (runStates c s l k) (runStates c s l (k+1)) (l[k]?)) ∧
    (∀ k, l.length ≤ k → runStates c s l k = sf) := by
  intro l
  induction l with
  | nil =>
    intro s sf h
    simp only [exec] at h; injection h with h; subst h
    exact ⟨fun k => by simp [runStates, StepOf], fun k _ => rfl⟩
  | cons a as ih =>
    intro s sf h
    simp only [exec] at h
    cases hs : step c s a with
    | none => rw [hs] at h; cases h
    | some s1 =>
      rw [hs] at h
      obtain ⟨i1, i2⟩ := ih s1 sf h
      have e : ∀ k, runStates c s (a :: as) (k+1) = runStates c s1 as k := fun k => by simp only [runStates, hs]
      refine ⟨fun k => ?_, fun k hk => ?_⟩
      · cases k with
        | zero =>
          show step c s a = some (runStates c s (a :: as) 1)
          rw [e, runStates_zero]; exact hs
        | succ k => rw [e, e]; exact i1 k
      · cases k with
        | zero => cases hk
        | succ k => rw [e]; exact i2 k (Nat.le_of_succ_le_succ hk)

theorem Eff.actor {c : Cfg} {s s' : State} {a : Act} (h : Eff c s a s') :
    a.isEnv = true ∨ ∃ w, w < c.n ∧ s.pc w ≠ .waiting := by
  have running : ∀ {w}, w < c.n → (s.pc w).isExec = true → a.isEnv = true ∨ ∃ w, w < c.n ∧ s.pc w ≠ .waiting :=
    fun hw hx => Or.inr ⟨_, hw, fun e => by rw [e] at hx; cases hx⟩
  have at_ : ∀ {w p}, w < c.n → s.pc w = p → p ≠ .waiting → a.isEnv = true ∨ ∃ w, w < c.n ∧ s.pc w ≠ .waiting :=
    fun hw hp hne => Or.inr ⟨_, hw, fun e => hne (hp.symm.trans e)⟩
  cases h with
  | work _ hw hx | bucketNotifyOne _ _ _ _ hw hx | bucketNotifyAll _ _ hw hx | wakeAll _ hw hx => exact running hw hx
  | poll _ _ hw hpc | execEnd _ _ hw hpc | park _ _ hw hpc | parkLast _ _ _ _ _ _ hw hpc | wake _ _ hw hpc
  | surrender _ _ _ hw hpc | surrenderLast _ _ _ hw hpc => exact at_ hw hpc (fun e => by cases e)
  | mutator hM => cases hM <;> exact Or.inl rfl
  | _ => exact Or.inl rfl

theorem FairAct.not_env {f : FairAct} {a : Act} (h : f.mem a) : a.isEnv = false := by
  cases f with
  | take w => rcases h with ⟨_, _, rfl⟩ | ⟨_, rfl⟩ | ⟨_, rfl⟩ | ⟨_, _, rfl⟩ <;> rfl
  | park w => obtain ⟨_, rfl⟩ := h; rfl
  | _ => cases h; rfl

theorem not_enabled_all_waiting {c : Cfg} {s : State} (h : ∀ w, w < c.n → s.pc w = .waiting) (f : FairAct) :
    ¬ Enabled c s f := by
  intro ⟨a, hm, he⟩
  obtain ⟨s', hs⟩ := Option.isSome_iff_exists.1 he
  rcases (step_eff hs).actor with e | ⟨w, hw, hne⟩
  · rw [FairAct.not_env hm] at e; cases e
  · exact hne (h w hw)

theorem fairRun_of_finite {c : Cfg} {s0 sf : State} {l : List Act} (hr : Reachable c s0) (he : exec c s0 l = some sf)
    (hw : ∀ w, w < c.n → sf.pc w = .waiting) : FairRun c (runStates c s0 l) (fun k => l[k]?) where
  start := by rw [runStates_zero]; exact hr
  next := (runStates_spec c l s0 sf he).1
  fair := fun f k => ⟨max k l.length, by omega, Or.inr (by
    rw [(runStates_spec c l s0 sf he).2 _ (by omega)]; exact not_enabled_all_waiting hw f)⟩

theorem reachable_getD {c : Cfg} {l : List Act} (h : (exec c (init c) l).isSome = true) :
    Reachable c ((exec c (init c) l).getD (init c)) := by
  cases e : exec c (init c) l with
  | none => rw [e] at h; cases h
  | some x => exact ⟨l, e⟩

def runAll (c : Cfg) (p q : State → Bool) : State → List Act → Bool
  | s, [] => p s && q s
  | s, a :: as => p s && match step c s a with
    | some s' => runAll c p q s' as
    | none => false

theorem runAll_spec {c : Cfg} {p q : State → Bool} : ∀ (l : List Act) (s : State), runAll c p q s l = true →
    ∃ sf, exec c s l = some sf ∧ q sf = true ∧ ∀ j, p (runStates c s l j) = true := by
  intro l
  induction l with
  | nil => intro s h; exact ⟨s, rfl, (Bool.and_eq_true_iff.1 h).2, fun _ => (Bool.and_eq_true_iff.1 h).1⟩
  | cons a as ih =>
    intro s h
    obtain ⟨hp, h⟩ := Bool.and_eq_true_iff.1 h
    cases hs : step c s a with
    | none => rw [hs] at h; cases h
    | some s' =>
      rw [hs] at h
      obtain ⟨sf, he, hq, hall⟩ := ih s' h
      refine ⟨sf, by simp only [exec, hs]; exact he, hq, fun j => ?_⟩
      cases j with
      | zero => exact hp
      | succ j => simp only [runStates, hs]; exact hall j

/-- `NoAssert` in one state, as a test (tag 0 will do) -/
def noAssertB (c : Cfg) (s : State) : Bool :=
  (List.range c.n).all fun w => s.pc w != .parking || (step c s (.park w 0)).isSome

theorem finite_run_fair {c : Cfg} {s0 : State} {l : List Act} (hr : Reachable c s0) (N : Nat) (p : State → Bool)
    (h : runAll c (fun s => decide (s.added ≤ N) && noAssertB c s && p s)
      (fun s => (List.range c.n).all fun w => s.pc w == .waiting) s0 l = true) :
    FairRun c (runStates c s0 l) (fun k => l[k]?) ∧ FiniteSpawn (runStates c s0 l) ∧ FiniteEnv (fun k => l[k]?) ∧
    NoAssert c (runStates c s0 l) ∧ ∀ j, p (runStates c s0 l j) = true := by
  obtain ⟨sf, he, hq, hall⟩ := runAll_spec l s0 h
  have hall' : ∀ j, ((runStates c s0 l j).added ≤ N ∧ noAssertB c (runStates c s0 l j) = true) ∧
      p (runStates c s0 l j) = true := fun j => by simpa using hall j
  refine ⟨fairRun_of_finite hr he (fun w hw => ?_), ⟨N, fun j => (hall' j).1.1⟩, ⟨l.length, fun j a hj ha => ?_⟩,
    fun j w hw hp => ⟨0, ?_⟩, fun j => (hall' j).2⟩
  · simpa using List.all_eq_true.1 hq w (List.mem_range.2 hw)
  · have ha' : l[j]? = some a := ha
    rw [List.getElem?_eq_none hj] at ha'; cases ha'
  · have := List.all_eq_true.1 (hall' j).1.2 w (List.mem_range.2 hw)
    simpa [hp] using this

end Mmtk.Sched
