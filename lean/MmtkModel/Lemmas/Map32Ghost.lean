import MmtkModel.Model.Map32
import MmtkModel.Lemmas.ListAux
/-!
# Ghost state of C29 (the oracle's bookkeeping) and list lemmas about it

`G` = what the statement of C29 talks about and what the Python oracle of `checks/C29.py` keeps:
the regions handed out and not yet freed (`start`, `size`, owner descriptor) and the region lists (the
starts of the regions chained together, head first).  A list is identified by its head, not by a
descriptor: two lists may carry the same descriptor.  `Linked st p l` = the `prev`/`next` tables of `st` link the
chunks of `l` exactly in this order (`p` = what `prev` of the first element must be; `0` = none).
-/
namespace Mmtk.Map32

structure Reg where
  start : Nat
  size : Nat
  desc : Nat
deriving Repr, DecidableEq

structure G where
  regions : List Reg := []
  lists : List (List Nat) := []
deriving Repr

def Reg.Disj (a b : Reg) : Prop := a.start + a.size ≤ b.start ∨ b.start + b.size ≤ a.start

theorem Reg.Disj.symm {a b : Reg} (h : Reg.Disj a b) : Reg.Disj b a := Or.symm h

theorem Reg.eq_or_disj {l : List Reg} (h : l.Pairwise Reg.Disj) {a b : Reg} (ha : a ∈ l) (hb : b ∈ l) :
    a = b ∨ Reg.Disj a b := by
  by_cases e : a = b
  · exact Or.inl e
  · exact Or.inr (ListAux.pw_mem (fun _ _ => Reg.Disj.symm) h ha hb e)

theorem Reg.Disj.not_mem {a b : Reg} (h : Reg.Disj a b) {x : Nat} (h1 : a.start ≤ x)
    (h2 : x < a.start + a.size) : ¬ (b.start ≤ x ∧ x < b.start + b.size) := by
  unfold Reg.Disj at h; omega

theorem Reg.Disj.start_ne {a b : Reg} (h : Reg.Disj a b) (ha : 0 < a.size) (hb : 0 < b.size) :
    a.start ≠ b.start := by
  unfold Reg.Disj at h; omega

theorem Reg.disj_of_outside {r : Reg} {c s k d : Nat} (h : r.start + r.size ≤ c ∨ c + s ≤ r.start)
    (hks : k ≤ s) : Reg.Disj ⟨c, k, d⟩ r := by
  unfold Reg.Disj; dsimp only; omega

def regSum : List Reg → Nat
  | [] => 0
  | r :: rs => r.size + regSum rs

/-- `c` goes in front of the first list whose head is `head`; if no list has that head, `[c]` is a new list
(also for a non-zero `head` that heads no list, where the code would link `next[c] = head`: the protocol
`Pre` of C29 excludes that call). -/
def pushList (c head : Nat) : List (List Nat) → List (List Nat)
  | [] => [[c]]
  | l :: ls => if l.head? = some head then (c :: l) :: ls else l :: pushList c head ls

/-- `allocate_contiguous_chunks` returned `c` for `(d, k, head)`: the oracle's update
(`regions[c] = (k, d)`, `c` pushed on the list headed by `head`); `c = 0` (exhausted) changes nothing. -/
def G.alloc (g : G) (d k head c : Nat) : G :=
  if c = 0 then g else { regions := ⟨c, k, d⟩ :: g.regions, lists := pushList c head g.lists }

theorem G.alloc_zero (g : G) (d k head : Nat) : g.alloc d k head 0 = g := if_pos rfl

theorem G.alloc_of_ne_zero (g : G) (d k head : Nat) {c : Nat} (hc : c ≠ 0) :
    g.alloc d k head c = { regions := ⟨c, k, d⟩ :: g.regions, lists := pushList c head g.lists } :=
  if_neg hc

def G.freeSet (g : G) (S : List Nat) : G :=
  { regions := g.regions.filter (fun r => !S.contains r.start),
    lists := g.lists.map (fun l => l.filter (fun x => !S.contains x)) }

/-- `free_contiguous_chunks(c)`: `del regions[c]`, remove `c` from its list. -/
def G.free (g : G) (c : Nat) : G := g.freeSet [c]

/-- `free_all_chunks(c)`: every region of the list that contains `c` is freed. -/
def G.freeAll (g : G) (c : Nat) : G := g.freeSet ((g.lists.find? (fun l => l.contains c)).getD [])

def Linked (st : St) : Nat → List Nat → Prop
  | _, [] => True
  | p, a :: t => st.prev a = p ∧ st.next a = t.headD 0 ∧ Linked st a t

theorem filter_ne_of_not_mem {l : List Nat} {c : Nat} (h : c ∉ l) : l.filter (· != c) = l := by
  rw [List.filter_eq_self]; intro x hx; simp only [bne_iff_ne, ne_eq]; rintro rfl; exact h hx

theorem filter_ne_cons_self (a : Nat) (t : List Nat) : (a :: t).filter (· != a) = t.filter (· != a) :=
  List.filter_cons_of_neg (by simp)

theorem filter_ne_cons_of_ne {a b : Nat} (h : b ≠ a) (t : List Nat) :
    (b :: t).filter (· != a) = b :: t.filter (· != a) :=
  List.filter_cons_of_pos (by simpa using h)

theorem filter_ne_of_nodup {xs ys : List Nat} {b : Nat} (h : (xs ++ b :: ys).Nodup) :
    (xs ++ b :: ys).filter (· != b) = xs ++ ys := by
  rw [List.nodup_append] at h
  have hx := filter_ne_of_not_mem fun m => h.2.2 b m b (List.mem_cons_self ..) rfl
  have hy := filter_ne_of_not_mem (List.nodup_cons.1 h.2.1).1
  rw [List.filter_append, filter_ne_cons_self, hx, hy]

theorem regSum_filter_add (p : Reg → Bool) (l : List Reg) :
    regSum l = regSum (l.filter p) + regSum (l.filter (fun x => !p x)) := by
  induction l with
  | nil => rfl
  | cons r t ih =>
    by_cases hp : p r = true
    · simp only [List.filter_cons, hp, if_true, Bool.not_true, Bool.false_eq_true, if_false, regSum]; omega
    · have hp' : p r = false := by simpa using hp
      simp only [List.filter_cons, hp', Bool.false_eq_true, if_false, Bool.not_false, if_true, regSum]; omega

/-- Split around the first region `r`: the others lie to its left or to its right. -/
theorem regSum_le : ∀ (l : List Reg) {lo hi : Nat}, l.Pairwise Reg.Disj →
    (∀ r ∈ l, lo ≤ r.start ∧ r.start + r.size ≤ hi) → regSum l ≤ hi - lo
  | [], _, _, _, _ => Nat.zero_le _
  | r :: t, lo, hi, hp, hin => by
    rw [List.pairwise_cons] at hp
    have hr := hin r (List.mem_cons_self ..)
    let p : Reg → Bool := fun x => decide (x.start + x.size ≤ r.start)
    have hL := regSum_le (t.filter p) (lo := lo) (hi := r.start) (hp.2.filter _) (by
      intro x hx
      rw [List.mem_filter] at hx
      exact ⟨(hin x (List.mem_cons_of_mem _ hx.1)).1, of_decide_eq_true hx.2⟩)
    have hR := regSum_le (t.filter (fun x => !p x)) (lo := r.start + r.size) (hi := hi) (hp.2.filter _) (by
      intro x hx
      rw [List.mem_filter] at hx
      have h2 : ¬ x.start + x.size ≤ r.start := of_decide_eq_false (Bool.not_eq_true' _ ▸ hx.2)
      exact ⟨(hp.1 x hx.1).resolve_right h2, (hin x (List.mem_cons_of_mem _ hx.1)).2⟩)
    have hT := regSum_filter_add p t
    show r.size + regSum t ≤ hi - lo
    omega
termination_by l => l.length
decreasing_by
  all_goals exact Nat.lt_succ_of_le (List.length_filter_le ..)

theorem regSum_remove {l : List Reg} {r : Reg} : l.Pairwise Reg.Disj → (∀ x ∈ l, 0 < x.size) → r ∈ l →
    regSum l = r.size + regSum (l.filter (fun x => x.start != r.start)) := by
  induction l with
  | nil => exact fun _ _ hr => by cases hr
  | cons a t ih =>
    intro hp hpos hr
    rw [List.pairwise_cons] at hp
    rcases List.mem_cons.1 hr with rfl | hr'
    · -- no other region starts at `r.start`
      have hnone : t.filter (fun x => x.start != r.start) = t := by
        rw [List.filter_eq_self]
        intro x hx
        have := hp.1 x hx
        have h1 := hpos x (List.mem_cons_of_mem _ hx)
        have h2 := hpos r (List.mem_cons_self ..)
        unfold Reg.Disj at this
        simp only [bne_iff_ne, ne_eq]
        omega
      simp only [List.filter_cons, bne_self_eq_false, Bool.false_eq_true, if_false, hnone, regSum]
    · have hne : a.start ≠ r.start := by
        have := hp.1 r hr'
        have h1 := hpos r (List.mem_cons_of_mem _ hr')
        have h2 := hpos a (List.mem_cons_self ..)
        unfold Reg.Disj at this
        omega
      have ih := ih hp.2 (fun x hx => hpos x (List.mem_cons_of_mem _ hx)) hr'
      have hb : (a.start != r.start) = true := by simpa using hne
      simp only [List.filter_cons, hb, if_true, regSum]
      omega

theorem Linked.frame {st st' : St} {l : List Nat} : ∀ {p : Nat},
    (∀ a ∈ l, st'.next a = st.next a ∧ st'.prev a = st.prev a) → Linked st p l → Linked st' p l := by
  induction l with
  | nil => exact fun _ _ => trivial
  | cons a t ih =>
    intro p hf h
    have ha := hf a (List.mem_cons_self ..)
    exact ⟨ha.2 ▸ h.1, ha.1 ▸ h.2.1, ih (fun x hx => hf x (List.mem_cons_of_mem _ hx)) h.2.2⟩

theorem Linked.neighbours_mem {st : St} {l : List Nat} {c : Nat} : ∀ {p : Nat}, Linked st p l → c ∈ l →
    (st.next c = 0 ∨ st.next c ∈ l) ∧ (st.prev c = p ∨ st.prev c ∈ l) := by
  induction l with
  | nil => exact fun _ hc => by cases hc
  | cons a t ih =>
    intro p h hc
    rcases List.mem_cons.1 hc with rfl | hc'
    · refine ⟨?_, Or.inl h.1⟩
      cases t with
      | nil => exact Or.inl h.2.1
      | cons b t' => exact Or.inr (by rw [h.2.1]; simp)
    · have ih := ih h.2.2 hc'
      exact ⟨ih.1.imp_right (List.mem_cons_of_mem _),
        Or.inr (ih.2.elim (fun e => e ▸ List.mem_cons_self ..) (List.mem_cons_of_mem _))⟩

theorem Linked.suffix {st : St} : ∀ {l1 l2 : List Nat} {p : Nat}, Linked st p (l1 ++ l2) →
    Linked st (l1.getLast?.getD p) l2 := by
  intro l1 l2
  induction l1 with
  | nil => exact fun h => h
  | cons a t ih =>
    intro p h
    rw [List.getLast?_cons]; exact ih h.2.2

/-- The link updates of `free_contiguous_chunks_no_lock(c)`: the four conjuncts of `freeNoLock_unlinks` (C29)
as a structure, which is all `Linked.splice` needs to know of the operation. -/
structure Unlinks (st st' : St) (c : Nat) : Prop where
  next_c : st'.next c = 0
  prev_c : st'.prev c = 0
  prev_o : ∀ x, x ≠ c → st'.prev x = if st.next c ≠ 0 ∧ x = st.next c then st.prev c else st.prev x
  next_o : ∀ x, x ≠ c → st'.next x = if st.prev c ≠ 0 ∧ x = st.prev c then st.next c else st.next x

/-- Unlinking a member `c` of a linked list leaves the list without `c` linked.  `0 ∉ l` and `p ∉ l` make the
guards `… ≠ 0 ∧ x = …` of `Unlinks` a matter of the position in the list alone. -/
theorem Linked.splice {st st' : St} {c : Nat} (hu : Unlinks st st' c) : ∀ {l : List Nat} {p : Nat},
    Linked st p l → l.Nodup → 0 ∉ l → p ∉ l → c ∈ l → Linked st' p (l.filter (· != c)) := by
  intro l
  induction l with
  | nil => exact fun _ _ _ _ hc => by cases hc
  | cons a t ih =>
    intro p h hnd h0 hp hc
    rw [List.nodup_cons] at hnd
    have h0a : a ≠ 0 := fun e => h0 (e ▸ List.mem_cons_self ..)
    have h0t : 0 ∉ t := fun m => h0 (List.mem_cons_of_mem _ m)
    have hpt : p ∉ t := fun m => hp (List.mem_cons_of_mem _ m)
    by_cases hac : a = c
    · -- the head is unlinked
      subst hac
      rw [filter_ne_cons_self, filter_ne_of_not_mem hnd.1]
      cases t with
      | nil => trivial
      | cons b t' =>
        have hb : st.next a = b := h.2.1
        have hba : b ≠ a := fun e => hnd.1 (e ▸ List.mem_cons_self ..)
        have hb0 : b ≠ 0 := fun e => h0t (e ▸ List.mem_cons_self ..)
        have hbp : b ≠ p := fun e => hpt (e ▸ List.mem_cons_self ..)
        have hnd' := List.nodup_cons.1 hnd.2
        refine ⟨?_, ?_, ?_⟩
        · rw [hu.prev_o b hba, hb]; simp [hb0, h.1]
        · rw [hu.next_o b hba, h.1]; simp [hbp, h.2.2.2.1]
        · refine Linked.frame ?_ h.2.2.2.2
          intro x hx
          have hxa : x ≠ a := fun e => hnd.1 (e ▸ List.mem_cons_of_mem _ hx)
          have hxb : x ≠ b := fun e => hnd'.1 (e ▸ hx)
          have hxp : x ≠ p := fun e => hpt (e ▸ List.mem_cons_of_mem _ hx)
          rw [hu.next_o x hxa, hu.prev_o x hxa, hb, h.1]
          simp [hxb, hxp]
    · have hct : c ∈ t := (List.mem_cons.1 hc).resolve_left (Ne.symm hac)
      have hmem := Linked.neighbours_mem h.2.2 hct
      rw [filter_ne_cons_of_ne hac]
      have ih := ih h.2.2 hnd.2 h0t hnd.1 hct
      refine ⟨?_, ?_, ih⟩
      · -- `prev a`: `a` is not `next c`
        rw [hu.prev_o a hac]
        have : ¬ (st.next c ≠ 0 ∧ a = st.next c) := by
          rintro ⟨_, e⟩
          rcases hmem.1 with z | m
          · exact h0a (e.trans z)
          · exact hnd.1 (e ▸ m)
        rw [if_neg this]; exact h.1
      · rw [hu.next_o a hac]
        cases t with
        | nil => cases hct
        | cons b t' =>
          have hnd' := List.nodup_cons.1 hnd.2
          by_cases hbc : b = c
          · -- `c` is right after `a`
            subst hbc
            have hpc : st.prev b = a := h.2.2.1
            rw [filter_ne_cons_self, filter_ne_of_not_mem hnd'.1]
            rw [hpc]; simp [h0a, h.2.2.2.1]
          · rw [filter_ne_cons_of_ne hbc, List.headD_cons]
            have : ¬ (st.prev c ≠ 0 ∧ a = st.prev c) := by
              rintro ⟨_, e⟩
              have hct' : c ∈ t' := (List.mem_cons.1 hct).resolve_left (Ne.symm hbc)
              have := (Linked.neighbours_mem h.2.2.2.2 hct').2
              rcases this with e2 | m
              · -- prev c = b, but a ≠ b
                exact hnd.1 (by rw [e, e2]; exact List.mem_cons_self ..)
              · exact hnd.1 (by rw [e]; exact List.mem_cons_of_mem _ m)
            rw [if_neg this]; simpa using h.2.1

theorem pushList_perm (c head : Nat) (L : List (List Nat)) : (pushList c head L).flatten.Perm (c :: L.flatten) := by
  induction L with
  | nil => simp [pushList]
  | cons l ls ih =>
    unfold pushList
    split
    · simp
    · simp only [List.flatten_cons]
      exact (ih.append_left l).trans List.perm_middle

theorem mem_flatten_pushList {c head : Nat} {L : List (List Nat)} {x : Nat} :
    x ∈ (pushList c head L).flatten ↔ x = c ∨ x ∈ L.flatten := by
  rw [(pushList_perm c head L).mem_iff, List.mem_cons]

theorem nodup_flatten_pushList {c head : Nat} {L : List (List Nat)} (hnd : L.flatten.Nodup)
    (hc : c ∉ L.flatten) : (pushList c head L).flatten.Nodup := by
  rw [(pushList_perm c head L).nodup_iff, List.nodup_cons]; exact ⟨hc, hnd⟩

theorem pushList_nohead {c head : Nat} {L : List (List Nat)} (h : ∀ l ∈ L, l.head? ≠ some head) :
    pushList c head L = L ++ [[c]] := by
  induction L with
  | nil => rfl
  | cons l ls ih =>
    unfold pushList
    rw [if_neg (h l (List.mem_cons_self ..)), ih (fun x hx => h x (List.mem_cons_of_mem _ hx))]
    rfl

theorem nodup_of_mem_flatten {L : List (List Nat)} (h : L.flatten.Nodup) {l : List Nat} (hl : l ∈ L) :
    l.Nodup := by
  rw [List.Nodup, List.pairwise_flatten] at h
  exact h.1 l hl

theorem disjoint_of_nodup_flatten {L : List (List Nat)} (h : L.flatten.Nodup) {l1 l2 : List Nat}
    (h1 : l1 ∈ L) (h2 : l2 ∈ L) (hne : l1 ≠ l2) {x : Nat} (hx1 : x ∈ l1) (hx2 : x ∈ l2) : False := by
  rw [List.Nodup, List.pairwise_flatten] at h
  exact ListAux.pw_mem (R := fun l₁ l₂ : List Nat => ∀ x ∈ l₁, ∀ y ∈ l₂, x ≠ y)
    (fun a b hab x hx y hy e => hab y hy x hx e.symm) h.2 h1 h2 hne x hx1 x hx2 rfl

theorem mem_pushList_of_head {c head : Nat} {l' : List Nat} {L : List (List Nat)} {l0 : List Nat} :
    L.flatten.Nodup → l0 ∈ L → l0.head? = some head →
    (l' ∈ pushList c head L ↔ l' = c :: l0 ∨ (l' ∈ L ∧ l' ≠ l0)) := by
  induction L with
  | nil => exact fun _ h _ => by cases h
  | cons l ls ih =>
    intro hnd hl0 hh0
    rw [List.flatten_cons, List.nodup_append] at hnd
    unfold pushList
    by_cases hh : l.head? = some head
    · -- `l0 = l`: both contain `head`
      have hnot : l0 ∉ ls := fun m => hnd.2.2 head (List.mem_of_mem_head? hh) head
        (List.mem_flatten.2 ⟨l0, m, List.mem_of_mem_head? hh0⟩) rfl
      obtain rfl : l0 = l := (List.mem_cons.1 hl0).resolve_right hnot
      rw [if_pos hh, List.mem_cons, List.mem_cons]
      exact or_congr_right ⟨fun m => ⟨Or.inr m, fun e => hnot (e ▸ m)⟩, fun ⟨m, hne⟩ => m.resolve_left hne⟩
    · have hne0 : l ≠ l0 := fun e => hh (e ▸ hh0)
      have hl0' : l0 ∈ ls := (List.mem_cons.1 hl0).resolve_left (Ne.symm hne0)
      rw [if_neg hh, List.mem_cons, List.mem_cons, ih hnd.2.1 hl0' hh0]
      constructor
      · rintro (e | e | ⟨m, hne⟩)
        · exact Or.inr ⟨Or.inl e, e ▸ hne0⟩
        · exact Or.inl e
        · exact Or.inr ⟨Or.inr m, hne⟩
      · rintro (e | ⟨e | m, hne⟩)
        · exact Or.inr (Or.inl e)
        · exact Or.inl e
        · exact Or.inr (Or.inr ⟨m, hne⟩)

theorem linked_pushList {st st' : St} {c head : Nat}
    (hn : st'.next = upd st.next c head) (hp : st'.prev = upd st.prev head c) (hpc : st.prev c = 0)
    {L : List (List Nat)} (hnd : L.flatten.Nodup) (hc : c ∉ L.flatten) (hlk : ∀ l ∈ L, Linked st 0 l)
    {l0 : List Nat} (hl0 : l0 ∈ L) (hh : l0.head? = some head) :
    ∀ l' ∈ pushList c head L, Linked st' 0 l' := by
  -- only the links of `c` and `head` change
  have frame : ∀ l : List Nat, (∀ x ∈ l, x ≠ c ∧ x ≠ head) → ∀ q, Linked st q l → Linked st' q l := by
    intro l h0 q hq
    refine Linked.frame ?_ hq
    intro a ha
    obtain ⟨h1, h2⟩ := h0 a ha
    rw [hn, hp]; simp [upd, h1, h2]
  have hcL : ∀ l ∈ L, ∀ x ∈ l, x ≠ c := fun l hl x hx e => hc (List.mem_flatten.2 ⟨l, hl, e ▸ hx⟩)
  intro l' hl'
  rcases (mem_pushList_of_head hnd hl0 hh).1 hl' with rfl | ⟨hl, hne⟩
  · cases l0 with
    | nil => cases hh
    | cons b t =>
      cases hh
      have hlb := hlk _ hl0
      have hbc : head ≠ c := hcL _ hl0 head (List.mem_cons_self ..)
      have hndl := List.nodup_cons.1 (nodup_of_mem_flatten hnd hl0)
      refine ⟨?_, ?_, ?_, ?_, frame t (fun x hx => ⟨hcL _ hl0 x (List.mem_cons_of_mem _ hx),
        fun e => hndl.1 (e ▸ hx)⟩) head hlb.2.2⟩
      · rw [hp]; simp [upd, hbc.symm, hpc]
      · rw [hn]; simp [upd]
      · rw [hp]; simp [upd]
      · rw [hn]; simp only [upd, if_neg hbc]; exact hlb.2.1
  · refine frame l' (fun x hx => ⟨hcL l' hl x hx, fun e => ?_⟩) 0 (hlk l' hl)
    exact disjoint_of_nodup_flatten hnd hl hl0 hne hx (e ▸ List.mem_of_mem_head? hh)

theorem notContains_append (S T : List Nat) (x : Nat) :
    (!(S ++ T).contains x) = (!T.contains x && !S.contains x) := by
  rw [Bool.eq_iff_iff]; simp [List.mem_append, and_comm]

theorem G.freeSet_nil (g : G) : g.freeSet [] = g := by
  have : ∀ l : List Nat, l.filter (fun _ => true) = l := fun l => List.filter_eq_self.2 (fun _ _ => rfl)
  cases g; simp [G.freeSet, this]

theorem G.freeSet_freeSet (g : G) (S T : List Nat) : (g.freeSet S).freeSet T = g.freeSet (S ++ T) := by
  unfold G.freeSet
  simp only [List.filter_filter, List.map_map, G.mk.injEq]
  constructor
  · congr 1; funext r; rw [notContains_append]
  · congr 1; funext l; simp only [Function.comp, List.filter_filter]; congr 1; funext x; rw [notContains_append]

theorem G.freeSet_congr (g : G) {S T : List Nat} (h : ∀ x, x ∈ S ↔ x ∈ T) : g.freeSet S = g.freeSet T := by
  have : ∀ x, S.contains x = T.contains x := by
    intro x; rw [Bool.eq_iff_iff]; simp [h x]
  unfold G.freeSet
  simp only [this]

theorem G.free_regions (g : G) (c : Nat) : (g.free c).regions = g.regions.filter (fun r => r.start != c) := by
  unfold G.free G.freeSet
  simp only
  congr 1; funext r; simp only [List.contains_cons, List.contains_nil, Bool.or_false, bne]

theorem G.free_lists (g : G) (c : Nat) : (g.free c).lists = g.lists.map (fun l => l.filter (· != c)) := by
  unfold G.free G.freeSet
  simp only
  congr 1; funext l; congr 1; funext x; simp only [List.contains_cons, List.contains_nil, Bool.or_false, bne]

end Mmtk.Map32
