import MmtkModel.Model.Sched
/-!
# `on_last_parked`: what the last parked worker does

Everything about `onLastParked` that needs no invariant of the reachable states.  What it can write (`SameButBkt` for the bucket
loops, `LPFrame` for the whole call, `Frame` its unchanged part).  The three loops, each changing one bucket at a time by
`maybe_schedule_sentinel` (`Bucket.flushed`), `open` or `close`: for `schedule_sentinels` and `update_buckets`, what every
reflexive-transitive relation between the old and the new bucket keeps (`BktRel`, the `*_rel` lemmas); for `close_all_stw_buckets` the
result in closed form (`closeLoop_bkt`); and the inductions that need the state in between (nothing runnable: `NoRun`; what was opened and why:
`OpenedSeq`, `OpenCond`; what is never undone: `FlagsMono`).  The ways through the function (`respond_cases`, `onGcFinished_cases`,
`GcPath`, `onLastParked_cases`, `onLastParked_gc`) and what each way does to the goal, `gcDone`, the buckets.  What needs the stage
table well-formed (`Cfg.WF`) or an invariant is in `Lemmas/Sched.lean`, the packet weights in `Lemmas/SchedCount.lean`, exit
requests in `Lemmas/SchedExitGc.lean`.
-/
namespace Mmtk.Sched

/-- A frame as one equation: every field not named is that of `s`; a proof reads an unchanged field off by `rw [h]`. -/
def SameButBkt (s s' : State) : Prop := s' = { s with bkt := s'.bkt, trace := s'.trace }

theorem SameButBkt.refl (s : State) : SameButBkt s s := rfl
theorem SameButBkt.trans {a b c : State} (h1 : SameButBkt a b) (h2 : SameButBkt b c) : SameButBkt a c := by
  unfold SameButBkt at *
  rw [h2, h1]
theorem SameButBkt.current {s s' : State} (h : SameButBkt s s') : s'.current = s.current := by rw [h]
theorem SameButBkt.stopped {s s' : State} (h : SameButBkt s s') : s'.stopped = s.stopped := by rw [h]
theorem SameButBkt.reqs {s s' : State} (h : SameButBkt s s') :
    s'.reqGc = s.reqGc ∧ s'.reqShutdown = s.reqShutdown ∧ s'.reqFork = s.reqFork := by rw [h]; exact ⟨rfl, rfl, rfl⟩
theorem SameButBkt.counters {s s' : State} (h : SameButBkt s s') :
    s'.resumes = s.resumes ∧ s'.stops = s.stops ∧ s'.gcDone = s.gcDone ∧ s'.gcStarted = s.gcStarted ∧
    s'.nextId = s.nextId ∧ s'.added = s.added ∧ s'.started = s.started ∧ s'.ended = s.ended ∧ s'.exitsDone = s.exitsDone := by
  rw [h]; exact ⟨rfl, rfl, rfl, rfl, rfl, rfl, rfl, rfl, rfl⟩

def LPFrame (s s' : State) : Prop :=
  s' = { s with bkt := s'.bkt, trace := s'.trace, current := s'.current, reqGc := s'.reqGc, reqShutdown := s'.reqShutdown,
                reqFork := s'.reqFork, nextId := s'.nextId, added := s'.added, gcStarted := s'.gcStarted,
                gcDone := s'.gcDone, stopped := s'.stopped, resumes := s'.resumes }

theorem LPFrame.refl (s : State) : LPFrame s s := rfl
theorem LPFrame.trans {a b c : State} (h1 : LPFrame a b) (h2 : LPFrame b c) : LPFrame a c := by
  unfold LPFrame at *
  rw [h2, h1]
theorem SameButBkt.lpFrame {s s' : State} (h : SameButBkt s s') : LPFrame s s' := by
  unfold LPFrame; rw [h]

/-- fields `on_last_parked` never touches, by name (not all of them: `LPFrame` is the full equation) -/
structure Frame (s s' : State) : Prop where
  pc : s'.pc = s.pc
  buf : s'.buf = s.buf
  desig : s'.desig = s.desig
  parked : s'.parked = s.parked
  creation : s'.creation = s.creation
  stops : s'.stops = s.stops
  started : s'.started = s.started
  ended : s'.ended = s.ended

theorem LPFrame.frame {s s' : State} (h : LPFrame s s') : Frame s s' := by
  rw [h]; exact ⟨rfl, rfl, rfl, rfl, rfl, rfl, rfl, rfl⟩
theorem LPFrame.exitsDone {s s' : State} (h : LPFrame s s') : s'.exitsDone = s.exitsDone := by rw [h]
theorem LPFrame.endedIds {s s' : State} (h : LPFrame s s') : s'.endedIds = s.endedIds := by rw [h]
theorem sbb_emit (s : State) (e : SubEv) : SameButBkt s (emit s e) := rfl
theorem sbb_setBkt (s : State) (b : Nat) (k : Bucket) : SameButBkt s (setBkt s b k) := rfl
theorem frame_setBkt (s : State) (b : Nat) (k : Bucket) : Frame s (setBkt s b k) := (sbb_setBkt s b k).lpFrame.frame

/-- `WorkBucket::maybe_schedule_sentinel` on the bucket itself -/
def Bucket.flushed (k : Bucket) : Bucket :=
  match k.sentinel with
  | some p => { k with sentinel := none, q := p :: k.q }
  | none => k

theorem takeSentinel_bkt (s : State) (b x : Nat) :
    (takeSentinel s b).bkt x = if x = b then (s.bkt b).flushed else s.bkt x := by
  unfold takeSentinel Bucket.flushed
  cases (s.bkt b).sentinel with
  | some p => rfl
  | none =>
    show s.bkt x = _
    split
    · rename_i e; rw [e]
    · rfl

theorem sbb_takeSentinel (s : State) (b : Nat) : SameButBkt s (takeSentinel s b) := by
  unfold takeSentinel; split <;> rfl

/-- `R x k k'`: bucket `x` may go from `k` to `k'`.  A loop that applies single operations related by `R` relates its input to its
output if `R` is reflexive and transitive. -/
structure BktRel (R : Nat → Bucket → Bucket → Prop) : Prop where
  refl : ∀ x k, R x k k
  trans : ∀ {x k1 k2 k3}, R x k1 k2 → R x k2 k3 → R x k1 k3

theorem BktRel.ofEq {α : Type} (f : Bucket → α) : BktRel (fun _ k k' => f k' = f k) :=
  ⟨fun _ _ => rfl, fun h1 h2 => h2.trans h1⟩

theorem BktRel.update {R : Nat → Bucket → Bucket → Prop} (hR : BktRel R) {bkt : Nat → Bucket} {b : Nat} {k : Bucket}
    (h : R b (bkt b) k) (x : Nat) : R x (bkt x) (if x = b then k else bkt x) := by
  split
  · rename_i e; subst e; exact h
  · exact hR.refl x _

theorem takeSentinel_rel {R : Nat → Bucket → Bucket → Prop} (hR : BktRel R) (hF : ∀ x k, R x k k.flushed)
    (s : State) (b x : Nat) : R x (s.bkt x) ((takeSentinel s b).bkt x) := by
  rw [takeSentinel_bkt]; exact hR.update (hF b _) x

theorem BktRel.top : BktRel (fun _ _ _ => True) := ⟨fun _ _ => trivial, fun _ _ => trivial⟩

theorem schedLoop_eff {R : Nat → Bucket → Bucket → Prop} (hR : BktRel R) (hF : ∀ x k, R x k k.flushed) (bs : List Nat) :
    ∀ (s : State) (acc : Bool), SameButBkt s (schedSentinelsLoop s bs acc).1 ∧
      ∀ x, R x (s.bkt x) ((schedSentinelsLoop s bs acc).1.bkt x) := by
  induction bs with
  | nil => intro s acc; exact ⟨SameButBkt.refl s, fun x => hR.refl x _⟩
  | cons b bs ih =>
    intro s acc
    unfold schedSentinelsLoop
    split
    · exact ⟨(sbb_takeSentinel s b).trans (ih _ _).1, fun x => hR.trans (takeSentinel_rel hR hF s b x) ((ih _ _).2 x)⟩
    · exact ih _ _

theorem schedLoop_rel {R : Nat → Bucket → Bucket → Prop} (hR : BktRel R) (hF : ∀ x k, R x k k.flushed) (bs : List Nat)
    (s : State) (acc : Bool) (x : Nat) : R x (s.bkt x) ((schedSentinelsLoop s bs acc).1.bkt x) :=
  (schedLoop_eff hR hF bs s acc).2 x

theorem sbb_schedSentinels (c : Cfg) (s : State) : SameButBkt s (schedSentinels c s).1 :=
  (schedLoop_eff BktRel.top (fun _ _ => trivial) _ s false).1.trans (sbb_emit _ _)

theorem schedSentinels_rel {R : Nat → Bucket → Bucket → Prop} (hR : BktRel R) (hF : ∀ x k, R x k k.flushed)
    (c : Cfg) (s : State) (x : Nat) : R x (s.bkt x) ((schedSentinels c s).1.bkt x) :=
  schedLoop_rel hR hF _ s false x

theorem updateLoop_cons (c : Cfg) (s : State) (b : Nat) (bs : List Nat) (u : Bool) :
    (canOpenNow c s b = false ∨ (c.info b).alwaysOpen = true ∨ (s.bkt b).enabled = false) ∧
      updateLoop c s (b :: bs) u = updateLoop c s bs u ∨
    canOpenNow c s b = true ∧
      (((openBkt s b).bkt b).isDrained = false ∧ updateLoop c s (b :: bs) u = (openBkt s b, true, true) ∨
       ((openBkt s b).bkt b).isDrained = true ∧ hasSentinel (openBkt s b) b = true ∧
         updateLoop c s (b :: bs) u = (takeSentinel (openBkt s b) b, true, true) ∨
       ((openBkt s b).bkt b).isDrained = true ∧ hasSentinel (openBkt s b) b = false ∧
         updateLoop c s (b :: bs) u = updateLoop c (takeSentinel (openBkt s b) b) bs true) := by
  have e : updateLoop c s (b :: bs) u =
      (if (c.info b).alwaysOpen then updateLoop c s bs u
       else if !(s.bkt b).enabled then updateLoop c s bs u
       else if canOpenNow c s b then
         if !((openBkt s b).bkt b).isDrained then (openBkt s b, true, true)
         else if hasSentinel (openBkt s b) b then (takeSentinel (openBkt s b) b, true, true)
         else updateLoop c (takeSentinel (openBkt s b) b) bs true
       else updateLoop c s bs u) := rfl
  rw [e]
  cases h1 : (c.info b).alwaysOpen with
  | true => exact .inl ⟨.inr (.inl rfl), if_pos rfl⟩
  | false =>
    rw [if_neg Bool.false_ne_true]
    cases h2 : (s.bkt b).enabled with
    | false => exact .inl ⟨.inr (.inr rfl), if_pos rfl⟩
    | true =>
      rw [if_neg (by decide)]
      cases h3 : canOpenNow c s b with
      | false => exact .inl ⟨.inl rfl, if_neg Bool.false_ne_true⟩
      | true =>
        rw [if_pos rfl]
        refine .inr ⟨rfl, ?_⟩
        cases h4 : ((openBkt s b).bkt b).isDrained with
        | false => exact .inl ⟨rfl, if_pos rfl⟩
        | true =>
          rw [if_neg (by decide)]
          cases h5 : hasSentinel (openBkt s b) b with
          | true => exact .inr (.inl ⟨rfl, rfl, if_pos rfl⟩)
          | false => exact .inr (.inr ⟨rfl, rfl, if_neg Bool.false_ne_true⟩)

theorem updateLoop_eff {R : Nat → Bucket → Bucket → Prop} (hR : BktRel R) (hF : ∀ x k, R x k k.flushed)
    (hO : ∀ x k, R x k { k with isOpen := true }) (c : Cfg) (bs : List Nat) :
    ∀ (s : State) (u : Bool), SameButBkt s (updateLoop c s bs u).1 ∧ ∀ x, R x (s.bkt x) ((updateLoop c s bs u).1.bkt x) := by
  induction bs with
  | nil => intro s u; exact ⟨SameButBkt.refl s, fun x => hR.refl x _⟩
  | cons b bs ih =>
    intro s u
    have h1 : SameButBkt s (openBkt s b) ∧ ∀ x, R x (s.bkt x) ((openBkt s b).bkt x) :=
      ⟨rfl, fun x => hR.update (hO b _) x⟩
    have h2 : SameButBkt s (takeSentinel (openBkt s b) b) ∧ ∀ x, R x (s.bkt x) ((takeSentinel (openBkt s b) b).bkt x) :=
      ⟨h1.1.trans (sbb_takeSentinel _ b), fun x => hR.trans (h1.2 x) (takeSentinel_rel hR hF (openBkt s b) b x)⟩
    rcases updateLoop_cons c s b bs u with ⟨_, e⟩ | ⟨_, ⟨_, e⟩ | ⟨_, _, e⟩ | ⟨_, _, e⟩⟩ <;> rw [e]
    · exact ih _ _
    · exact h1
    · exact h2
    · exact ⟨h2.1.trans (ih _ _).1, fun x => hR.trans (h2.2 x) ((ih _ _).2 x)⟩

theorem updateLoop_rel {R : Nat → Bucket → Bucket → Prop} (hR : BktRel R) (hF : ∀ x k, R x k k.flushed)
    (hO : ∀ x k, R x k { k with isOpen := true }) (c : Cfg) (bs : List Nat) (s : State) (u : Bool) (x : Nat) :
    R x (s.bkt x) ((updateLoop c s bs u).1.bkt x) :=
  (updateLoop_eff hR hF hO c bs s u).2 x

theorem sbb_updateBuckets (c : Cfg) (s : State) : SameButBkt s (updateBuckets c s).1 :=
  (updateLoop_eff BktRel.top (fun _ _ => trivial) (fun _ _ => trivial) c _ s false).1.trans (sbb_emit _ _)

theorem sbb_updated (c : Cfg) (s : State) : SameButBkt s (updateBuckets c (schedSentinels c s).1).1 :=
  (sbb_schedSentinels c s).trans (sbb_updateBuckets c _)

theorem updateBuckets_rel {R : Nat → Bucket → Bucket → Prop} (hR : BktRel R) (hF : ∀ x k, R x k k.flushed)
    (hO : ∀ x k, R x k { k with isOpen := true }) (c : Cfg) (s : State) (x : Nat) :
    R x (s.bkt x) ((updateBuckets c s).1.bkt x) :=
  updateLoop_rel hR hF hO c _ s false x

theorem sbb_closeLoop (c : Cfg) (bs : List Nat) : ∀ (s s' : State), closeStwLoop c s bs = some s' → SameButBkt s s' := by
  induction bs with
  | nil => intro s s' h; cases h; exact SameButBkt.refl s
  | cons b bs ih =>
    intro s s' h
    unfold closeStwLoop at h
    split at h
    · split at h
      · exact SameButBkt.trans (b := closeBkt s b) rfl (ih _ _ h)
      · cases h
    · exact ih _ _ h

theorem closeLoop_bkt (c : Cfg) (bs : List Nat) : ∀ (s s' : State), closeStwLoop c s bs = some s' → ∀ b,
    s'.bkt b = if b ∈ bs ∧ (c.info b).isStw = true then { s.bkt b with isOpen := false } else s.bkt b := by
  induction bs with
  | nil => intro s s' h b; cases h; exact (if_neg (fun h => nomatch h.1)).symm
  | cons b0 bs ih =>
    intro s s' h b
    unfold closeStwLoop at h
    by_cases hs : (c.info b0).isStw = true
    · rw [if_pos hs] at h
      by_cases he : (s.bkt b0).isEmpty = true
      · rw [if_pos he] at h
        rw [ih _ _ h b]
        show (if b ∈ bs ∧ _ then { (if b = b0 then _ else s.bkt b) with isOpen := false } else (if b = b0 then _ else s.bkt b)) = _
        by_cases e : b = b0
        · subst e; simp [hs]
        · simp [e]
      · rw [if_neg he] at h; cases h
    · rw [if_neg hs] at h
      rw [ih _ _ h b]
      by_cases e : b = b0
      · subst e; simp [hs]
      · simp [e]

theorem schedConcurrent_bkt (c : Cfg) (s : State) (x : Nat) :
    (schedConcurrent c s).bkt x =
      if x = c.concIdx then { s.bkt c.concIdx with enabled := concScheduled c s, isOpen := concScheduled c s } else s.bkt x := by
  unfold schedConcurrent
  split
  · rename_i h; rw [h]; rfl
  · rename_i h; rw [Bool.not_eq_true] at h; rw [h]; rfl

theorem sbb_schedConcurrent (c : Cfg) (s : State) : SameButBkt s (schedConcurrent c s) := by
  unfold schedConcurrent; split <;> rfl

theorem ite_some_cases {α : Type} {p : Prop} [Decidable p] {x : α} {y : Option α} {z : α}
    (h : (if p then some x else y) = some z) : p ∧ x = z ∨ ¬ p ∧ y = some z := by
  split at h
  · exact .inl ⟨‹p›, Option.some.inj h⟩
  · exact .inr ⟨‹¬ p›, h⟩

theorem respond_cases {c : Cfg} {s s' : State} {tag : Nat} {r : LPR} (h : respond c s tag = some (s', r)) :
    s.current = none ∧
    ((s.reqGc = true ∧ s' = addScheduleCollection c { s with reqGc := false, current := some .gc } tag ∧ r = .wakeSelf) ∨
     (s.reqGc = false ∧ s.reqShutdown = true ∧
        s' = emit { s with reqShutdown := false, current := some .shutdown } (.goalStarted .shutdown) ∧ r = .wakeAll) ∨
     (s.reqGc = false ∧ s.reqShutdown = false ∧ s.reqFork = true ∧
        s' = emit { s with reqFork := false, current := some .stopForFork } (.goalStarted .stopForFork) ∧ r = .wakeAll) ∨
     (s.reqGc = false ∧ s.reqShutdown = false ∧ s.reqFork = false ∧ s' = s ∧ r = .parkSelf)) := by
  unfold respond at h
  obtain ⟨hc, h⟩ := Option.ite_none_left_eq_some.1 h
  refine ⟨Option.not_isSome_iff_eq_none.1 hc, ?_⟩
  rcases ite_some_cases h with ⟨h1, e⟩ | ⟨h1, h⟩
  · cases e; exact .inl ⟨h1, rfl, rfl⟩
  rcases ite_some_cases h with ⟨h2, e⟩ | ⟨h2, h⟩
  · cases e; exact .inr (.inl ⟨Bool.eq_false_iff.2 h1, h2, rfl, rfl⟩)
  rcases ite_some_cases h with ⟨h3, e⟩ | ⟨h3, h⟩
  · cases e; exact .inr (.inr (.inl ⟨Bool.eq_false_iff.2 h1, Bool.eq_false_iff.2 h2, h3, rfl, rfl⟩))
  · cases h; exact .inr (.inr (.inr ⟨Bool.eq_false_iff.2 h1, Bool.eq_false_iff.2 h2, Bool.eq_false_iff.2 h3, rfl, rfl⟩))

theorem respond_same {c : Cfg} {s s' : State} {tag : Nat} {r : LPR} (h : respond c s tag = some (s', r)) :
    s' = { s with bkt := s'.bkt, trace := s'.trace, current := s'.current, reqGc := s'.reqGc, reqShutdown := s'.reqShutdown,
                  reqFork := s'.reqFork, nextId := s'.nextId, added := s'.added, gcStarted := s'.gcStarted } := by
  rcases (respond_cases h).2 with ⟨_, rfl, _⟩ | ⟨_, _, rfl, _⟩ | ⟨_, _, _, rfl, _⟩ | ⟨_, _, _, rfl, _⟩ <;> rfl

theorem respond_lpFrame {c : Cfg} {s s' : State} {tag : Nat} {r : LPR} (h : respond c s tag = some (s', r)) :
    LPFrame s s' := by
  unfold LPFrame; rw [respond_same h]

theorem onGcFinished_cases {c : Cfg} {s s' : State} (h : onGcFinished c s = some s') :
    hasDesignated c s = false ∧ allStwEmpty c s = true ∧
    ∃ s1, closeStwLoop c (emit s .gcFinishedBegin) (List.range c.L) = some s1 ∧ s' = resume (schedConcurrent c s1) := by
  unfold onGcFinished at h
  split at h
  · cases h
  · rename_i h1
    split at h
    · cases h
    · rename_i h2
      split at h
      · cases h
      · rename_i s1 hc
        cases h
        exact ⟨by simpa using h1, by simpa using h2, s1, hc, rfl⟩

/-- how `on_last_parked` ends a GC whose buckets are all drained: `on_gc_finished` gave `s3`; the goal is
completed, and unless concurrent work was scheduled the next request is looked at -/
def GcEnd (c : Cfg) (s3 : State) (tag : Nat) (s' : State) (r : LPR) : Prop :=
  ((s3.bkt c.concIdx).isOpen = true ∧ s' = completeGc s3 ∧ r = .wakeAll) ∨
  ((s3.bkt c.concIdx).isOpen = false ∧ respond c (completeGc s3) tag = some (s', r))

/-- the ways through `on_last_parked` while a Gc goal is current (after its two assertions) -/
inductive GcPath (c : Cfg) (s : State) (tag : Nat) : State → LPR → Prop
  | designated : hasDesignated c s = true → GcPath c s tag s .wakeAll
  | sentinels : hasDesignated c s = false → (schedSentinels c s).2 = true →
      GcPath c s tag (schedSentinels c s).1 .wakeAll
  | opened : hasDesignated c s = false → (schedSentinels c s).2 = false →
      (updateBuckets c (schedSentinels c s).1).2 = true →
      GcPath c s tag (updateBuckets c (schedSentinels c s).1).1 .wakeAll
  | finished (s3 : State) {s' : State} {r : LPR} : hasDesignated c s = false → (schedSentinels c s).2 = false →
      (updateBuckets c (schedSentinels c s).1).2 = false →
      onGcFinished c (updateBuckets c (schedSentinels c s).1).1 = some s3 → GcEnd c s3 tag s' r →
      GcPath c s tag s' r

theorem onLastParked_cases {c : Cfg} {s s' : State} {tag : Nat} {r : LPR} (h : onLastParked c s tag = some (s', r)) :
    (s.current = none ∧ respond c s tag = some (s', r)) ∨
    (s.current = some .gc ∧ s.reqGc = false ∧ allOpenEmpty c s = true ∧ GcPath c s tag s' r) := by
  unfold onLastParked at h
  cases hc : s.current with
  | none => rw [hc] at h; exact .inl ⟨rfl, h⟩
  | some g =>
    rw [hc] at h
    cases g with
    | shutdown | stopForFork => cases h
    | gc =>
      simp only at h
      obtain ⟨h1, h⟩ := Option.ite_none_left_eq_some.1 h
      obtain ⟨h2, h⟩ := Option.ite_none_left_eq_some.1 h
      refine .inr ⟨rfl, Bool.eq_false_iff.2 h1, by simpa using h2, ?_⟩
      rcases ite_some_cases h with ⟨h3, e⟩ | ⟨h3, h⟩
      · cases e; exact .designated h3
      rw [Bool.not_eq_true] at h3
      rcases ite_some_cases h with ⟨h4, e⟩ | ⟨h4, h⟩
      · cases e; exact .sentinels h3 h4
      rw [Bool.not_eq_true] at h4
      rcases ite_some_cases h with ⟨h5, e⟩ | ⟨h5, h⟩
      · cases e; exact .opened h3 h4 h5
      rw [Bool.not_eq_true] at h5
      cases hg : onGcFinished c (updateBuckets c (schedSentinels c s).1).1 with
      | none => rw [hg] at h; cases h
      | some s3 =>
        rw [hg] at h
        refine .finished s3 h3 h4 h5 hg ?_
        rcases ite_some_cases h with ⟨h6, e⟩ | ⟨h6, h⟩
        · cases e; exact .inl ⟨h6, rfl, rfl⟩
        · exact .inr ⟨Bool.eq_false_iff.2 h6, h⟩

/-- the state `on_gc_finished` returns on the way through `on_last_parked`, as an update of the state on entry -/
theorem onGcFinished_same {c : Cfg} {s s3 : State} (h : onGcFinished c (updateBuckets c (schedSentinels c s).1).1 = some s3) :
    s3 = { s with bkt := s3.bkt, trace := s3.trace, stopped := false, resumes := s.resumes + 1 } := by
  obtain ⟨_, _, s1, hc, rfl⟩ := onGcFinished_cases h
  have hsb : SameButBkt s (schedConcurrent c s1) :=
    (((sbb_updated c s).trans (sbb_emit _ _)).trans (sbb_closeLoop c _ _ _ hc)).trans (sbb_schedConcurrent c s1)
  unfold resume emit
  rw [hsb]

theorem GcEnd.same {c : Cfg} {s3 s' : State} {tag : Nat} {r : LPR} (h : GcEnd c s3 tag s' r) :
    s' = { s3 with bkt := s'.bkt, trace := s'.trace, current := s'.current, reqGc := s'.reqGc, reqShutdown := s'.reqShutdown,
                   reqFork := s'.reqFork, nextId := s'.nextId, added := s'.added, gcStarted := s'.gcStarted,
                   gcDone := s3.gcDone + 1 } := by
  rcases h with ⟨_, rfl, _⟩ | ⟨_, h⟩
  · rfl
  · rw [respond_same h]; rfl

theorem GcEnd.lpFrame {c : Cfg} {s3 s' : State} {tag : Nat} {r : LPR} (h : GcEnd c s3 tag s' r) : LPFrame s3 s' := by
  unfold LPFrame; rw [h.same]

theorem GcPath.lpFrame {c : Cfg} {s s' : State} {tag : Nat} {r : LPR} (h : GcPath c s tag s' r) : LPFrame s s' := by
  cases h with
  | designated => exact LPFrame.refl s
  | sentinels => exact (sbb_schedSentinels c s).lpFrame
  | opened => exact (sbb_updated c s).lpFrame
  | finished s3 _ _ _ hg he => exact (show LPFrame s s3 by unfold LPFrame; rw [onGcFinished_same hg]).trans he.lpFrame

theorem onLastParked_lpFrame {c : Cfg} {s s' : State} {tag : Nat} {r : LPR} (h : onLastParked c s tag = some (s', r)) :
    LPFrame s s' := by
  rcases onLastParked_cases h with ⟨_, h⟩ | ⟨_, _, _, h⟩
  · exact respond_lpFrame h
  · exact h.lpFrame

theorem frame_onLastParked {c : Cfg} {s s' : State} {tag : Nat} {r : LPR}
    (h : onLastParked c s tag = some (s', r)) : Frame s s' := (onLastParked_lpFrame h).frame

def NoRun (c : Cfg) (s : State) : Prop := ∀ b, b < c.L → (s.bkt b).runnable = false

theorem takeSentinel_none (s : State) (b : Nat) (h : hasSentinel s b = false) : (takeSentinel s b).bkt = s.bkt := by
  unfold hasSentinel at h
  unfold takeSentinel
  cases hs : (s.bkt b).sentinel with
  | none => rfl
  | some p => rw [hs] at h; cases h

theorem schedLoop_true (bs : List Nat) : ∀ (s : State), (schedSentinelsLoop s bs true).2 = true := by
  induction bs with
  | nil => intro s; rfl
  | cons b bs ih =>
    intro s; unfold schedSentinelsLoop
    split
    · simp only [Bool.true_or]; exact ih _
    · exact ih _

theorem schedLoop_false (bs : List Nat) : ∀ (s : State), (schedSentinelsLoop s bs false).2 = false →
    (schedSentinelsLoop s bs false).1.bkt = s.bkt := by
  induction bs with
  | nil => intro s _; rfl
  | cons b bs ih =>
    intro s h
    unfold schedSentinelsLoop at h ⊢
    split
    · rename_i ho
      rw [if_pos ho] at h
      cases hh : hasSentinel s b with
      | true => rw [hh] at h; simp only [Bool.false_or] at h; rw [schedLoop_true] at h; cases h
      | false =>
        rw [hh] at h
        simp only [Bool.or_false] at h ⊢
        rw [ih _ h, takeSentinel_none s b hh]
    · rename_i ho
      rw [if_neg ho] at h
      exact ih _ h

theorem schedSentinels_false (c : Cfg) (s : State) (h : (schedSentinels c s).2 = false) :
    (schedSentinels c s).1.bkt = s.bkt :=
  schedLoop_false (List.range c.L) s h

theorem noRun_of_bkt {c : Cfg} {s s' : State} (h : NoRun c s) (e : s'.bkt = s.bkt) : NoRun c s' := by
  intro b hb; rw [e]; exact h b hb

/-- `update_buckets` either reports new packets (and then an updated bucket), or nothing became
runnable: a bucket it opens and leaves behind is drained and had no sentinel -/
theorem updateLoop_quiet (c : Cfg) (bs : List Nat) : ∀ (s : State) (u : Bool), NoRun c s →
    ((updateLoop c s bs u).2.2 = true ∧ (updateLoop c s bs u).2.1 = true) ∨
    ((updateLoop c s bs u).2.2 = false ∧ NoRun c (updateLoop c s bs u).1) := by
  induction bs with
  | nil => intro s u h; exact .inr ⟨rfl, h⟩
  | cons b bs ih =>
    intro s u h
    rcases updateLoop_cons c s b bs u with ⟨_, e⟩ | ⟨_, ⟨_, e⟩ | ⟨_, _, e⟩ | ⟨h4, hs5, e⟩⟩ <;> rw [e]
    · exact ih _ _ h
    · exact .inl ⟨rfl, rfl⟩
    · exact .inl ⟨rfl, rfl⟩
    · refine ih _ _ (noRun_of_bkt (s := openBkt s b) (fun b' hb' => ?_) (takeSentinel_none _ b hs5))
      show (if b' = b then { s.bkt b with isOpen := true } else s.bkt b').runnable = false
      by_cases hbb : b' = b
      · rw [if_pos hbb]
        rw [show (openBkt s b).bkt b = { s.bkt b with isOpen := true } from if_pos rfl] at h4
        simp only [Bucket.isDrained, Bucket.runnable] at h4 ⊢
        cases he : (s.bkt b).enabled <;> simp [he] at h4 ⊢
        exact h4
      · rw [if_neg hbb]; exact h b' hb'

theorem updateBuckets_false (c : Cfg) (s : State) (hn : NoRun c s) (h : (updateBuckets c s).2 = false) :
    NoRun c (updateBuckets c s).1 := by
  rcases updateLoop_quiet c (List.range c.L) s false hn with ⟨h1, h2⟩ | ⟨_, h2⟩
  · have : (updateBuckets c s).2 = true := by
      show ((updateLoop c s (List.range c.L) false).2.1 && (updateLoop c s (List.range c.L) false).2.2) = true
      rw [h1, h2]; rfl
    rw [h] at this; cases this
  · exact noRun_of_bkt h2 rfl

theorem onGcFinished_noRun (c : Cfg) (s s' : State) (hn : NoRun c s) (h : onGcFinished c s = some s')
    (hclosed : (s'.bkt c.concIdx).isOpen = false) : NoRun c s' := by
  obtain ⟨_, _, s1, hc, rfl⟩ := onGcFinished_cases h
  have h1 : NoRun c s1 := fun b hb => by
    rw [closeLoop_bkt c _ _ _ hc b]
    split
    · simp [Bucket.runnable]
    · exact hn b hb
  have hcl : ((schedConcurrent c s1).bkt c.concIdx).isOpen = false := hclosed
  rw [schedConcurrent_bkt, if_pos rfl] at hcl
  intro b hb
  show ((schedConcurrent c s1).bkt b).runnable = false
  rw [schedConcurrent_bkt]
  split
  · show (concScheduled c s1 && concScheduled c s1 && _) = false
    rw [show concScheduled c s1 = false from hcl]; rfl
  · exact h1 b hb

/-- nothing is runnable afterwards, or the worker does not park and no exit goal is current: then it polls again -/
theorem respond_noRun {c : Cfg} {s s' : State} {tag : Nat} {r : LPR} (hn : NoRun c s) (h : respond c s tag = some (s', r)) :
    NoRun c s' ∨ (r ≠ .parkSelf ∧ ∀ g, s'.current = some g → g.isExit = false) := by
  rcases (respond_cases h).2 with ⟨_, rfl, rfl⟩ | ⟨_, _, rfl, _⟩ | ⟨_, _, _, rfl, _⟩ | ⟨_, _, _, rfl, _⟩
  · exact .inr ⟨nofun, fun g hg => by cases hg; rfl⟩
  · exact .inl (noRun_of_bkt hn rfl)
  · exact .inl (noRun_of_bkt hn rfl)
  · exact .inl hn

theorem onLastParked_noRun {c : Cfg} {s s' : State} {tag : Nat} {r : LPR} (hn : NoRun c s)
    (h : onLastParked c s tag = some (s', r)) :
    NoRun c s' ∨ (r ≠ .parkSelf ∧ ∀ g, s'.current = some g → g.isExit = false) := by
  rcases onLastParked_cases h with ⟨_, h⟩ | ⟨hcur, _, _, h⟩
  · exact respond_noRun hn h
  · have gc : ∀ {t : State}, SameButBkt s t → ∀ g, t.current = some g → g.isExit = false := by
      intro t ht g hg; rw [ht.current, hcur] at hg; cases hg; rfl
    cases h with
    | designated => exact .inl hn
    | sentinels => exact .inr ⟨nofun, gc (sbb_schedSentinels c s)⟩
    | opened => exact .inr ⟨nofun, gc (sbb_updated c s)⟩
    | finished s3 _ hss hub hg3 he =>
      rcases he with ⟨_, rfl, rfl⟩ | ⟨hopen, h⟩
      · exact .inr ⟨nofun, nofun⟩
      · have n2 := updateBuckets_false c _ (noRun_of_bkt hn (schedSentinels_false c s hss)) hub
        exact respond_noRun (s := completeGc s3) (noRun_of_bkt (onGcFinished_noRun c _ _ n2 hg3 hopen) rfl) h

theorem onGcFinished_other (c : Cfg) (s s' : State) (h : onGcFinished c s = some s') (k : Nat) (hk : k ≠ c.concIdx) :
    (s'.bkt k).enabled = (s.bkt k).enabled ∧ ((s'.bkt k).isOpen = true → (s.bkt k).isOpen = true) := by
  obtain ⟨_, _, s1, hc, rfl⟩ := onGcFinished_cases h
  have hbk : (resume (schedConcurrent c s1)).bkt k = s1.bkt k := (schedConcurrent_bkt c s1 k).trans (if_neg hk)
  rw [hbk, closeLoop_bkt c _ _ _ hc k]
  split
  · exact ⟨rfl, nofun⟩
  · exact ⟨rfl, id⟩

theorem respond_bkt {c : Cfg} {s s' : State} {tag : Nat} {r : LPR} (h : respond c s tag = some (s', r)) (k : Nat) :
    s'.bkt k = s.bkt k ∨
    (k = c.unconIdx ∧ s.reqGc = true ∧ s'.bkt k = { s.bkt k with q := newPkt s k tag :: (s.bkt k).q }) := by
  rcases (respond_cases h).2 with ⟨hg, rfl, _⟩ | ⟨_, _, rfl, _⟩ | ⟨_, _, _, rfl, _⟩ | ⟨_, _, _, rfl, _⟩
  · by_cases e : k = c.unconIdx
    · subst e; exact .inr ⟨rfl, hg, if_pos rfl⟩
    · exact .inl (if_neg e)
  all_goals exact .inl rfl

theorem respond_flags {c : Cfg} {s s' : State} {tag : Nat} {r : LPR} (h : respond c s tag = some (s', r)) (k : Nat) :
    (s'.bkt k).isOpen = (s.bkt k).isOpen ∧ (s'.bkt k).enabled = (s.bkt k).enabled ∧
      (s'.bkt k).sentinel = (s.bkt k).sentinel := by
  rcases respond_bkt h k with e | ⟨_, _, e⟩ <;> rw [e] <;> exact ⟨rfl, rfl, rfl⟩

theorem GcEnd.bkt {c : Cfg} {s3 s' : State} {tag : Nat} {r : LPR} (h : GcEnd c s3 tag s' r) (k : Nat) :
    s'.bkt k = s3.bkt k ∨
    (k = c.unconIdx ∧ s3.reqGc = true ∧ s'.bkt k = { s3.bkt k with q := newPkt s3 k tag :: (s3.bkt k).q }) := by
  rcases h with ⟨_, rfl, _⟩ | ⟨_, h⟩
  · exact .inl rfl
  · exact respond_bkt h k

theorem onLastParked_gcDone_ne {c : Cfg} {s s' : State} {tag : Nat} {r : LPR}
    (h : onLastParked c s tag = some (s', r)) (hg : s'.gcDone ≠ s.gcDone) :
    s.current = some .gc ∧ hasDesignated c s = false := by
  rcases onLastParked_cases h with ⟨_, h⟩ | ⟨hc, _, _, h⟩
  · exact absurd (by rw [respond_same h]) hg
  · cases h with
    | designated => exact absurd rfl hg
    | sentinels hd | opened hd | finished _ hd => exact ⟨hc, hd⟩

theorem canOpenNow_facts {c : Cfg} {s : State} {b : Nat} (h : canOpenNow c s b = true) :
    (c.info b).isSeq = true ∧ (s.bkt b).isOpen = false ∧
    ∀ b', b' ∈ curStages c b → (s.bkt b').enabled = true → (s.bkt b').isOpen = true ∧ (s.bkt b').q = [] := by
  unfold canOpenNow at h
  simp only [Bool.and_eq_true, Bool.not_eq_true'] at h
  refine ⟨h.1.1, h.1.2, ?_⟩
  intro b' hb' he
  have := (List.all_eq_true.mp h.2) b' hb'
  simp only [Bucket.isDrained, he, Bool.not_true, Bool.false_or, Bool.and_eq_true, Bucket.isEmpty] at this
  exact ⟨this.1, List.isEmpty_iff.mp this.2⟩

theorem mem_curStages_first {c : Cfg} {f b : Nat} (hf : f < c.L) (h : (c.info f).isFirstStw = true) : f ∈ curStages c b := by
  unfold curStages
  simp [List.mem_filter, hf, h]

theorem Bucket.flushed_flags (k : Bucket) : k.flushed.isOpen = k.isOpen ∧ k.flushed.enabled = k.enabled := by
  unfold Bucket.flushed; split <;> exact ⟨rfl, rfl⟩

theorem takeSentinel_isOpen (s : State) (b k : Nat) : ((takeSentinel s b).bkt k).isOpen = (s.bkt k).isOpen :=
  takeSentinel_rel (BktRel.ofEq Bucket.isOpen) (fun _ k => k.flushed_flags.1) s b k

theorem schedSentinels_flags (c : Cfg) (s : State) (k : Nat) :
    ((schedSentinels c s).1.bkt k).isOpen = (s.bkt k).isOpen ∧ ((schedSentinels c s).1.bkt k).enabled = (s.bkt k).enabled :=
  ⟨schedSentinels_rel (BktRel.ofEq Bucket.isOpen) (fun _ k => k.flushed_flags.1) c s k,
   schedSentinels_rel (BktRel.ofEq Bucket.enabled) (fun _ k => k.flushed_flags.2) c s k⟩

theorem updateBuckets_enabled (c : Cfg) (s : State) (k : Nat) : ((updateBuckets c s).1.bkt k).enabled = (s.bkt k).enabled :=
  updateBuckets_rel (BktRel.ofEq Bucket.enabled) (fun _ k => k.flushed_flags.2) (fun _ _ => rfl) c s k

/-- while `update_buckets` runs (and has found no sentinel), the buckets are those on entry except that
sequentially opened ones may have been opened -/
def OpenedSeq (c : Cfg) (s0 s : State) : Prop :=
  ∀ k, (s.bkt k).q = (s0.bkt k).q ∧ (s.bkt k).enabled = (s0.bkt k).enabled ∧
    ((c.info k).isSeq = false → (s.bkt k).isOpen = (s0.bkt k).isOpen)

/-- third clause: `curStages` contains every first stop-the-world bucket, so `canOpenNow` saw it drained, hence open; said of the
non-sequential ones because those are not opened in between (`OpenedSeq`) -/
def OpenCond (c : Cfg) (s0 : State) (b : Nat) : Prop :=
  (c.info b).isSeq = true ∧ (∀ b', b' ∈ curStages c b → (s0.bkt b').enabled = true → (s0.bkt b').q = []) ∧
  ∀ f, f < c.L → (c.info f).isFirstStw = true → (c.info f).isSeq = false → (s0.bkt f).enabled = true →
    (s0.bkt f).isOpen = true

/-- a bucket that `update_buckets` opens: `canOpenNow` held for it in a state that differs from the one on
entry by open sequential buckets only -/
theorem updateLoop_opens (c : Cfg) (s0 : State) (bs : List Nat) : ∀ (s : State) (u : Bool), OpenedSeq c s0 s →
    ∀ b, ((updateLoop c s bs u).1.bkt b).isOpen = true → (s.bkt b).isOpen = false → OpenCond c s0 b := by
  induction bs with
  | nil => intro s u _ b h1 h2; simp only [updateLoop] at h1; rw [h1] at h2; cases h2
  | cons b0 bs ih =>
    intro s u hq b h1 h2
    have opened : canOpenNow c s b0 = true → ((openBkt s b0).bkt b).isOpen = true → OpenCond c s0 b := fun hc ho => by
      obtain ⟨f1, _, f3⟩ := canOpenNow_facts hc
      have e : b = b0 := by
        by_cases e : b = b0
        · exact e
        · have : ((openBkt s b0).bkt b).isOpen = (s.bkt b).isOpen := congrArg Bucket.isOpen (if_neg e)
          rw [this, h2] at ho; cases ho
      subst e
      exact ⟨f1, fun b' hb' he => by rw [← (hq b').1]; exact (f3 b' hb' (by rw [(hq b').2.1]; exact he)).2,
        fun f hf hfirst hns hen => by
          rw [← (hq f).2.2 hns]; exact (f3 f (mem_curStages_first hf hfirst) (by rw [(hq f).2.1]; exact hen)).1⟩
    rcases updateLoop_cons c s b0 bs u with ⟨_, e⟩ | ⟨hc, ⟨_, e⟩ | ⟨_, _, e⟩ | ⟨_, hs5, e⟩⟩ <;> rw [e] at h1
    · exact ih _ _ hq b h1 h2
    · exact opened hc h1
    · rw [takeSentinel_isOpen] at h1; exact opened hc h1
    · cases ho : ((openBkt s b0).bkt b).isOpen with
      | true => exact opened hc ho
      | false =>
        refine ih _ _ (fun k => ?_) b h1 (by rw [takeSentinel_isOpen]; exact ho)
        rw [takeSentinel_none _ b0 hs5,
          show (openBkt s b0).bkt k = if k = b0 then { s.bkt b0 with isOpen := true } else s.bkt k from rfl]
        by_cases e : k = b0
        · rw [if_pos e, e]
          exact ⟨(hq b0).1, (hq b0).2.1, fun h => by rw [(canOpenNow_facts hc).1] at h; cases h⟩
        · rw [if_neg e]; exact hq k

/-- (C15, and C11's bracket) a sequentially opened bucket is opened inside `on_last_parked` only by
`update_buckets` during a GC: every enabled bucket of its open condition was empty on entry, and an
enabled first stop-the-world bucket was open on entry.  Apart from `Concurrent` no other bucket is
opened and no `enabled` flag changes. -/
theorem onLastParked_opens (c : Cfg) (s s' : State) (tag : Nat) (r : LPR)
    (h : onLastParked c s tag = some (s', r)) (b : Nat) (hb : b ≠ c.concIdx) :
    (s'.bkt b).enabled = (s.bkt b).enabled ∧
    ((s.bkt b).isOpen = false → (s'.bkt b).isOpen = true → s.current = some .gc ∧ OpenCond c s b) := by
  have no {t : State} (ht : ∀ k, (t.bkt k).isOpen = (s.bkt k).isOpen ∧ (t.bkt k).enabled = (s.bkt k).enabled) {P : Prop} :
      (t.bkt b).enabled = (s.bkt b).enabled ∧ ((s.bkt b).isOpen = false → (t.bkt b).isOpen = true → P) :=
    ⟨(ht b).2, fun h1 h2 => by rw [(ht b).1, h1] at h2; cases h2⟩
  rcases onLastParked_cases h with ⟨_, h⟩ | ⟨hcur, _, _, h⟩
  · exact no (fun k => ⟨(respond_flags h k).1, (respond_flags h k).2.1⟩)
  · have upd : (schedSentinels c s).2 = false →
        ((updateBuckets c (schedSentinels c s).1).1.bkt b).enabled = (s.bkt b).enabled ∧
        ((s.bkt b).isOpen = false → ((updateBuckets c (schedSentinels c s).1).1.bkt b).isOpen = true →
          s.current = some .gc ∧ OpenCond c s b) := fun hss => by
      have hbk := schedSentinels_false c s hss
      refine ⟨by rw [updateBuckets_enabled, hbk], fun h1 h2 => ?_⟩
      exact ⟨hcur, updateLoop_opens c s _ (schedSentinels c s).1 false (fun k => by rw [hbk]; exact ⟨rfl, rfl, fun _ => rfl⟩) b
        h2 (by rw [hbk]; exact h1)⟩
    cases h with
    | designated => exact no (fun k => ⟨rfl, rfl⟩)
    | sentinels => exact no (schedSentinels_flags c s)
    | opened _ hss => exact upd hss
    | finished s3 _ hss _ hg he =>
      obtain ⟨u1, u2⟩ := upd hss
      obtain ⟨e3, o3⟩ := onGcFinished_other c _ _ hg b hb
      have fl : (s'.bkt b).isOpen = (s3.bkt b).isOpen ∧ (s'.bkt b).enabled = (s3.bkt b).enabled := by
        rcases he.bkt b with e | ⟨_, _, e⟩ <;> rw [e] <;> exact ⟨rfl, rfl⟩
      exact ⟨by rw [fl.2, e3, u1], fun h1 h2 => u2 h1 (o3 (by rw [← fl.1]; exact h2))⟩

theorem hasDesignated_false {c : Cfg} {s : State} (h : hasDesignated c s = false) (x : Nat) (hx : x < c.n) : s.desig x = [] := by
  unfold hasDesignated at h
  have := List.any_eq_false.mp h x (List.mem_range.mpr hx)
  simpa using this

/-- a sentinel leaves its slot inside `on_last_parked` only on the Gc path, after the last parked
worker has seen every open bucket empty and no designated work -/
theorem onLastParked_sentinel (c : Cfg) (s s' : State) (tag : Nat) (r : LPR) (h : onLastParked c s tag = some (s', r))
    (b : Nat) (hne : (s'.bkt b).sentinel ≠ (s.bkt b).sentinel) :
    s.current = some .gc ∧ allOpenEmpty c s = true ∧ hasDesignated c s = false := by
  rcases onLastParked_cases h with ⟨_, h⟩ | ⟨hcur, _, hao, hp⟩
  · exact absurd (respond_flags h b).2.2 hne
  · cases hp with
    | designated => exact absurd rfl hne
    | sentinels hnd | opened hnd | finished _ hnd => exact ⟨hcur, hao, hnd⟩

theorem onLastParked_current_exit {c : Cfg} {s s' : State} {tag : Nat} {r : LPR} (h : onLastParked c s tag = some (s', r)) :
    ¬ (∃ g, s.current = some g ∧ g.isExit = true) := by
  intro ⟨g, hg, hx⟩
  rcases onLastParked_cases h with ⟨hc, _⟩ | ⟨hc, _⟩ <;> rw [hc] at hg <;> cases hg
  cases hx

/-- what `maybe_schedule_sentinel` and `open` respect -/
def FlagsMono (k k' : Bucket) : Prop :=
  (k.isOpen = true → k'.isOpen = true) ∧ (k.sentinel = none → k'.sentinel = none)

theorem flagsMono_rel : BktRel (fun _ => FlagsMono) :=
  ⟨fun _ _ => ⟨id, id⟩, fun h1 h2 => ⟨h2.1 ∘ h1.1, h2.2 ∘ h1.2⟩⟩

theorem flushed_sentinel (k : Bucket) : k.flushed.sentinel = none := by
  unfold Bucket.flushed; split
  · rfl
  · rename_i h; exact h

theorem flagsMono_flushed (_ : Nat) (k : Bucket) : FlagsMono k k.flushed :=
  ⟨by unfold Bucket.flushed; split <;> exact id, fun _ => flushed_sentinel k⟩

theorem flagsMono_open (_ : Nat) (k : Bucket) : FlagsMono k { k with isOpen := true } := ⟨fun _ => rfl, id⟩

theorem schedLoop_takes (bs : List Nat) : ∀ (s : State), (schedSentinelsLoop s bs false).2 = true →
    ∃ b, b ∈ bs ∧ (s.bkt b).sentinel ≠ none ∧ ((schedSentinelsLoop s bs false).1.bkt b).sentinel = none := by
  induction bs with
  | nil => intro s h; cases h
  | cons b bs ih =>
    intro s h
    unfold schedSentinelsLoop at h ⊢
    split
    · rename_i ho
      rw [if_pos ho] at h
      cases hh : hasSentinel s b with
      | true =>
        refine ⟨b, List.mem_cons_self .., fun e => ?_, ?_⟩
        · unfold hasSentinel at hh; rw [e] at hh; cases hh
        · exact (schedLoop_rel flagsMono_rel flagsMono_flushed bs _ _ b).2
            (by rw [takeSentinel_bkt, if_pos rfl]; exact flushed_sentinel _)
      | false =>
        rw [hh] at h
        obtain ⟨b', hb', h1, h2⟩ := ih _ h
        exact ⟨b', List.mem_cons_of_mem _ hb', by rw [← takeSentinel_none s b hh]; exact h1, h2⟩
    · rename_i ho
      rw [if_neg ho] at h
      obtain ⟨b', hb', h1, h2⟩ := ih _ h
      exact ⟨b', List.mem_cons_of_mem _ hb', h1, h2⟩

theorem updateLoop_opened (c : Cfg) (bs : List Nat) : ∀ (s : State) (u : Bool), (updateLoop c s bs u).2.1 = true →
    u = true ∨ ∃ b, b ∈ bs ∧ (s.bkt b).isOpen = false ∧ ((updateLoop c s bs u).1.bkt b).isOpen = true := by
  induction bs with
  | nil => intro s u h; exact Or.inl h
  | cons b bs ih =>
    intro s u
    have lift : (updateLoop c s bs u).2.1 = true →
        u = true ∨ ∃ b', b' ∈ b :: bs ∧ (s.bkt b').isOpen = false ∧ ((updateLoop c s bs u).1.bkt b').isOpen = true :=
      fun ht => (ih s u ht).imp id (fun ⟨b', hb', h12⟩ => ⟨b', List.mem_cons_of_mem _ hb', h12⟩)
    rcases updateLoop_cons c s b bs u with ⟨_, e⟩ | ⟨h3, ⟨_, e⟩ | ⟨_, _, e⟩ | ⟨_, _, e⟩⟩ <;> rw [e]
    · exact lift
    -- otherwise bucket `b` is opened here, and nothing that follows closes it
    all_goals
      have ho : ((takeSentinel (openBkt s b) b).bkt b).isOpen = true := by
        rw [takeSentinel_isOpen]; exact congrArg Bucket.isOpen (if_pos rfl)
      refine fun _ => Or.inr ⟨b, List.mem_cons_self .., (canOpenNow_facts h3).2.1, ?_⟩
    · exact congrArg Bucket.isOpen (if_pos rfl)
    · exact ho
    · exact (updateLoop_rel flagsMono_rel flagsMono_flushed flagsMono_open c bs _ _ b).1 ho

/-- the four outcomes of `on_last_parked` while the Gc goal is current; `s.reqGc = false` is its assertion -/
theorem onLastParked_gc {c : Cfg} {s s' : State} {tag : Nat} {r : LPR} (h : onLastParked c s tag = some (s', r))
    (hc : s.current = some .gc) :
    s.reqGc = false ∧
    ((s'.gcDone = s.gcDone ∧ r = .wakeAll ∧
       (hasDesignated c s = true ∧ s' = s ∨
        (schedSentinels c s).2 = true ∧ s' = (schedSentinels c s).1 ∨
        (schedSentinels c s).2 = false ∧ (updateBuckets c (schedSentinels c s).1).2 = true ∧
          s' = (updateBuckets c (schedSentinels c s).1).1)) ∨
     (s'.gcDone = s.gcDone + 1 ∧
       ∃ s3, onGcFinished c (updateBuckets c (schedSentinels c s).1).1 = some s3 ∧ GcEnd c s3 tag s' r)) := by
  rcases onLastParked_cases h with ⟨hn, _⟩ | ⟨_, hgc, _, hp⟩
  · rw [hn] at hc; cases hc
  · refine ⟨hgc, ?_⟩
    cases hp with
    | designated hd => exact Or.inl ⟨rfl, rfl, Or.inl ⟨hd, rfl⟩⟩
    | sentinels _ hss => exact Or.inl ⟨(sbb_schedSentinels c s).counters.2.2.1, rfl, Or.inr (Or.inl ⟨hss, rfl⟩)⟩
    | opened _ hss hub => exact Or.inl ⟨(sbb_updated c s).counters.2.2.1, rfl, Or.inr (Or.inr ⟨hss, hub, rfl⟩)⟩
    | finished s3 _ _ _ hg he => exact Or.inr ⟨by rw [he.same, onGcFinished_same hg], s3, hg, he⟩

theorem onLastParked_gc_unfinished {c : Cfg} {s s' : State} {tag : Nat} {r : LPR}
    (h : onLastParked c s tag = some (s', r)) (hc : s.current = some .gc) (hg : s'.gcDone = s.gcDone) :
    r = .wakeAll ∧ SameButBkt s s' ∧ (∀ k, FlagsMono (s.bkt k) (s'.bkt k)) ∧
    ((hasDesignated c s = true ∧ s' = s) ∨
     (∃ b, b < c.L ∧ (s.bkt b).sentinel ≠ none ∧ (s'.bkt b).sentinel = none) ∨
     (∃ b, b < c.L ∧ (s.bkt b).isOpen = false ∧ (s'.bkt b).isOpen = true)) := by
  have m1 := schedSentinels_rel flagsMono_rel flagsMono_flushed c s
  rcases (onLastParked_gc h hc).2 with ⟨_, hr, h3⟩ | ⟨hplus, _⟩
  · refine ⟨hr, ?_⟩
    rcases h3 with ⟨hd, e⟩ | ⟨hss, e⟩ | ⟨hss, hub, e⟩ <;> subst s'
    · exact ⟨SameButBkt.refl s, fun k => flagsMono_rel.refl k _, Or.inl ⟨hd, rfl⟩⟩
    · obtain ⟨b, hb, h1, h2⟩ := schedLoop_takes _ s hss
      exact ⟨sbb_schedSentinels c s, m1, Or.inr (Or.inl ⟨b, List.mem_range.1 hb, h1, h2⟩)⟩
    · refine ⟨sbb_updated c s, fun k => flagsMono_rel.trans (x := k) (m1 k)
        (updateBuckets_rel flagsMono_rel flagsMono_flushed flagsMono_open c _ k), Or.inr (Or.inr ?_)⟩
      have hu : (updateLoop c (schedSentinels c s).1 (List.range c.L) false).2.1 = true :=
        (Bool.and_eq_true_iff.1 hub).1
      rcases updateLoop_opened c _ _ false hu with e | ⟨b, hb, h1, h2⟩
      · cases e
      · exact ⟨b, List.mem_range.1 hb, by rw [← schedSentinels_false c s hss]; exact h1, h2⟩
  · omega

theorem onLastParked_current (c : Cfg) (s s' : State) (tag : Nat) (r : LPR)
    (h : onLastParked c s tag = some (s', r)) (hc : s.current = some .gc) (hg : s'.gcDone = s.gcDone) :
    s'.current = some .gc :=
  (onLastParked_gc_unfinished h hc hg).2.1.current.trans hc

theorem hasDesignated_true {c : Cfg} {s : State} (h : hasDesignated c s = true) : ∃ x, x < c.n ∧ s.desig x ≠ [] := by
  unfold hasDesignated at h
  rw [List.any_eq_true] at h
  obtain ⟨x, hx, hne⟩ := h
  refine ⟨x, List.mem_range.1 hx, ?_⟩
  intro e; rw [e] at hne; simp at hne

end Mmtk.Sched
