import MmtkModel.Lemmas.SchedLiveStep
/-!
# An exit request (`Shutdown` / `StopForFork`) that arrives while a GC is pending or in progress (C16, C14)

`WorkerMonitor::make_request` only sets the request flag and calls `notify_one`; a worker woken by it while
`current == Some(Gc)` finds no packet and parks again.  The request is served by the `respond_to_requests`
call at the end of `on_last_parked` of the park that *completes* the GC.  The lemmas here show that the
request flag is untouched by everything `on_last_parked` does before that call (`schedule_sentinels`,
`update_buckets`, `on_gc_finished`, `on_current_goal_completed`), and what `respond` then does with it.
-/
namespace Mmtk.Sched

theorem respond_exit {c : Cfg} {t s' : State} {tag : Nat} {r : LPR} (h : respond c t tag = some (s', r))
    (hgc : t.reqGc = false) (hreq : t.reqShutdown = true ∨ t.reqFork = true) :
    r = .wakeAll ∧ ∃ g, s'.current = some g ∧ g.isExit = true := by
  rcases (respond_cases h).2 with ⟨h1, _⟩ | ⟨_, _, rfl, rfl⟩ | ⟨_, _, _, rfl, rfl⟩ | ⟨_, h2, h3, _⟩
  · rw [hgc] at h1; cases h1
  · exact ⟨rfl, .shutdown, rfl, rfl⟩
  · exact ⟨rfl, .stopForFork, rfl, rfl⟩
  · rcases hreq with h' | h'
    · rw [h2] at h'; cases h'
    · rw [h3] at h'; cases h'

/-- the `on_last_parked` that completes a GC with an exit request pending: `respond` starts the exit goal, or —
concurrent work was scheduled — the request stays pending with no goal current; `WakeAll` either way -/
theorem onLastParked_completing {c : Cfg} {s s' : State} {tag : Nat} {r : LPR}
    (h : onLastParked c s tag = some (s', r)) (hc : s.current = some .gc) (hd : s'.gcDone ≠ s.gcDone) :
    s.reqGc = false ∧
    ((s.reqShutdown = true ∨ s.reqFork = true) →
      r = .wakeAll ∧
      ((∃ g, s'.current = some g ∧ g.isExit = true) ∨
       (s'.current = none ∧ s'.reqGc = false ∧ s'.reqShutdown = s.reqShutdown ∧ s'.reqFork = s.reqFork))) := by
  obtain ⟨hgc, hcase⟩ := onLastParked_gc h hc
  refine ⟨hgc, fun hreq => ?_⟩
  rcases hcase with ⟨hsame, _⟩ | ⟨_, s3, hg3, h3⟩
  · exact absurd hsame hd
  · -- nothing before the final `respond` touches the requests
    have r1 : s3.reqGc = false := by rw [onGcFinished_same hg3]; exact hgc
    have r2 : s3.reqShutdown = s.reqShutdown := by rw [onGcFinished_same hg3]
    have r3 : s3.reqFork = s.reqFork := by rw [onGcFinished_same hg3]
    rcases h3 with ⟨_, rfl, rfl⟩ | ⟨_, h3⟩
    · exact ⟨rfl, Or.inr ⟨rfl, r1, r2, r3⟩⟩
    · have := respond_exit (t := completeGc s3) h3 r1 (by rw [← r2, ← r3] at hreq; exact hreq)
      exact ⟨this.1, Or.inl this.2⟩

theorem onLastParked_keeps_exit_reqs {c : Cfg} {s s' : State} {tag : Nat} {r : LPR}
    (h : onLastParked c s tag = some (s', r)) (hg : s.reqGc = true ∨ s.current = some .gc)
    (hd : s'.gcDone = s.gcDone) :
    s'.current = some .gc ∧ s'.reqShutdown = s.reqShutdown ∧ s'.reqFork = s.reqFork := by
  rcases onLastParked_cases h with ⟨hn, hre⟩ | ⟨hc, _⟩
  · have hreq : s.reqGc = true := hg.resolve_right (by rw [hn]; exact fun e => nomatch e)
    rcases (respond_cases hre).2 with ⟨_, rfl, _⟩ | ⟨h', _⟩ | ⟨h', _⟩ | ⟨h', _⟩
    · exact ⟨rfl, rfl, rfl⟩
    all_goals rw [hreq] at h'; cases h'
  · obtain ⟨_, hb, _⟩ := onLastParked_gc_unfinished h hc hd
    exact ⟨hb.current.trans hc, hb.reqs.2.1, hb.reqs.2.2⟩

/-- the `park` step that completes a GC (`gcDone` changes) while a `Shutdown` /
`StopForFork` request is pending.  That step is the park of the last parker with the Gc goal current and no Gc
request pending; every other worker is woken by it, and either the exit goal is now current and the parker has
left its loop (`respond_to_requests` started the goal: stop-the-world GC / final pause), or — concurrent work was
scheduled — no goal is current, the exit request is still pending and the parker is polling again. -/
theorem exit_request_survives_gc {c : Cfg} {s s' : State} {w tag : Nat} (hr : Reachable c s)
    (hs : step c s (.park w tag) = some s') (hd : s'.gcDone ≠ s.gcDone)
    (hreq : s.reqShutdown = true ∨ s.reqFork = true) :
    s.current = some .gc ∧ s.parked + 1 = c.n ∧ s.reqGc = false ∧ s'.creation = s.creation ∧
    (∀ x, x < c.n → x ≠ w → s'.pc x = .woken) ∧
    (((∃ g, s'.current = some g ∧ g.isExit = true) ∧ s'.pc w = .exited) ∨
     (s'.current = none ∧ s'.reqGc = false ∧ (s'.reqShutdown = true ∨ s'.reqFork = true) ∧ s'.pc w = .polling [])) := by
  rcases (step_park_eff hs).2.2 with ⟨_, e⟩ | ⟨hlast, s1, r, pcs, k, hl, _, rfl⟩
  · rw [e] at hd; exact absurd rfl hd
  · have hc := (onLastParked_gcDone_ne hl hd).1
    obtain ⟨hgc, hrest⟩ := onLastParked_completing hl hc hd
    obtain ⟨rfl, hcases⟩ := hrest hreq
    obtain ⟨hothers, hself, hexit⟩ := step_park_wakeAll_pcs hr hs hlast hl
    refine ⟨hc, hlast, hgc, (frame_onLastParked hl).creation, hothers, ?_⟩
    rcases hcases with ⟨g, hg1, hg2⟩ | ⟨hn1, hn2, hn3, hn4⟩
    · exact Or.inl ⟨⟨g, hg1, hg2⟩, hexit g hg1 hg2⟩
    · refine Or.inr ⟨hn1, hn2, ?_, hself fun g hg => nomatch hn1.symm.trans hg⟩
      show s1.reqShutdown = true ∨ s1.reqFork = true
      rw [hn3, hn4]; exact hreq

end Mmtk.Sched
