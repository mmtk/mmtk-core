import MmtkModel.Model.CasBit
/-!
# C18 tie: the verdict on a real-thread race of one mark / log / pin helper on ONE object

`outcomeOk P f0 final trues env`: `trues` threads returned `true`, the field went from `f0`
to `final`; `env` = something else changed the neighbouring bits of the byte concurrently.
`Props/C18.lean` proves (`outcome_sound`) that every finished run of the model satisfies it.
-/
namespace Mmtk.CasBit

def outcomeOk (P : Proto) (f0 final trues : Nat) (env : Bool) : Bool :=
  if P.single then
    if !env && f0 == P.old0 then trues == 1 && final == P.next f0
    else (trues == 0 && final == f0) || (trues == 1 && final == P.next f0)
  else
    if P.isDone f0 then trues == 0 && final == f0 else trues == 1 && final == P.next f0

/-- number of threads among `0..n-1` that returned `true` -/
def trues (n : Nat) (s : State) : Nat :=
  ((List.range n).filter (fun x => decide (s.pc x = .ret true))).length

/-- `unpin_object`: one compare_exchange 1 → 0. -/
def unpinProto : Proto := { isDone := (· == 0), next := fun _ => 0, single := true, old0 := 1 }
/-- LOS `test_and_mark(value)` in a nursery GC (`mask = LOS_BIT_MASK = 0b11`), 2-bit field. -/
def losNurseryProto (value : Nat) : Proto :=
  { isDone := fun v => v % 4 == value, next := fun v => v / 4 * 4 + value, single := false, old0 := 0 }

end Mmtk.CasBit
