import MmtkModel.Model.BlockPool
/-!
# C19 tie: the verdict on a real-thread history of a `BlockPool`

The harness lets `W` worker threads push the distinct blocks `0 .. N-1` while popper threads pop
concurrently; when all have returned it reports the blocks popped, the blocks still held
(`iterate_blocks`) and `len()`; then, optionally after `flush_all`, it drains the pool sequentially.
`raceOk` puts the conclusions of the C19 theorems at quiescence as an executable predicate.
`Props/C19.lean` proves of the model its first two conjuncts in these terms (`race_outcome_sound`:
`partitionOk` and `lenAfter = |held|`); for the drain after `flush_all` it has `flush_makes_poppable`,
stated about the model's `popAll`, not about `raceOk`; the drain without a flush has no theorem.
-/
namespace Mmtk.BlockPool

/-- `popped ⊎ held` is exactly `{0, …, N-1}`, each once -/
def partitionOk (N : Nat) (popped held : List Nat) : Bool :=
  (popped ++ held).length == N && (List.range N).all (fun b => (popped ++ held).count b == 1)

def subList (a b : List Nat) : Bool := a.all (fun x => a.count x ≤ b.count x)

structure RaceObs where
  pushedN : Nat
  popped : List Nat
  lenAfter : Nat
  held : List Nat
  flush : Bool
  drained : List Nat
  lenEnd : Nat

def raceOk (o : RaceObs) : Bool :=
  partitionOk o.pushedN o.popped o.held && o.lenAfter == o.held.length &&
  subList o.drained o.held && o.lenEnd + o.drained.length == o.held.length &&
  (!o.flush || o.lenEnd == 0)

end Mmtk.BlockPool
