import MmtkModel.Lemmas.TraceStep
/-!
# C01 (algorithm) — the tracing closure preserves the reachable graph, for EVERY schedule

Model: `Model/Trace.lean` (transcribed from `plan/tracing/gc_work/closure.rs` and the policies'
`trace_object`).  A *run* is an arbitrary list of natural numbers: the k-th number says which of the
currently pending slots is processed next (numbers beyond the list stutter), so the theorems hold
for every order in which any number of GC workers may pick slots out of any packets; `moves`
(policy × pinning × "copy reserve exhausted") is universally quantified as well.  Atomicity of the
single `trace_object` is C17 (`Props/C17.lean`).

For every well-formed snapshot (`WF`: every reference points to an allocated object):

* termination: the measure `Σ_{unvisited allocated o} (nfields o + 1) + |pending|` strictly decreases
  on every non-stuttering step, so at most `Σ_o (nfields o + 1) + |roots|` steps of any run are
  effective, and the work list can always be drained;
* every run that ends with `pending = []` has visited exactly the reachable objects, and `fwd` is an
  isomorphism from the reachable part of the snapshot onto the to-space (`trace_iso`; the other
  statements about finished runs are read off it and the invariant of `Lemmas/TraceInv.lean`);
* two-phase collectors: mark (the closure with `moves = false`) → any forwarding `F` injective on the
  marked objects → update + move (`twoPhase_iso`).  For MarkCompact's linear-scan forwarding the
  hypothesis on `F` is discharged here (`slide_injective`, hence `markCompact_iso`); for the
  Compressor it is what C37 proves of its forwarding (not instantiated here).

What the model cannot exhibit (so these theorems do not cover it): memory-safety faults, torn
copies, weak-memory effects, and address-level clobbering during in-place compaction.
-/
namespace Mmtk.Trace

variable {S : Snap} {moves : Id → Bool}

theorem measure_init (S : Snap) (B : Nat) : measure S B (init S) = initialWork S B := by
  simp only [measure, initialWork, init, List.length_map, List.length_range]
  congr 1
  apply sumTo_congr
  intro i _
  simp only [owed]
  cases S.heap i <;> rfl

theorem trace_step_decreases (S : Snap) (moves : Id → Bool) (B : Nat)
    (hB : ∀ i, (S.heap i).isSome = true → i < B) (st : State) (i : Nat) :
    (i < st.pending.length → measure S B (processSlot S moves st i) < measure S B st) ∧
    (st.pending.length ≤ i → processSlot S moves st i = st) :=
  ⟨step_decreases S moves B hB st i, step_stutter S moves st i⟩

/-- in ANY run (of any length, any schedule, any `moves`) at most `initialWork` steps do anything; all the others
stutter.  (No well-formedness needed.) -/
theorem trace_terminates (S : Snap) (moves : Id → Bool) (B : Nat)
    (hB : ∀ i, (S.heap i).isSome = true → i < B) (run : List Nat) :
    effSteps S moves (init S) run ≤ initialWork S B := by
  have := effSteps_le S moves B hB run (init S)
  rw [measure_init] at this; omega

theorem trace_final_stable (S : Snap) (moves : Id → Bool) (st : State) (h : st.pending = [])
    (run : List Nat) : exec S moves st run = st := exec_nil_pending S moves run st h

/-- the hypothesis `pending = []` of the theorems below is satisfiable for every snapshot — e.g. the schedule
"always take the first pending slot" drains the list within `initialWork` steps. -/
theorem trace_completes (S : Snap) (moves : Id → Bool) (B : Nat)
    (hB : ∀ i, (S.heap i).isSome = true → i < B) :
    (exec S moves (init S) (List.replicate (initialWork S B) 0)).pending = [] :=
  drain S moves B hB _ _ (by rw [measure_init]; exact Nat.le_refl _)

theorem collect_finished (S : Snap) (moves : Id → Bool) (B : Nat)
    (hB : ∀ i, (S.heap i).isSome = true → i < B) : (collect S moves B).pending = [] :=
  trace_completes S moves B hB

theorem run_inv (wf : WF S) (run : List Nat) : Inv S moves (exec S moves (init S) run) :=
  exec_inv wf run (init_inv S moves)

theorem done_rel {st : State} (inv : Inv S moves st) (hfin : st.pending = []) {sl : Slot} {r : Id}
    (hc : Covered S st sl (some r)) : ∃ m, readSlot st sl = .new m ∧ st.fwd r = some m := by
  have h := inv.slots sl (some r) hc
  simp only [SlotRel, hfin, List.not_mem_nil, and_false, false_or] at h
  exact h

theorem done_read {st : State} (inv : Inv S moves st) (hfin : st.pending = []) {sl : Slot} {x : Option Id}
    (hc : Covered S st sl x) : readSlot st sl = mapRef st.fwd x := by
  cases x with
  | none => exact inv.slots sl none hc
  | some r =>
    obtain ⟨m, h1, h2⟩ := done_rel inv hfin hc
    simp only [h1, mapRef, h2]

theorem reach_fwd {st : State} (inv : Inv S moves st) (hfin : st.pending = []) {o : Id}
    (h : Reach S o) : ∃ n, st.fwd o = some n := by
  induction h with
  | root hr =>
    obtain ⟨k, hk⟩ := List.mem_iff_getElem?.mp hr
    obtain ⟨m, -, hm⟩ := done_rel (sl := .root k) inv hfin hk
    exact ⟨m, hm⟩
  | field _ ho hr ih =>
    obtain ⟨n, hn⟩ := ih
    obtain ⟨j, hj⟩ := List.mem_iff_getElem?.mp hr
    obtain ⟨m, -, hm⟩ := done_rel (sl := .field n j) inv hfin ⟨_, _, hn, ho, hj⟩
    exact ⟨m, hm⟩

/-- when the closure has finished, exactly the objects reachable from the roots have been visited (forwarded /
marked) — nothing reachable is missed, no garbage is retained by the trace. -/
theorem trace_reach_exact (wf : WF S) (run : List Nat)
    (hfin : (exec S moves (init S) run).pending = []) (o : Id) :
    ((exec S moves (init S) run).fwd o).isSome = true ↔ Reach S o := by
  have inv : Inv S moves _ := run_inv wf run
  exact Option.isSome_iff_exists.trans ⟨fun ⟨n, hn⟩ => inv.reach o n hn, reach_fwd inv hfin⟩

/-- distinct objects never merge, in every state of every run (finished or not). -/
theorem trace_injective (wf : WF S) (run : List Nat) (a b n : Id)
    (ha : (exec S moves (init S) run).fwd a = some n) (hb : (exec S moves (init S) run).fwd b = some n) :
    a = b :=
  (run_inv wf run).inj a b n ha hb

theorem eq_map_of_getD {vs : List Val} {xs : List (Option Id)} {f : Option Id → Val}
    (hlen : vs.length = xs.length) (h : ∀ (j : Nat) x, xs[j]? = some x → (vs[j]?).getD .null = f x) :
    vs = xs.map f := by
  refine List.ext_getElem (hlen.trans (List.length_map f).symm) fun j h1 h2 => ?_
  have hj : j < xs.length := hlen ▸ h1
  have := h j xs[j] (List.getElem?_eq_getElem hj)
  rwa [List.getElem?_eq_getElem h1, Option.getD_some, ← List.getElem_map f] at this

/-- after a finished run, `fwd` is an isomorphism from the reachable part of the snapshot onto the to-space: headers
are kept (`moved = moves o`), fields and root slots hold the forwarded referents, and every referent is itself forwarded. -/
theorem trace_iso (wf : WF S) (run : List Nat)
    (hfin : (exec S moves (init S) run).pending = []) :
    let st := exec S moves (init S) run
    (∀ o obj, Reach S o → S.heap o = some obj →
      ∃ n t, st.fwd o = some n ∧ st.tobjs n = some t ∧ t.size = obj.size ∧ t.hash = obj.hash ∧
        t.moved = moves o ∧ t.fields = obj.fields.map (mapRef st.fwd) ∧
        ∀ x, some x ∈ obj.fields → ∃ m, st.fwd x = some m) ∧
    st.troots = S.roots.map (mapRef st.fwd) ∧
    (∀ x, some x ∈ S.roots → ∃ m, st.fwd x = some m) := by
  intro st
  have inv : Inv S moves st := run_inv wf run
  refine ⟨?_, eq_map_of_getD inv.rootsLen fun k x hx => done_read inv hfin (sl := .root k) hx,
    fun x hx => reach_fwd inv hfin (Reach.root hx)⟩
  intro o obj hreach hobj
  obtain ⟨n, hn⟩ := reach_fwd inv hfin hreach
  obtain ⟨o', ho', hh⟩ := inv.hdr o n hn
  cases ho'.symm.trans hobj
  obtain ⟨t, ht, hh⟩ := Option.map_eq_some_iff.1 hh
  simp only [hdr, Prod.mk.injEq] at hh
  obtain ⟨h1, h2, h3, h4⟩ := hh
  exact ⟨n, t, hn, ht, h1, h2, h3,
    eq_map_of_getD h4 fun j x hx => (read_field ht j).symm.trans (done_read inv hfin ⟨o, _, hn, hobj, hx⟩),
    fun x hx => reach_fwd inv hfin (Reach.field hreach hobj hx)⟩

/-- the to-space contains nothing but the images of reachable objects (in every state of every run). -/
theorem trace_onto (wf : WF S) (run : List Nat) (n : Id) (t : TObj)
    (ht : (exec S moves (init S) run).tobjs n = some t) :
    ∃ o, Reach S o ∧ (exec S moves (init S) run).fwd o = some n := by
  have inv : Inv S moves _ := run_inv wf run
  obtain ⟨o, ho⟩ := inv.onto n (by simp [ht])
  exact ⟨o, inv.reach o n ho, ho⟩

theorem valRef_mapRef (fwd : Id → Option Id) (x : Option Id) : valRef (mapRef fwd x) = x.bind fwd := by
  cases x with
  | none => rfl
  | some y =>
    simp only [mapRef, Option.bind_some]
    cases h : fwd y <;> simp [valRef]

theorem map_valRef_mapRef (fwd : Id → Option Id) (xs : List (Option Id)) :
    (xs.map (mapRef fwd)).map valRef = xs.map (fun x => x.bind fwd) := by
  rw [List.map_map]
  exact List.map_congr_left fun x _ => valRef_mapRef fwd x

/-- `trace_iso` in snapshot form (`toSnap`). -/
theorem trace_iso_snap (wf : WF S) (run : List Nat)
    (hfin : (exec S moves (init S) run).pending = []) :
    let st := exec S moves (init S) run
    (∀ o obj, Reach S o → S.heap o = some obj →
      ∃ n, st.fwd o = some n ∧
        (toSnap st).heap n = some ⟨obj.size, obj.hash, obj.fields.map (fun x => x.bind st.fwd)⟩) ∧
    (toSnap st).roots = S.roots.map (fun x => x.bind st.fwd) := by
  intro st
  obtain ⟨h1, h2, -⟩ := trace_iso wf run hfin
  refine ⟨?_, ?_⟩
  · intro o obj hr ho
    obtain ⟨n, t, a1, a2, a3, a4, -, a6, -⟩ := h1 o obj hr ho
    refine ⟨n, a1, ?_⟩
    simp only [toSnap]
    rw [a2]
    simp only [Option.map_some, Option.some.injEq, Obj.mk.injEq]
    exact ⟨a3, a4, a6 ▸ map_valRef_mapRef _ _⟩
  · exact (congrArg (List.map valRef) h2).trans (map_valRef_mapRef _ _)

/-- after a finished run the objects reachable from the (updated) roots in the new heap are exactly the copies of the
objects that were reachable before. -/
theorem trace_still_reachable (wf : WF S) (run : List Nat)
    (hfin : (exec S moves (init S) run).pending = []) (n : Id) :
    Reach (toSnap (exec S moves (init S) run)) n ↔
      ∃ o, Reach S o ∧ (exec S moves (init S) run).fwd o = some n := by
  obtain ⟨hobj, hroots⟩ := trace_iso_snap wf run hfin
  constructor
  · intro h
    induction h with
    | @root m hm =>
      rw [hroots] at hm
      obtain ⟨x, hx, hxm⟩ := List.mem_map.mp hm
      cases x with
      | none => cases hxm
      | some y => exact ⟨y, Reach.root hx, hxm⟩
    | @field i ob m _ hi hm ih =>
      obtain ⟨o, ho, hfo⟩ := ih
      obtain ⟨obj, hobj'⟩ := Option.isSome_iff_exists.mp (ho.alloc wf)
      obtain ⟨n', hn', hheap⟩ := hobj o obj ho hobj'
      cases hfo.symm.trans hn'
      cases hheap.symm.trans hi
      obtain ⟨x, hx, hxm⟩ := List.mem_map.mp hm
      cases x with
      | none => cases hxm
      | some y => exact ⟨y, Reach.field ho hobj' hx, hxm⟩
  · rintro ⟨o, ho, hfo⟩
    induction ho generalizing n with
    | @root r hr =>
      apply Reach.root
      rw [hroots]
      exact List.mem_map.mpr ⟨some r, hr, hfo⟩
    | @field i ob r hi hob hr ih =>
      obtain ⟨ni, hni, hheap⟩ := hobj i ob hi hob
      exact Reach.field (ih ni hni) hheap (List.mem_map.mpr ⟨some r, hr, hfo⟩)

/-- two finished runs (different schedules, e.g. the real collector's and the reference collector's) produce the
same heap up to the names of the to-objects. -/
theorem trace_schedule_independent (wf : WF S) (run₁ run₂ : List Nat)
    (h₁ : (exec S moves (init S) run₁).pending = []) (h₂ : (exec S moves (init S) run₂).pending = []) :
    let st₁ := exec S moves (init S) run₁
    let st₂ := exec S moves (init S) run₂
    (∀ o, (st₁.fwd o).isSome = (st₂.fwd o).isSome) ∧
    (∀ o obj, Reach S o → S.heap o = some obj →
      ∃ n₁ t₁ n₂ t₂, st₁.fwd o = some n₁ ∧ st₁.tobjs n₁ = some t₁ ∧ st₂.fwd o = some n₂ ∧
        st₂.tobjs n₂ = some t₂ ∧ t₁.size = t₂.size ∧ t₁.hash = t₂.hash ∧ t₁.moved = t₂.moved ∧
        t₁.fields = obj.fields.map (mapRef st₁.fwd) ∧ t₂.fields = obj.fields.map (mapRef st₂.fwd)) ∧
    st₁.troots = S.roots.map (mapRef st₁.fwd) ∧ st₂.troots = S.roots.map (mapRef st₂.fwd) := by
  intro st₁ st₂
  have i₁ := trace_iso wf run₁ h₁
  have i₂ := trace_iso wf run₂ h₂
  refine ⟨?_, ?_, i₁.2.1, i₂.2.1⟩
  · -- both mark tables are reachability
    exact fun o => Bool.eq_iff_iff.2
      ((trace_reach_exact wf run₁ h₁ o).trans (trace_reach_exact wf run₂ h₂ o).symm)
  · intro o obj hr ho
    obtain ⟨n₁, t₁, a1, a2, a3, a4, a5, a6, -⟩ := i₁.1 o obj hr ho
    obtain ⟨n₂, t₂, b1, b2, b3, b4, b5, b6, -⟩ := i₂.1 o obj hr ho
    exact ⟨n₁, t₁, n₂, t₂, a1, a2, b1, b2, by rw [a3, b3], by rw [a4, b4], by rw [a5, b5], a6, b6⟩

inductive SSlot where
  | root (k : Nat)
  | field (o : Id) (j : Nat)

/-- what a snapshot slot held (`none` = no such slot) -/
def snapRead (S : Snap) : SSlot → Option (Option Id)
  | .root k => S.roots[k]?
  | .field o j => (S.heap o).bind (fun ob => ob.fields[j]?)

def SSlot.live (S : Snap) : SSlot → Prop
  | .root _ => True
  | .field o _ => Reach S o

/-- where the slot is after the collection -/
def image (st : State) : SSlot → Option Slot
  | .root k => some (.root k)
  | .field o j => (st.fwd o).map (fun n => Slot.field n j)

theorem live_slot_done {st : State} (inv : Inv S moves st) (hfin : st.pending = []) {s : SSlot} {x : Id}
    (hl : s.live S) (hx : snapRead S s = some (some x)) :
    ∃ sl m, image st s = some sl ∧ readSlot st sl = .new m ∧ st.fwd x = some m := by
  cases s with
  | root k =>
    obtain ⟨m, h1, h2⟩ := done_rel (sl := .root k) inv hfin hx
    exact ⟨.root k, m, rfl, h1, h2⟩
  | field o j =>
    obtain ⟨n, hn⟩ := reach_fwd inv hfin hl
    obtain ⟨ob, ho, hx⟩ := Option.bind_eq_some_iff.1 hx
    obtain ⟨m, h1, h2⟩ := done_rel (sl := .field n j) inv hfin ⟨o, ob, hn, ho, hx⟩
    exact ⟨.field n j, m, by simp [image, hn], h1, h2⟩

/-- two live slots of the snapshot (root slots or fields of reachable objects) that held references `x` and `y` hold,
after a finished run and at their new places, references to the copies of `x` and `y`, equal iff `x = y`. -/
theorem trace_identity (wf : WF S) (run : List Nat)
    (hfin : (exec S moves (init S) run).pending = []) (s₁ s₂ : SSlot) (x y : Id)
    (hl₁ : s₁.live S) (hl₂ : s₂.live S)
    (h₁ : snapRead S s₁ = some (some x)) (h₂ : snapRead S s₂ = some (some y)) :
    let st := exec S moves (init S) run
    ∃ sl₁ sl₂ m₁ m₂, image st s₁ = some sl₁ ∧ image st s₂ = some sl₂ ∧
      readSlot st sl₁ = .new m₁ ∧ readSlot st sl₂ = .new m₂ ∧
      st.fwd x = some m₁ ∧ st.fwd y = some m₂ ∧ (m₁ = m₂ ↔ x = y) := by
  intro st
  have inv : Inv S moves st := run_inv wf run
  obtain ⟨sl₁, m₁, a1, a2, a3⟩ := live_slot_done inv hfin hl₁ h₁
  obtain ⟨sl₂, m₂, b1, b2, b3⟩ := live_slot_done inv hfin hl₂ h₂
  refine ⟨sl₁, sl₂, m₁, m₂, a1, b1, a2, b2, a3, b3, ?_, ?_⟩
  · intro e; subst e; exact inv.inj x y m₁ a3 b3
  · intro e; subst e; rw [a3] at b3; exact Option.some.inj b3

theorem fold_compact (S : Snap) (F : Id → Id) (l : List Id) (T : Id → Option Obj) (a : Id) :
    (∃ r, r ∈ l ∧ F r = a ∧ ∃ o, S.heap r = some o ∧ (l.foldl (compactStep S F) T) a = some (updObj F o)) ∨
    ((∀ r, r ∈ l → F r = a → S.heap r = none) ∧ (l.foldl (compactStep S F) T) a = T a) := by
  induction l generalizing T with
  | nil => exact .inr ⟨nofun, rfl⟩
  | cons r' l ih =>
    rw [List.foldl_cons]
    rcases ih (compactStep S F T r') with ⟨r, hr, e, h⟩ | ⟨hnone, h⟩
    · exact .inl ⟨r, List.mem_cons_of_mem _ hr, e, h⟩
    · -- nothing later in the scan lands on `a`: it is `r'` that decides
      cases ho' : S.heap r' with
      | none =>
        exact .inr ⟨fun r hr e => (List.mem_cons.1 hr).elim (· ▸ ho') (hnone r · e),
          h.trans (by simp only [compactStep, ho'])⟩
      | some o' =>
        have hs : compactStep S F T r' a = if a = F r' then some (updObj F o') else T a := by
          simp only [compactStep, ho']
        by_cases e : a = F r'
        · exact .inl ⟨r', List.mem_cons_self, e.symm, o', ho', h.trans (hs.trans (if_pos e))⟩
        · exact .inr ⟨fun r hr e' => (List.mem_cons.1 hr).elim (fun h' => absurd (h' ▸ e').symm e) (hnone r · e'),
            h.trans (hs.trans (if_neg e))⟩

theorem mem_scanMarked (st : State) (B : Nat) (r : Id) :
    r ∈ scanMarked st B ↔ r < B ∧ markedBy st r = true := by
  simp [scanMarked]

/-- **twoPhase_iso** (MarkCompact, Compressor): phase 1 is the closure with `moves = false`
(nothing moves, no slot changes: the mark phase); then ANY forwarding function `F` that is injective
on the marked objects; then update-and-move over the linear scan of marked objects.  The result is
isomorphic to the reachable part of the snapshot via `F`: every reachable object sits at `F o` with
its size, hash and fields `x ↦ F x`; every root slot holds `F` of its referent (by definition of `compactRoots`); nothing else is in
the compacted heap; `F` merges no two reachable objects; the mark table is exactly reachability. -/
theorem twoPhase_iso (wf : WF S) (B : Nat) (hB : ∀ i, (S.heap i).isSome = true → i < B)
    (run : List Nat) (hfin : (exec S (fun _ => false) (init S) run).pending = [])
    (F : Id → Id)
    (hF : ∀ a b, markedBy (exec S (fun _ => false) (init S) run) a = true →
      markedBy (exec S (fun _ => false) (init S) run) b = true → F a = F b → a = b) :
    let st := exec S (fun _ => false) (init S) run
    let T' := compact S F st B
    (∀ r, markedBy st r = true ↔ Reach S r) ∧
    (∀ o obj, Reach S o → S.heap o = some obj →
      T' (F o) = some { size := obj.size, hash := obj.hash, fields := obj.fields.map (Option.map F) }) ∧
    compactRoots S F = S.roots.map (Option.map F) ∧
    (∀ a t, T' a = some t → ∃ o, Reach S o ∧ F o = a) ∧
    (∀ a b, Reach S a → Reach S b → F a = F b → a = b) ∧
    (∀ o, Reach S o → ∃ n t, st.fwd o = some n ∧ st.tobjs n = some t ∧ t.moved = false) := by
  intro st T'
  have hmark : ∀ r, markedBy st r = true ↔ Reach S r := fun r => trace_reach_exact wf run hfin r
  refine ⟨hmark, ?_, rfl, ?_, ?_, ?_⟩
  · intro o obj hreach hobj
    have hm : markedBy st o = true := (hmark o).mpr hreach
    have hoB : o < B := hB o (by simp [hobj])
    have hmem := (mem_scanMarked st B o).mpr ⟨hoB, hm⟩
    rcases fold_compact S F (scanMarked st B) (fun _ => none) (F o) with ⟨r, hr, e, o', ho', h⟩ | ⟨hnone, -⟩
    · -- the scanned object forwarded to `F o` is `o` itself
      cases hF r o ((mem_scanMarked st B r).mp hr).2 hm e
      cases hobj.symm.trans ho'
      exact h
    · cases hobj.symm.trans (hnone o hmem rfl)
  · intro a t h
    rcases fold_compact S F (scanMarked st B) (fun _ => none) a with ⟨r, hr, e, -⟩ | ⟨-, h'⟩
    · exact ⟨r, (hmark r).mp ((mem_scanMarked st B r).mp hr).2, e⟩
    · cases h.symm.trans h'
  · intro a b ha hb e
    exact hF a b ((hmark a).mpr ha) ((hmark b).mpr hb) e
  · intro o hreach
    obtain ⟨obj, hobj⟩ := Option.isSome_iff_exists.mp (hreach.alloc wf)
    obtain ⟨n, t, h1, h2, -, -, h5, -⟩ := (trace_iso wf run hfin).1 o obj hreach hobj
    exact ⟨n, t, h1, h2, h5⟩

section Scan
variable {marked : Id → Bool} {pad : LObj → Nat → Nat} {cur : Nat}

theorem slideF_some {objs : List LObj} {x : Id} {a : Nat} (h : slideF marked pad cur objs x = some a) :
    cur ≤ a ∧ marked x = true ∧ ∃ o, o ∈ objs ∧ o.id = x := by
  induction objs generalizing cur with
  | nil => cases h
  | cons o rest ih =>
    have lift : ∀ {c}, cur ≤ c → slideF marked pad c rest x = some a →
        cur ≤ a ∧ marked x = true ∧ ∃ o', o' ∈ o :: rest ∧ o'.id = x := by
      intro c hc h'
      obtain ⟨h1, h2, o', ho', h3⟩ := ih h'
      exact ⟨Nat.le_trans hc h1, h2, o', List.mem_cons_of_mem _ ho', h3⟩
    simp only [slideF] at h
    split at h
    · rename_i hm
      split at h
      · rename_i hx
        exact ⟨Option.some.inj h ▸ Nat.le_add_right _ _, hx ▸ hm, o, List.mem_cons_self, hx.symm⟩
      · exact lift (Nat.le_trans (Nat.le_add_right _ _) (Nat.le_add_right _ _)) h
    · exact lift (Nat.le_refl _) h

theorem slideF_cons_ne {o : LObj} {rest : List LObj} {x : Id} (h : x ≠ o.id) :
    slideF marked pad cur (o :: rest) x =
      slideF marked pad (if marked o.id then cur + pad o cur + o.size else cur) rest x := by
  simp only [slideF, if_neg h]
  split <;> rfl

theorem slideF_cons_self {o : LObj} {rest : List LObj} {a : Nat} (hfresh : ∀ o', o' ∈ rest → o'.id ≠ o.id)
    (h : slideF marked pad cur (o :: rest) o.id = some a) : marked o.id = true ∧ a = cur + pad o cur := by
  simp only [slideF, if_true] at h
  split at h
  · next hm => exact ⟨hm, (Option.some.inj h).symm⟩
  · obtain ⟨-, -, o', ho', hid⟩ := slideF_some h
    exact absurd hid (hfresh o' ho')

theorem slideF_total {objs : List LObj} {o : LObj} (ho : o ∈ objs) (hm : marked o.id = true) :
    ∃ a, slideF marked pad cur objs o.id = some a := by
  induction objs generalizing cur with
  | nil => cases ho
  | cons o' rest ih =>
    by_cases hx : o.id = o'.id
    · exact ⟨cur + pad o' cur, by simp only [slideF, ← hx, hm, if_true]⟩
    · rw [slideF_cons_ne hx]
      exact ih ((List.mem_cons.mp ho).resolve_left fun e => hx (e ▸ rfl))

end Scan

theorem slide_nonoverlap (marked : Id → Bool) (pad : LObj → Nat → Nat) (objs : List LObj) (cur : Nat)
    (hnd : (objs.map LObj.id).Nodup) (o₁ o₂ : LObj) (h₁ : o₁ ∈ objs) (h₂ : o₂ ∈ objs) (hne : o₁ ≠ o₂)
    (a b : Nat) (ha : slideF marked pad cur objs o₁.id = some a)
    (hb : slideF marked pad cur objs o₂.id = some b) :
    a + o₁.size ≤ b ∨ b + o₂.size ≤ a := by
  induction objs generalizing cur with
  | nil => cases h₁
  | cons o rest ih =>
    simp only [List.map_cons, List.nodup_cons, List.mem_map, not_exists, not_and] at hnd
    obtain ⟨hfresh, hnd'⟩ := hnd
    rcases List.mem_cons.mp h₁ with rfl | e₁ <;> rcases List.mem_cons.mp h₂ with rfl | e₂
    · exact absurd rfl hne
    · -- `o₁` is the head: everything later is forwarded from beyond its extent
      obtain ⟨hm, rfl⟩ := slideF_cons_self hfresh ha
      rw [slideF_cons_ne (hfresh o₂ e₂), if_pos hm] at hb
      exact .inl (slideF_some hb).1
    · obtain ⟨hm, rfl⟩ := slideF_cons_self hfresh hb
      rw [slideF_cons_ne (hfresh o₁ e₁), if_pos hm] at ha
      exact .inr (slideF_some ha).1
    · rw [slideF_cons_ne (hfresh _ e₁)] at ha
      rw [slideF_cons_ne (hfresh _ e₂)] at hb
      exact ih _ hnd' e₁ e₂ ha hb

/-- the hypothesis of `twoPhase_iso`, discharged for the sliding forwarding `F x = (slideF … x).getD 0`. -/
theorem slide_injective (marked : Id → Bool) (pad : LObj → Nat → Nat) (objs : List LObj) (cur : Nat)
    (hnd : (objs.map LObj.id).Nodup) (hpos : ∀ o, o ∈ objs → 0 < o.size)
    (hall : ∀ x, marked x = true → ∃ o, o ∈ objs ∧ o.id = x)
    (x y : Id) (hx : marked x = true) (hy : marked y = true)
    (h : (slideF marked pad cur objs x).getD 0 = (slideF marked pad cur objs y).getD 0) : x = y := by
  obtain ⟨o₁, h₁, rfl⟩ := hall x hx
  obtain ⟨o₂, h₂, rfl⟩ := hall y hy
  obtain ⟨a, ha⟩ := slideF_total (pad := pad) (cur := cur) h₁ hx
  obtain ⟨b, hb⟩ := slideF_total (pad := pad) (cur := cur) h₂ hy
  rw [ha, hb] at h
  simp only [Option.getD_some] at h
  by_cases e : o₁ = o₂
  · rw [e]
  · have := slide_nonoverlap marked pad objs cur hnd o₁ o₂ h₁ h₂ e a b ha hb
    have p1 := hpos o₁ h₁
    have p2 := hpos o₂ h₂
    omega

/-- (why compacting in address order never clobbers an object that has not been moved yet) every object slides
downwards, `F o ≤ addr o`, if the objects lie in address order without overlap, the cursor starts at or below the first
one, and the padding keeps a cursor that is `≤` an object's address `≤` that address. -/
theorem slide_le (marked : Id → Bool) (pad : LObj → Nat → Nat) (objs : List LObj) (cur : Nat)
    (hnd : (objs.map LObj.id).Nodup)
    (hsorted : objs.Pairwise (fun p q => p.addr + p.size ≤ q.addr))
    (hcur : ∀ o, o ∈ objs → cur ≤ o.addr)
    (hpad : ∀ o c, c ≤ o.addr → c + pad o c ≤ o.addr)
    (o : LObj) (ho : o ∈ objs) (a : Nat) (ha : slideF marked pad cur objs o.id = some a) :
    a ≤ o.addr ∧ ∀ o', o' ∈ objs → o.addr + o.size ≤ o'.addr → a + o.size ≤ o'.addr := by
  suffices h : a ≤ o.addr from ⟨h, fun o' _ h' => Nat.le_trans (Nat.add_le_add_right h _) h'⟩
  induction objs generalizing cur with
  | nil => cases ho
  | cons o₀ rest ih =>
    simp only [List.map_cons, List.nodup_cons, List.mem_map, not_exists, not_and] at hnd
    obtain ⟨hfresh, hnd'⟩ := hnd
    obtain ⟨hs1, hs2⟩ := List.pairwise_cons.mp hsorted
    rcases List.mem_cons.mp ho with rfl | e
    · obtain ⟨-, rfl⟩ := slideF_cons_self hfresh ha
      exact hpad o cur (hcur o List.mem_cons_self)
    · rw [slideF_cons_ne (hfresh o e)] at ha
      -- the cursor the head leaves is still at or below every later object
      refine ih _ hnd' hs2 (fun o' ho' => ?_) e ha
      split
      · exact Nat.le_trans (Nat.add_le_add_right (hpad o₀ cur (hcur o₀ List.mem_cons_self)) _) (hs1 o' ho')
      · exact hcur o' (List.mem_cons_of_mem _ ho')

/-- `twoPhase_iso` with the sliding forwarding of MarkCompact: no hypothesis about `F` is left. -/
theorem markCompact_iso (wf : WF S) (B : Nat) (hB : ∀ i, (S.heap i).isSome = true → i < B)
    (run : List Nat) (hfin : (exec S (fun _ => false) (init S) run).pending = [])
    (pad : LObj → Nat → Nat) (objs : List LObj) (cur : Nat)
    (hnd : (objs.map LObj.id).Nodup) (hpos : ∀ o, o ∈ objs → 0 < o.size)
    (hall : ∀ x, Reach S x → ∃ o, o ∈ objs ∧ o.id = x) :
    let st := exec S (fun _ => false) (init S) run
    let F : Id → Id := fun x => (slideF (markedBy st) pad cur objs x).getD 0
    let T' := compact S F st B
    (∀ o obj, Reach S o → S.heap o = some obj →
      T' (F o) = some { size := obj.size, hash := obj.hash, fields := obj.fields.map (Option.map F) }) ∧
    (∀ a t, T' a = some t → ∃ o, Reach S o ∧ F o = a) ∧
    (∀ a b, Reach S a → Reach S b → F a = F b → a = b) := by
  intro st F T'
  obtain ⟨_, h2, -, h4, h5, -⟩ := twoPhase_iso wf B hB run hfin F
    (slide_injective (markedBy st) pad objs cur hnd hpos
      fun x hx => hall x ((trace_reach_exact wf run hfin x).mp hx))
  exact ⟨h2, h4, h5⟩

/-! ## Non-vacuity: a concrete cyclic heap with sharing and garbage

```
roots = [→0, →1, null, →0]
0 : {size 16, hash 100, fields [→1, →2]}      1 : {size 24, hash 101, fields [→2, null]}
2 : {size  8, hash 102, fields [→0]}          3 : {size 32, hash 103, fields [→0]}   (garbage)
```
`0 → 2 → 0` is a cycle, `2` is shared by `0` and `1`, `0` is shared by two root slots and `2`. -/

def exHeap : Id → Option Obj
  | 0 => some ⟨16, 100, [some 1, some 2]⟩
  | 1 => some ⟨24, 101, [some 2, none]⟩
  | 2 => some ⟨8, 102, [some 0]⟩
  | 3 => some ⟨32, 103, [some 0]⟩
  | _ => none

def exSnap : Snap := ⟨exHeap, [some 0, some 1, none, some 0]⟩

theorem exSnap_wf : WF exSnap := by
  constructor
  · intro r h
    simp only [exSnap, List.mem_cons, Option.some.injEq, List.mem_nil_iff, or_false] at h
    rcases h with h | h | h | h <;> (try cases h) <;> rfl
  · intro i o r ho hr
    match i with
    | 0 | 1 | 2 | 3 =>
      simp only [exSnap, exHeap, Option.some.injEq] at ho
      subst ho
      simp only [List.mem_cons, Option.some.injEq, List.mem_nil_iff, or_false] at hr
      rcases hr with h | h <;> (try cases h) <;> rfl
    | _ + 4 => simp [exSnap, exHeap] at ho

theorem exSnap_bound : ∀ i, (exSnap.heap i).isSome = true → i < 4 := by
  intro i h
  match i, h with
  | 0, _ | 1, _ | 2, _ | 3, _ => decide
  | _ + 4, h => exact nomatch h

/-- object 1 is pinned / non-moving, the rest is copied -/
def exMoves : Id → Bool := fun r => r != 1

/-- two schedules: both finish … -/
def exRunA : List Nat := [3, 0, 0, 0, 0, 0, 0, 0, 0]
def exRunB : List Nat := [0, 0, 0, 3, 2, 1, 0, 0, 0]

example : (exec exSnap exMoves (init exSnap) exRunA).pending = [] := by decide
example : (exec exSnap exMoves (init exSnap) exRunB).pending = [] := by decide

/-- … and, on this heap, with the same forwarding: all of `0,1,2` forwarded, garbage `3` not,
the two root slots that held `0` hold the same reference, the cycle is closed. -/
example :
    let st := exec exSnap exMoves (init exSnap) exRunA
    (st.fwd 0, st.fwd 1, st.fwd 2, st.fwd 3) = (some 0, some 1, some 2, none) ∧
    st.troots = [.new 0, .new 1, .null, .new 0] ∧
    st.tobjs 0 = some ⟨16, 100, [.new 1, .new 2], true⟩ ∧
    st.tobjs 1 = some ⟨24, 101, [.new 2, .null], false⟩ ∧
    st.tobjs 2 = some ⟨8, 102, [.new 0], true⟩ ∧ st.tobjs 3 = none := by decide

example :
    let st := exec exSnap exMoves (init exSnap) exRunB
    (st.fwd 0, st.fwd 1, st.fwd 2, st.fwd 3) = (some 0, some 1, some 2, none) ∧
    st.troots = [.new 0, .new 1, .null, .new 0] := by decide

/-- the hypothesis `pending = []` is not decoration: stopped after one step, the run has forwarded
object 0 only — object 1 is reachable but not (yet) visited, and root slot 1 still holds the
from-space reference. -/
example :
    let st := exec exSnap exMoves (init exSnap) [0]
    st.pending ≠ [] ∧ st.fwd 0 = some 0 ∧ st.fwd 1 = none ∧ st.troots = [.new 0, .old 1, .null, .old 0] := by
  decide

/-- the general theorems apply to it (hypotheses are satisfiable) -/
example : Reach exSnap 2 ∧ ¬ Reach exSnap 3 := by
  have h := trace_reach_exact (moves := exMoves) exSnap_wf exRunA (by decide)
  exact ⟨(h 2).mp (by decide), fun h3 => absurd ((h 3).mpr h3) (by decide)⟩

example : (exec exSnap exMoves (init exSnap) (List.replicate (initialWork exSnap 4) 0)).pending = [] :=
  trace_completes exSnap exMoves 4 exSnap_bound

/-- two-phase on the same heap with the forwarding `(· + 10)`: `0 ↦ 10, 1 ↦ 11, 2 ↦ 12` -/
example :
    let st := exec exSnap (fun _ => false) (init exSnap) exRunA
    let T' := compact exSnap (· + 10) st 4
    T' 10 = some ⟨16, 100, [some 11, some 12]⟩ ∧ T' 12 = some ⟨8, 102, [some 10]⟩ ∧ T' 13 = none ∧
    compactRoots exSnap (· + 10) = [some 10, some 11, none, some 10] := by decide

/-- the sliding forwarding on the example layout `0@100(16) 3@116(32, dead) 1@148(24) 2@176(8)` -/
example :
    let objs : List LObj := [⟨0, 100, 16⟩, ⟨3, 116, 32⟩, ⟨1, 148, 24⟩, ⟨2, 176, 8⟩]
    let F := slideF (fun x => x != 3) (fun _ _ => 0) 100 objs
    (F 0, F 1, F 2, F 3) = (some 100, some 116, some 140, none) := by decide

end Mmtk.Trace
