import MmtkModel.Lemmas.SideTiles
/-!
# C21 — Bulk side-metadata zero/set/copy touch exactly the covered regions

`break_bit_range` visits ranges that tile the bit interval between two metadata positions (`Tiles`, `Lemmas/SideTiles.lean`), so a visitor that
writes `val p` to exactly the bits of its range writes `val` to exactly the interval (`fold_tiles`): bzero, bset, bcopy at
bit level. The interval `bulk_update_metadata` computes for `[start, start+size)` consists of whole fields
(`bulk_interval`), which turns the bit-level statements into statements about entries (`bulk_regions`).
-/
namespace Mmtk.SideMeta
open Mmtk.Mem
open Mmtk.HeaderMeta (ByteMem)

/- the two masks, bit by bit: `setMask bs be` is the bits `[bs, be)` of a byte, `zeroMask bs be` the others -/
theorem zeroMask_table : ∀ bs < 8, ∀ be < 9, ∀ i < 8,
    (zeroMask bs be).testBit i = !decide (bs ≤ i ∧ i < be) := by decide +kernel
theorem setMask_table : ∀ bs < 8, ∀ be < 9, ∀ i < 8,
    (setMask bs be).testBit i = decide (bs ≤ i ∧ i < be) := by decide +kernel
theorem masks_lt : ∀ bs < 8, ∀ be < 9, zeroMask bs be < 256 ∧ setMask bs be < 256 := by decide

theorem testBit_zeroMask (bs be i : Nat) (hbs : bs < 8) (hbe : be ≤ 8) :
    (zeroMask bs be).testBit i = (decide (i < 8) && !decide (bs ≤ i ∧ i < be)) := by
  by_cases hi : i < 8
  · simp [hi, zeroMask_table bs hbs be (by omega) i hi]
  · simp [hi, HeaderMeta.testBit_high (n := 8) (masks_lt bs hbs be (by omega)).1 (by omega : 8 ≤ i)]

theorem testBit_setMask (bs be i : Nat) (hbs : bs < 8) (hbe : be ≤ 8) :
    (setMask bs be).testBit i = decide (bs ≤ i ∧ i < be) := by
  by_cases hi : i < 8
  · exact setMask_table bs hbs be (by omega) i hi
  · rw [HeaderMeta.testBit_high (n := 8) (masks_lt bs hbs be (by omega)).2 (by omega : 8 ≤ i),
      decide_eq_false (by omega)]

/-- **C21 (partition)**: the union of the ranges of a tiling of `[x, y)` is exactly `[x, y)`. -/
theorem tiles_cover {x y : Nat} {L : List BBR} (h : Tiles x L y) (p : Nat) :
    (∃ r ∈ L, r.lo ≤ p ∧ p < r.hi) ↔ (x ≤ p ∧ p < y) := by
  induction L generalizing x with
  | nil => simp only [Tiles] at h; simp; omega
  | cons r0 rs ih =>
    obtain ⟨h1, h2, h3⟩ := h
    have hlt := r0.lo_lt_hi h2
    have hle := tiles_le h3
    constructor
    · rintro ⟨r, hr, hp⟩
      rcases List.mem_cons.1 hr with e | e
      · subst e; omega
      · have := (ih h3).1 ⟨r, e, hp⟩; omega
    · intro hp
      by_cases hq : p < r0.hi
      · exact ⟨r0, List.mem_cons_self .., by omega, hq⟩
      · obtain ⟨r, hr, hp'⟩ := (ih h3).2 ⟨by omega, hp.2⟩
        exact ⟨r, List.mem_cons_of_mem _ hr, hp'⟩

/-- **C21 (partition)**: the ranges of a tiling are ordered and pairwise disjoint. -/
theorem tiles_sorted {x y : Nat} {L : List BBR} (h : Tiles x L y) : L.Pairwise (fun a b => a.hi ≤ b.lo) := by
  induction L generalizing x with
  | nil => exact List.Pairwise.nil
  | cons r0 rs ih =>
    obtain ⟨h1, h2, h3⟩ := h
    refine List.Pairwise.cons ?_ (ih h3)
    intro r hr
    exact (tiles_bounds h3 r hr).1

/- the definition, as an equation to `rw` one occurrence with -/
theorem bitAt_split (m : Mem) (p : Nat) : bitAt m p = (m (p / 8)).testBit (p % 8) := rfl

theorem bitAt_set (m : Mem) (a v p : Nat) :
    bitAt (set m a v) p = if p / 8 = a then v.testBit (p % 8) else bitAt m p := by
  unfold bitAt Mmtk.Mem.set
  by_cases e : p / 8 = a <;> simp [e]

theorem bitAt_fill (m : Mem) (s e v p : Nat) :
    bitAt (fillBytes m s e v) p = if 8 * s ≤ p ∧ p < 8 * e then v.testBit (p % 8) else bitAt m p := by
  unfold bitAt fillBytes
  by_cases h : s ≤ p / 8 ∧ p / 8 < e
  · have : 8 * s ≤ p ∧ p < 8 * e := by omega
    simp [h, this]
  · have : ¬ (8 * s ≤ p ∧ p < 8 * e) := by omega
    simp [h, this]

theorem byteMem_set (m : Mem) (hm : ByteMem m) (a v : Nat) (hv : v < 256) : ByteMem (set m a v) := by
  intro x; unfold Mmtk.Mem.set; split
  · exact hv
  · exact hm x

/-- `Inv` is what the visitor needs and keeps: `ByteMem`; for bcopy also "the source bits are still the original
ones", which holds only for ranges inside `[x0, y0)`. -/
theorem fold_tiles (f : Mem → BBR → Mem) (val : Nat → Bool) (Inv : Mem → Prop) (x0 y0 : Nat)
    (hf : ∀ mc r, Inv mc → r.wf → x0 ≤ r.lo → r.hi ≤ y0 →
      Inv (f mc r) ∧ ∀ p, bitAt (f mc r) p = if r.lo ≤ p ∧ p < r.hi then val p else bitAt mc p)
    (x y : Nat) (L : List BBR) (ht : Tiles x L y) (hx : x0 ≤ x) (hy : y ≤ y0) (m : Mem) (hinv : Inv m) :
    Inv (L.foldl f m) ∧ ∀ p, bitAt (L.foldl f m) p = if x ≤ p ∧ p < y then val p else bitAt m p := by
  induction L generalizing x m with
  | nil =>
    simp only [Tiles] at ht
    refine ⟨hinv, fun p => ?_⟩
    have : ¬ (x ≤ p ∧ p < y) := by omega
    simp [this]
  | cons r rs ih =>
    obtain ⟨h1, h2, h3⟩ := ht
    have hlt := r.lo_lt_hi h2
    have hle := tiles_le h3
    obtain ⟨i1, i2⟩ := hf m r hinv h2 (by omega) (by omega)
    obtain ⟨j1, j2⟩ := ih r.hi h3 (by omega) (f m r) i1
    refine ⟨j1, fun p => ?_⟩
    simp only [List.foldl]
    rw [j2 p, i2 p]
    by_cases c1 : r.hi ≤ p ∧ p < y
    · rw [if_pos c1, if_pos (by omega : x ≤ p ∧ p < y)]
    · rw [if_neg c1]
      by_cases c2 : r.lo ≤ p ∧ p < r.hi
      · rw [if_pos c2, if_pos (by omega : x ≤ p ∧ p < y)]
      · rw [if_neg c2, if_neg (by omega : ¬ (x ≤ p ∧ p < y))]

theorem bitAt_set_bits (m : Mem) (a v bs be : Nat) (val : Nat → Bool) (hbe : be ≤ 8)
    (hv : ∀ i, i < 8 → v.testBit i = if bs ≤ i ∧ i < be then val (8 * a + i) else (m a).testBit i) (p : Nat) :
    bitAt (set m a v) p = if 8 * a + bs ≤ p ∧ p < 8 * a + be then val p else bitAt m p := by
  rw [bitAt_set]
  by_cases e : p / 8 = a
  · have hp : 8 * a + p % 8 = p := by omega
    rw [if_pos e, hv _ (Nat.mod_lt _ (by omega)), hp, bitAt_split, e]
    by_cases c : bs ≤ p % 8 ∧ p % 8 < be
    · rw [if_pos c, if_pos (by omega)]
    · rw [if_neg c, if_neg (by omega)]
  · rw [if_neg e, if_neg (by omega)]

theorem zeroRange_spec (mc : Mem) (r : BBR) (hm : ByteMem mc) (hw : r.wf) :
    ByteMem (zeroRange mc r) ∧ ∀ p, bitAt (zeroRange mc r) p = if r.lo ≤ p ∧ p < r.hi then false else bitAt mc p := by
  cases r with
  | bytes s e =>
    refine ⟨fun x => ?_, fun p => ?_⟩
    · simp only [zeroRange, fillBytes]; split
      · omega
      · exact hm x
    · simp only [zeroRange, bitAt_fill, BBR.lo, BBR.hi, Nat.zero_testBit]; rfl
  | bits a bs be =>
    obtain ⟨h1, h2⟩ := hw
    refine ⟨byteMem_set mc hm _ _ (Nat.lt_of_le_of_lt Nat.and_le_left (hm a)),
      bitAt_set_bits mc a _ bs be (fun _ => false) h2 (fun i hi => ?_)⟩
    rw [Nat.testBit_and, testBit_zeroMask bs be i (by omega) h2]
    by_cases c : bs ≤ i ∧ i < be
    · simp [c]
    · simp [c, hi]

theorem testBit_255 (i : Nat) : (255 : Nat).testBit i = decide (i < 8) := by
  have : (255 : Nat) = 2 ^ 8 - 1 := by decide
  rw [this, Nat.testBit_two_pow_sub_one]

theorem setRange_spec (mc : Mem) (r : BBR) (hm : ByteMem mc) (hw : r.wf) :
    ByteMem (setRange mc r) ∧ ∀ p, bitAt (setRange mc r) p = if r.lo ≤ p ∧ p < r.hi then true else bitAt mc p := by
  cases r with
  | bytes s e =>
    refine ⟨fun x => ?_, fun p => ?_⟩
    · simp only [setRange, fillBytes]; split
      · omega
      · exact hm x
    · simp only [setRange, bitAt_fill, BBR.lo, BBR.hi, testBit_255, Nat.mod_lt p (by omega : 0 < 8), decide_true]; rfl
  | bits a bs be =>
    obtain ⟨h1, h2⟩ := hw
    refine ⟨byteMem_set mc hm _ _ (Nat.or_lt_two_pow (n := 8) (hm a) (masks_lt bs (by omega) be (by omega)).2),
      bitAt_set_bits mc a _ bs be (fun _ => true) h2 (fun i _ => ?_)⟩
    rw [Nat.testBit_or, testBit_setMask bs be i (by omega) h2]
    by_cases c : bs ≤ i ∧ i < be
    · simp [c]
    · simp [c]

/-- **C21 (bzero, bit level)**: a bit is cleared iff it lies in the interval; every other bit is unchanged. -/
theorem bzero_exact (m : Mem) (hm : ByteMem m) (sa sb ea eb : Nat) (hsb : sb < 8) (heb : eb < 8)
    (hord : sa < ea ∨ (sa = ea ∧ sb ≤ eb)) (p : Nat) :
    bitAt (zeroMetaBits m sa sb ea eb) p = (if 8 * sa + sb ≤ p ∧ p < 8 * ea + eb then false else bitAt m p) ∧
    ByteMem (zeroMetaBits m sa sb ea eb) := by
  have := fold_tiles zeroRange (fun _ => false) ByteMem 0 (8 * ea + eb)
    (fun mc r hi hw _ _ => zeroRange_spec mc r hi hw) _ _ _ (breakBitRange_partition sa sb ea eb hsb heb hord)
    (Nat.zero_le _) (Nat.le_refl _) m hm
  exact ⟨this.2 p, this.1⟩

theorem bset_exact (m : Mem) (hm : ByteMem m) (sa sb ea eb : Nat) (hsb : sb < 8) (heb : eb < 8)
    (hord : sa < ea ∨ (sa = ea ∧ sb ≤ eb)) (p : Nat) :
    bitAt (setMetaBits m sa sb ea eb) p = (if 8 * sa + sb ≤ p ∧ p < 8 * ea + eb then true else bitAt m p) ∧
    ByteMem (setMetaBits m sa sb ea eb) := by
  have := fold_tiles setRange (fun _ => true) ByteMem 0 (8 * ea + eb)
    (fun mc r hi hw _ _ => setRange_spec mc r hi hw) _ _ _ (breakBitRange_partition sa sb ea eb hsb heb hord)
    (Nat.zero_le _) (Nat.le_refl _) m hm
  exact ⟨this.2 p, this.1⟩

/-- the destination loop of `bcopy_metadata_contiguous` on raw positions. -/
def copyMetaBits (m : Mem) (dsa dsb dea deb ssa : Nat) : Mem :=
  (breakBitRange dsa dsb dea deb true).foldl (copyRange dsa ssa) m

/-- bit `p` of the destination, `8·dsa ≤ p`, is copied from bit `p mod 8` of the source byte at the same
distance from the source start. -/
theorem src_bit (ssa dsa p : Nat) (h : 8 * dsa ≤ p) :
    8 * ssa + (p - 8 * dsa) = 8 * (ssa + (p / 8 - dsa)) + p % 8 := by omega

/- The visitor of bcopy on any memory: destination bit `p`, counted from byte `dsa`, becomes the bit at the same
distance from byte `ssa`, as the memory holds it when the range is visited. -/
theorem copyRange_eff (dsa ssa : Nat) (mc : Mem) (r : BBR) (hm : ByteMem mc) (hw : r.wf) (hlo : 8 * dsa ≤ r.lo) :
    ByteMem (copyRange dsa ssa mc r) ∧ ∀ p, bitAt (copyRange dsa ssa mc r) p =
      if r.lo ≤ p ∧ p < r.hi then bitAt mc (8 * ssa + (p - 8 * dsa)) else bitAt mc p := by
  cases r with
  | bytes s e =>
    refine ⟨fun x => ?_, fun p => ?_⟩
    · simp only [copyRange]; split
      · exact hm _
      · exact hm x
    · show bitAt (copyRange dsa ssa mc (.bytes s e)) p =
        if 8 * s ≤ p ∧ p < 8 * e then bitAt mc (8 * ssa + (p - 8 * dsa)) else bitAt mc p
      rw [copyRange, bitAt_split]
      by_cases c : 8 * s ≤ p ∧ p < 8 * e
      · rw [if_pos (by omega : s ≤ p / 8 ∧ p / 8 < e), if_pos c, src_bit ssa dsa p (Nat.le_trans hlo c.1),
          bitAt_mk _ _ _ (Nat.mod_lt _ (by decide))]
      · rw [if_neg (by omega : ¬ (s ≤ p / 8 ∧ p / 8 < e)), if_neg c]; rfl
  | bits a bs be =>
    obtain ⟨h1, h2⟩ := hw
    have hmask := (masks_lt bs (by omega) be (by omega)).2
    refine ⟨byteMem_set _ hm _ _ (Nat.or_lt_two_pow (n := 8) (Nat.lt_of_le_of_lt Nat.and_le_right hmask)
      (Nat.lt_of_le_of_lt Nat.and_le_left (hm a))), bitAt_set_bits mc a _ bs be _ h2 (fun i hi => ?_)⟩
    rw [Nat.testBit_or, Nat.testBit_and, Nat.testBit_and, show (255 : Nat) = 2 ^ 8 - 1 from rfl,
      HeaderMeta.testBit_compl 8 _ hmask, testBit_setMask bs be i (by omega) h2]
    by_cases c : bs ≤ i ∧ i < be
    · rw [if_pos c, src_bit ssa dsa _ (Nat.le_trans hlo (Nat.add_le_add_left c.1 _)),
        show (8 * a + i) / 8 = a by omega, show (8 * a + i) % 8 = i by omega, bitAt_mk _ _ _ hi]
      simp [c]
    · simp [c, hi]

/- Within destination bits `[x0, y0)` disjoint from their source bits (`hdisj`), the source still holds what `m0`
held there — the invariant — so the bits read are those of `m0`. -/
theorem copyRange_spec (m0 : Mem) (dsa ssa x0 y0 : Nat) (hx0 : 8 * dsa ≤ x0)
    (hdisj : 8 * ssa + (y0 - 8 * dsa) ≤ x0 ∨ y0 ≤ 8 * ssa + (x0 - 8 * dsa))
    (mc : Mem) (r : BBR)
    (hinv : ByteMem mc ∧ ∀ q, 8 * ssa + (x0 - 8 * dsa) ≤ q ∧ q < 8 * ssa + (y0 - 8 * dsa) → bitAt mc q = bitAt m0 q)
    (hw : r.wf) (hlo : x0 ≤ r.lo) (hhi : r.hi ≤ y0) :
    (ByteMem (copyRange dsa ssa mc r) ∧
      ∀ q, 8 * ssa + (x0 - 8 * dsa) ≤ q ∧ q < 8 * ssa + (y0 - 8 * dsa) → bitAt (copyRange dsa ssa mc r) q = bitAt m0 q) ∧
    ∀ p, bitAt (copyRange dsa ssa mc r) p =
      if r.lo ≤ p ∧ p < r.hi then bitAt m0 (8 * ssa + (p - 8 * dsa)) else bitAt mc p := by
  obtain ⟨hm, hsrc⟩ := hinv
  obtain ⟨hb, eff⟩ := copyRange_eff dsa ssa mc r hm hw (Nat.le_trans hx0 hlo)
  have hlt := r.lo_lt_hi hw
  refine ⟨⟨hb, fun q hq => ?_⟩, fun p => ?_⟩
  · rw [eff q, if_neg (by omega)]
    exact hsrc q hq
  · rw [eff p]
    by_cases c : r.lo ≤ p ∧ p < r.hi
    · rw [if_pos c, if_pos c, hsrc _ (by omega)]
    · rw [if_neg c, if_neg c]

/-- **C21 (bcopy, bit level)**: a destination bit inside the interval becomes the source bit at the
same distance from the source start; every other bit is unchanged (source and destination intervals
do not overlap). -/
theorem bcopy_exact (m : Mem) (hm : ByteMem m) (dsa dsb dea deb ssa : Nat) (hsb : dsb < 8) (heb : deb < 8)
    (hord : dsa < dea ∨ (dsa = dea ∧ dsb ≤ deb))
    (hdisj : 8 * ssa + (8 * dea + deb - 8 * dsa) ≤ 8 * dsa + dsb ∨ 8 * dea + deb ≤ 8 * ssa + dsb) (p : Nat) :
    bitAt (copyMetaBits m dsa dsb dea deb ssa) p =
      (if 8 * dsa + dsb ≤ p ∧ p < 8 * dea + deb then bitAt m (8 * ssa + (p - 8 * dsa)) else bitAt m p) ∧
    ByteMem (copyMetaBits m dsa dsb dea deb ssa) := by
  have hd : 8 * ssa + (8 * dea + deb - 8 * dsa) ≤ 8 * dsa + dsb ∨ 8 * dea + deb ≤ 8 * ssa + (8 * dsa + dsb - 8 * dsa) := by
    rcases hdisj with h | h
    · exact Or.inl h
    · exact Or.inr (by omega)
  have := fold_tiles (copyRange dsa ssa) (fun p => bitAt m (8 * ssa + (p - 8 * dsa)))
    (fun mc => ByteMem mc ∧ ∀ q, 8 * ssa + (8 * dsa + dsb - 8 * dsa) ≤ q ∧ q < 8 * ssa + (8 * dea + deb - 8 * dsa) → bitAt mc q = bitAt m q)
    (8 * dsa + dsb) (8 * dea + deb)
    (fun mc r hi hw h1 h2 => copyRange_spec m dsa ssa _ _ (by omega) hd mc r hi hw h1 h2)
    _ _ _ (breakBitRange_partition dsa dsb dea deb hsb heb hord) (Nat.le_refl _) (Nat.le_refl _) m ⟨hm, fun _ _ => rfl⟩
  exact ⟨this.2 p, this.1.1⟩

/-- A bulk operation that writes `val` to exactly the bit interval `bulk_update_metadata` computes replaces every
covered entry by `V r`, the number whose bits are `val` on the field of `r`. -/
theorem bulk_regions (s : Spec) (hs : s.ok) (m m' : Mem) (hm : ByteMem m) (hm' : ByteMem m') (start size : Nat)
    (h : start + size < 2 ^ 64) (val : Nat → Bool) (V : Nat → Nat)
    (hbits : ∀ p, bitAt m' p = if 8 * metaAddr s start + lshift s start ≤ p ∧
      p < 8 * metaAddr s (start + size) + lshift s (start + size) then val p else bitAt m p)
    (hV : ∀ r, start >>> s.logRegion ≤ r → ∀ i, (V r).testBit i = (decide (i < 2 ^ s.logBits) && val (fieldBase s r + i))) :
    (∀ r, absArr m' s r = if start >>> s.logRegion ≤ r ∧ r < (start + size) >>> s.logRegion then V r else absArr m s r) ∧
    (∀ p, ¬ (fieldBase s (start >>> s.logRegion) ≤ p ∧ p < fieldBase s ((start + size) >>> s.logRegion)) →
      bitAt m' p = bitAt m p) := by
  obtain ⟨e1, e2, _⟩ := bulk_interval s hs start size h
  rw [e1, e2] at hbits
  refine ⟨fun r => ?_, fun p hp => by rw [hbits p, if_neg hp]⟩
  by_cases hr : start >>> s.logRegion ≤ r ∧ r < (start + size) >>> s.logRegion
  · rw [if_pos hr]
    apply Nat.eq_of_testBit_eq
    intro i
    rw [testBit_absArr m' hm' s, hV r hr.1]
    by_cases hi : i < 2 ^ s.logBits
    · rw [hbits, if_pos ((field_in_interval s _ _ r i hi).2 hr)]
    · simp [hi]
  · rw [if_neg hr]
    apply absArr_congr m m' hm hm' s
    intro p ⟨hp1, hp2⟩
    have := field_in_interval s (start >>> s.logRegion) ((start + size) >>> s.logRegion) r (p - fieldBase s r) (by omega)
    rw [Nat.add_sub_cancel' hp1] at this
    rw [hbits p, if_neg (fun c => hr (this.1 c))]

/-- `bzero` and `bset` have one shape — nothing for `size = 0`, else a bit-level fill `f` between the two computed
positions (`hm'`) that writes the constant bit `b` (`hf`) —, so every covered entry becomes the constant `V`. -/
theorem fill_regions (s : Spec) (hs : s.ok) (m : Mem) (hm : ByteMem m) (start size : Nat) (h : start + size < 2 ^ 64)
    (b : Bool) (V : Nat) (hV : ∀ i, V.testBit i = (decide (i < 2 ^ s.logBits) && b))
    (f : Mem → Nat → Nat → Nat → Nat → Mem)
    (hf : ∀ sa sb ea eb, sb < 8 → eb < 8 → sa < ea ∨ (sa = ea ∧ sb ≤ eb) → ∀ p,
      bitAt (f m sa sb ea eb) p = (if 8 * sa + sb ≤ p ∧ p < 8 * ea + eb then b else bitAt m p) ∧ ByteMem (f m sa sb ea eb))
    (m' : Mem) (hm' : m' = if size = 0 then m else
      f m (metaAddr s start) (lshift s start) (metaAddr s (start + size)) (lshift s (start + size))) :
    (∀ r, absArr m' s r = if start >>> s.logRegion ≤ r ∧ r < (start + size) >>> s.logRegion then V else absArr m s r) ∧
    (∀ p, ¬ (fieldBase s (start >>> s.logRegion) ≤ p ∧ p < fieldBase s ((start + size) >>> s.logRegion)) →
      bitAt m' p = bitAt m p) := by
  obtain ⟨_, _, b1, b2, ho⟩ := bulk_interval s hs start size h
  rw [hm']
  by_cases hz : size = 0
  · rw [if_pos hz]
    -- `size = 0`: nothing is called, and the interval is empty
    exact bulk_regions s hs m m hm hm start size h (fun _ => b) (fun _ => V)
      (fun p => by rw [hz, Nat.add_zero, if_neg (by omega)]) (fun _ _ => hV)
  · rw [if_neg hz]
    exact bulk_regions s hs m _ hm (hf _ _ _ _ b1 b2 ho 0).2 start size h (fun _ => b) (fun _ => V)
      (fun p => (hf _ _ _ _ b1 b2 ho p).1) (fun _ _ => hV)

/-- **C21 (bzero on fields)**: the entries of regions `⌊start/R⌋ … ⌊(start+size)/R⌋−1` become 0, every
other entry — and every bit outside those fields — is unchanged. -/
theorem bzero_regions (s : Spec) (hs : s.ok) (m : Mem) (hm : ByteMem m) (start size : Nat) (h : start + size < 2 ^ 64) :
    (∀ r, absArr (bzero s m start size) s r =
      if start >>> s.logRegion ≤ r ∧ r < (start + size) >>> s.logRegion then 0 else absArr m s r) ∧
    (∀ p, ¬ (fieldBase s (start >>> s.logRegion) ≤ p ∧ p < fieldBase s ((start + size) >>> s.logRegion)) →
      bitAt (bzero s m start size) p = bitAt m p) :=
  fill_regions s hs m hm start size h false 0 (fun i => by simp) zeroMetaBits (bzero_exact m hm) _ rfl

/-- **C21 (bset on fields)**: the covered entries become all-ones (`2^width − 1`). -/
theorem bset_regions (s : Spec) (hs : s.ok) (m : Mem) (hm : ByteMem m) (start size : Nat) (h : start + size < 2 ^ 64) :
    (∀ r, absArr (bset s m start size) s r =
      if start >>> s.logRegion ≤ r ∧ r < (start + size) >>> s.logRegion then 2 ^ 2 ^ s.logBits - 1 else absArr m s r) ∧
    (∀ p, ¬ (fieldBase s (start >>> s.logRegion) ≤ p ∧ p < fieldBase s ((start + size) >>> s.logRegion)) →
      bitAt (bset s m start size) p = bitAt m p) :=
  fill_regions s hs m hm start size h true _ (fun i => by rw [Nat.testBit_two_pow_sub_one]; simp) setMetaBits
    (bset_exact m hm) _ rfl

/-- **C21 (aligned arguments)**: for region-aligned `start` and `size` the covered regions are exactly
those lying inside `[start, start+size)`. For unaligned arguments the code covers
`⌊start/R⌋ … ⌊(start+size)/R⌋−1` (the theorems above) — the region cut by `start` is included, the
region cut by the end is not; callers pass aligned ranges. -/
theorem aligned_regions (lr start size r : Nat) (h1 : start % 2 ^ lr = 0) (h2 : size % 2 ^ lr = 0) :
    (start >>> lr ≤ r ∧ r < (start + size) >>> lr) ↔ (start ≤ r * 2 ^ lr ∧ (r + 1) * 2 ^ lr ≤ start + size) := by
  have hR := Nat.two_pow_pos lr
  obtain ⟨k, hk⟩ := Nat.dvd_of_mod_eq_zero h1
  obtain ⟨j, hj⟩ := Nat.dvd_of_mod_eq_zero h2
  rw [Nat.shiftRight_eq_div_pow, Nat.shiftRight_eq_div_pow, hk, hj, ← Nat.mul_add,
    Nat.mul_div_cancel_left _ hR, Nat.mul_div_cancel_left _ hR, Nat.mul_comm r, Nat.mul_comm (r + 1)]
  constructor
  · intro ⟨a, b⟩
    exact ⟨Nat.mul_le_mul_left _ a, Nat.mul_le_mul_left _ (Nat.succ_le_of_lt b)⟩
  · intro ⟨a, b⟩
    exact ⟨Nat.le_of_mul_le_mul_left a hR, Nat.lt_of_succ_le (Nat.le_of_mul_le_mul_left b hR)⟩

/-- **bcopy on fields, any source table of the same geometry** (`bcopy_metadata_contiguous` asserts equal
`log_num_of_bits` and `log_bytes_in_region`); `bcopy_regions` is the case `other := { s with start := ostart }`. -/
theorem bcopy_regions_same_geometry (debug : Bool) (s other : Spec) (hs : s.ok) (hb : other.logBits = s.logBits)
    (hr : other.logRegion = s.logRegion) (m : Mem) (hm : ByteMem m)
    (start size : Nat) (h : start + size < 2 ^ 64)
    (hdisj : fieldBase other ((start + size) >>> s.logRegion) ≤ fieldBase s (start >>> s.logRegion) ∨
      fieldBase s ((start + size) >>> s.logRegion) ≤ fieldBase other (start >>> s.logRegion)) :
    ∃ m', bcopy debug s other m start size = some m' ∧
    (∀ r, absArr m' s r =
      if start >>> s.logRegion ≤ r ∧ r < (start + size) >>> s.logRegion then absArr m other r
      else absArr m s r) ∧
    (∀ p, ¬ (fieldBase s (start >>> s.logRegion) ≤ p ∧ p < fieldBase s ((start + size) >>> s.logRegion)) →
      bitAt m' p = bitAt m p) := by
  obtain ⟨e1, e2, b1, b2, ho⟩ := bulk_interval s hs start size h
  have hso : other.ok := by unfold Spec.ok; rw [hb, hr]; exact hs
  have f1 := field_position other hso start (by omega)
  have hl : lshift other start = lshift s start := by unfold lshift; rw [hb, hr]
  rw [hr, hl] at f1
  -- the two tables differ by a shift of `8·(other.start − s.start)` bits
  have hfb : ∀ r, fieldBase other r + 8 * s.start = fieldBase s r + 8 * other.start := by
    intro r; unfold fieldBase; rw [hb]; omega
  have g0 := hfb (start >>> s.logRegion)
  have g1 := hfb ((start + size) >>> s.logRegion)
  have hex := bcopy_exact m hm (metaAddr s start) (lshift s start) (metaAddr s (start + size)) (lshift s (start + size))
    (metaAddr other start) b1 b2 ho (by omega)
  refine ⟨copyMetaBits m (metaAddr s start) (lshift s start) (metaAddr s (start + size)) (lshift s (start + size))
    (metaAddr other start), by unfold bcopy copyMetaBits; simp [hl, hb, hr],
    bulk_regions s hs m _ hm (hex 0).2 start size h _ _ (fun p => (hex p).1) (fun r hr' i => ?_)⟩
  -- the source bit at the same distance from the source start is the same bit of the source's field
  have h1 := hfb r
  have h2 := fieldBase_mono s hr'
  rw [testBit_absArr m hm _, hb,
    show 8 * metaAddr other start + (fieldBase s r + i - 8 * metaAddr s start) = fieldBase other r + i by omega]

/-- **C21 (bcopy on fields)**: with a source table of the same geometry that does not overlap the
destination's covered fields, the covered entries become the source's entries of the same regions;
every other entry — and every bit outside those fields — is unchanged. -/
theorem bcopy_regions (debug : Bool) (s : Spec) (hs : s.ok) (ostart : Nat) (m : Mem) (hm : ByteMem m)
    (start size : Nat) (h : start + size < 2 ^ 64)
    (hdisj : fieldBase { s with start := ostart } ((start + size) >>> s.logRegion) ≤ fieldBase s (start >>> s.logRegion) ∨
      fieldBase s ((start + size) >>> s.logRegion) ≤ fieldBase { s with start := ostart } (start >>> s.logRegion)) :
    ∃ m', bcopy debug s { s with start := ostart } m start size = some m' ∧
    (∀ r, absArr m' s r =
      if start >>> s.logRegion ≤ r ∧ r < (start + size) >>> s.logRegion then absArr m { s with start := ostart } r
      else absArr m s r) ∧
    (∀ p, ¬ (fieldBase s (start >>> s.logRegion) ≤ p ∧ p < fieldBase s ((start + size) >>> s.logRegion)) →
      bitAt m' p = bitAt m p) :=
  bcopy_regions_same_geometry debug s { s with start := ostart } hs rfl rfl m hm start size h hdisj

example : breakBitRange 100 3 104 5 true = [.bits 100 3 8, .bytes 101 104, .bits 104 0 5] := by decide
example : breakBitRange 100 3 104 5 false = [.bits 104 0 5, .bytes 101 104, .bits 100 3 8] := by decide
example : breakBitRange 100 3 101 0 true = [.bits 100 3 8] := by decide
/-- an unaligned `bzero(start = 4, size = 8)` with 8-byte regions clears region 0 (cut by `start`) and
not region 1 (cut by the end). -/
example : let s : Spec := { start := 1000, logBits := 0, logRegion := 3 }
    let m : Mem := fun x => if x = 1000 then 255 else 0
    absArr (bzero s m 4 8) s 0 = 0 ∧ absArr (bzero s m 4 8) s 1 = 1 := by decide

end Mmtk.SideMeta
