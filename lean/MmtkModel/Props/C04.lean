import MmtkModel.Model.Snap
import MmtkModel.Lemmas.HeapOps
import MmtkModel.Lemmas.HeapVerdict
/-!
# C04 — Non-moving, immortal and pinned objects never move; immortal ones never die

The monitor's snapshot clause `firstMoved` answers `none` exactly when every `fixed` object whose reference
was seen before still has it (`firstMoved_none_iff`). `fixed` is computed from the shadow heap (semantics ≠
Default, or pinned, or the plan never moves): no mutator op changes the semantics of an allocated object,
and only `pin id on` (pin or unpin, by the flag `on`) of that very id changes its pinned flag (`applyOp_sem_stable`,
`applyOp_pinned_stable`) — so the monitor's notion of "must not move" is the program's.
"Immortal ones never die" is observed by `ismo` probes (`gc:immortal-died`), not proved.
Level: proof of the verdict function; partial w.r.t. the code.
-/
namespace Mmtk.Heap

theorem firstMoved_none_iff (fixed : Id → Bool) (last : Array Nat) : ∀ (l : List SObj),
    firstMoved fixed last l = none ↔
      ∀ o ∈ l, fixed o.id = true → last.getD o.id 0 ≠ 0 → last.getD o.id 0 = o.ref
  | [] => by simp [firstMoved]
  | o :: rest => by
    rw [firstMoved, ite_some_eq_none, firstMoved_none_iff fixed last rest, List.forall_mem_cons]
    refine and_congr_left' ?_
    simp only [Bool.and_eq_true, bne_iff_ne, ne_eq, not_and, Decidable.not_not, and_imp]

theorem stable_of_objs {α} (p : Obj → α) {a a' : Array Obj} {k : Nat} (hk : k < a.size)
    (hs : (∃ o, a' = a.push o) ∨ a' = a ∨ ∃ i f, a' = a.modify i f ∧ (i = k → ∀ o, p (f o) = p o)) :
    ∃ hk' : k < a'.size, p a'[k] = p a[k] := by
  rcases hs with ⟨o, rfl⟩ | rfl | ⟨i, f, rfl, hf⟩
  · exact ⟨by rw [Array.size_push]; exact Nat.lt_succ_of_lt hk, by rw [Array.getElem_push_lt hk]⟩
  · exact ⟨hk, rfl⟩
  · refine ⟨by rwa [Array.size_modify], ?_⟩
    rw [Array.getElem_modify]
    split
    · exact hf ‹_› _
    · rfl

/-- what an op does to the object table, in the shape `stable_of_objs` takes -/
theorem OpStep.objs {h h' : Heap} {op : Op} (st : OpStep h op h') :
    (∃ o, h'.objs = h.objs.push o) ∨ h'.objs = h.objs ∨
    ∃ i f, h'.objs = h.objs.modify i f ∧ (∀ o, (f o).sem = o.sem) ∧
      ((∀ on, op ≠ .pin i on) → ∀ o, (f o).pinned = o.pinned) := by
  cases st with
  | alloc | allocFail => exact .inl ⟨_, rfl⟩
  | root | destroy => exact .inr (.inl rfl)
  | write | copyrange | mkref =>
    exact .inr (.inr ⟨_, _, modifyObj_objs .., fun _ => rfl, fun _ _ => rfl⟩)
  | pin => exact .inr (.inr ⟨_, _, modifyObj_objs .., fun _ => rfl, fun hne _ => absurd rfl (hne _)⟩)

theorem applyOp_sem_stable {h h' : Heap} (op : Op) (hop : applyOp h op = some h') (k : Nat) (hk : k < h.objs.size) :
    ∃ hk' : k < h'.objs.size, h'.objs[k].sem = h.objs[k].sem :=
  stable_of_objs Obj.sem hk <| (applyOp_sound hop).objs.imp_right <| .imp_right
    fun ⟨i, f, e, hs, _⟩ => ⟨i, f, e, fun _ => hs⟩

theorem applyOp_pinned_stable {h h' : Heap} (op : Op) (hop : applyOp h op = some h') (k : Nat) (hk : k < h.objs.size)
    (hne : ∀ on, op ≠ .pin k on) : ∃ hk' : k < h'.objs.size, h'.objs[k].pinned = h.objs[k].pinned :=
  stable_of_objs Obj.pinned hk <| (applyOp_sound hop).objs.imp_right <| .imp_right
    fun ⟨i, f, e, _, hp⟩ => ⟨i, f, e, fun hik => hp (hik ▸ hne)⟩

example : (firstMoved (fun _ => true) #[0x1000, 0x2000]
    [⟨0, 0x1000, 40, 'I', true, []⟩, ⟨1, 0x2008, 40, 'L', true, []⟩]).map (·.id) = some 1 := rfl
example : (firstMoved (fun _ => true) #[0x1000, 0x2000]
    [⟨0, 0x1000, 40, 'I', true, []⟩, ⟨1, 0x2000, 40, 'L', true, []⟩]).map (·.id) = none := rfl

end Mmtk.Heap
