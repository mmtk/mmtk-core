import MmtkModel.Model.SpaceDescriptor
import MmtkModel.Lemmas.Bits
/-!
# C32 — Space descriptors encode and decode their heap range

A field `lo` of `k` bits below `hi` is the number `hi · 2^k + lo`; the 32-bit-style word is treated in nested
form `((mantissa · 2^5 + exponent) · 2^10 + chunks) · 2^2 + type`, the 64-bit one is `index · 2^2 + type`.

Proved: creation followed by `get_start`/`get_extent`/the flag tests gives back the range, for the 32-bit-style encoding
(`descriptor_roundtrip`, `descriptor_roundtrip_layout`; inputs `Admissible`, with `exponent_overflows_witness` just outside)
and the 64-bit one (`descriptor64_roundtrip`); discontiguous descriptors are distinct and never contiguous
(`discontig_distinct_noncontiguous`, up to the wrap of the counter, `discontig_wraps`).
-/
namespace Mmtk.Desc
open Mmtk.Layout

theorem pack_or (hi lo k : Nat) (h : lo < 2 ^ k) : hi <<< k ||| lo = hi * 2 ^ k + lo := by
  rw [← Nat.shiftLeft_add_eq_or_of_lt h, Nat.shiftLeft_eq]

theorem pack_div (hi lo k : Nat) (h : lo < 2 ^ k) : (hi * 2 ^ k + lo) / 2 ^ k = hi := by
  rw [Nat.mul_comm, Nat.mul_add_div (Nat.two_pow_pos k), Nat.div_eq_of_lt h, Nat.add_zero]

theorem type_bits (hi f : Nat) (hf : f < 2 ^ 2) :
    (hi * 2 ^ 2 + f) &&& typeMask = f ∧ (hi * 2 ^ 2 + f) &&& typeContiguous = f % 2 := by
  unfold typeMask typeContiguous
  rw [Nat.and_two_pow_sub_one_eq_mod _ 2, Nat.mul_add_mod_of_lt hf, Nat.and_one_is_mod]
  omega

/-- What the type bits written by `create_descriptor_from_heap_range` say, in either encoding: contiguous,
not empty, and top-of-heap iff `top`. -/
theorem contiguous_flags (hi : Nat) (top : Bool) :
    isContiguous (hi * 2 ^ 2 + if top = true then typeContiguousHi else typeContiguous) = true ∧
    isEmpty (hi * 2 ^ 2 + if top = true then typeContiguousHi else typeContiguous) = false ∧
    (isContiguousHi (hi * 2 ^ 2 + if top = true then typeContiguousHi else typeContiguous) = true ↔
      top = true) := by
  obtain ⟨h1, h2⟩ := type_bits hi (if top = true then typeContiguousHi else typeContiguous) (by split <;> decide)
  unfold isContiguous isContiguousHi isEmpty
  rw [h1, h2]
  cases top <;> exact ⟨rfl, beq_false_of_ne (Nat.succ_ne_zero _), by decide⟩

theorem getIndex_pack (hi f : Nat) (hf : f < 2 ^ 2) (hlt : hi * 2 ^ 2 + f < 2 ^ 64) :
    getIndex (hi * 2 ^ 2 + f) = hi := by
  unfold getIndex indexShift
  rw [show 2 ^ 64 - 1 - typeMask = 2 ^ 64 - 2 ^ 2 by decide, Mmtk.Bits.and_not_mask _ 2 (by omega) hlt, Nat.shiftRight_eq_div_pow,
    Nat.mul_add_mod_of_lt hf, Nat.add_sub_cancel, Nat.mul_div_cancel _ (by decide)]

/-- The loop strips factors of two: it ends at an odd mantissa, the exponent only grows and `tmp · 2^e` is
unchanged. -/
theorem normLoop_mul : ∀ (fuel tmp e : Nat), 0 < tmp → tmp < 2 ^ fuel →
    (normLoop fuel tmp e).1 % 2 = 1 ∧ e ≤ (normLoop fuel tmp e).2 ∧
    tmp * 2 ^ e = (normLoop fuel tmp e).1 * 2 ^ (normLoop fuel tmp e).2 := by
  intro fuel
  induction fuel with
  | zero => intro tmp e h0 h1; simp at h1; omega
  | succ n ih =>
    intro tmp e h0 h1
    unfold normLoop
    rw [Nat.and_one_is_mod, Nat.shiftRight_eq_div_pow, Nat.pow_one]
    by_cases hodd : tmp % 2 = 1
    · simp [hodd]
    · have hev : tmp % 2 = 0 := by omega
      have hc : (tmp != 0 && tmp % 2 == 0) = true := by simp [hev]; omega
      rw [Nat.pow_succ] at h1
      obtain ⟨a, b, c⟩ := ih (tmp / 2) (e + 1) (by omega) (by omega)
      rw [if_pos hc]
      refine ⟨a, Nat.le_of_succ_le b, ?_⟩
      rw [← c, Nat.pow_succ, Nat.mul_comm _ 2, ← Nat.mul_assoc, Nat.div_mul_cancel (Nat.dvd_of_mod_eq_zero hev)]

theorem normLoop_spec : ∀ (fuel tmp e : Nat), 0 < tmp → tmp < 2 ^ fuel →
    (normLoop fuel tmp e).1 % 2 = 1 ∧ e ≤ (normLoop fuel tmp e).2 ∧
    tmp = (normLoop fuel tmp e).1 * 2 ^ ((normLoop fuel tmp e).2 - e) := by
  intro fuel tmp e h0 h1
  obtain ⟨a, b, c⟩ := normLoop_mul fuel tmp e h0 h1
  refine ⟨a, b, Nat.eq_of_mul_eq_mul_right (Nat.two_pow_pos e) ?_⟩
  rw [c, Nat.mul_assoc, ← Nat.pow_add, Nat.sub_add_cancel b]

/-- The encoding's admissible inputs, as an explicit decidable predicate: a chunk-aligned,
non-zero `start` whose number of trailing zero bits is at most `18 + 31 = 49` (the 5-bit exponent
field holds `tz(start) - 18`), `1 ≤ chunks < 2^10`, and the range ends inside the 64-bit word. -/
def Admissible (start chunks : Nat) : Prop :=
  0 < start ∧ start % 2 ^ 22 = 0 ∧ start % 2 ^ 50 ≠ 0 ∧ 1 ≤ chunks ∧ chunks < 2 ^ 10 ∧
  start + chunks * 2 ^ 22 < 2 ^ 64

instance (s c : Nat) : Decidable (Admissible s c) := by unfold Admissible; infer_instance

theorem norm_start (start : Nat) (h0 : 0 < start) (h18 : start % 2 ^ 18 = 0) (hlt : start < 2 ^ 64) :
    start = (normLoop 64 (start >>> baseExponent) 0).1 *
      2 ^ (18 + (normLoop 64 (start >>> baseExponent) 0).2) := by
  unfold baseExponent
  rw [Nat.shiftRight_eq_div_pow]
  have c := (normLoop_mul 64 (start / 2 ^ 18) 0 (by omega) (by omega)).2.2
  rw [Nat.pow_zero, Nat.mul_one] at c
  rw [Nat.pow_add, Nat.mul_left_comm, ← c, Nat.mul_comm, Nat.div_mul_cancel (Nat.dvd_of_mod_eq_zero h18)]

theorem shl64_eq {x s : Nat} (h : x * 2 ^ s < 2 ^ 64) : shl64 x s = x <<< s := by
  unfold shl64; rw [Nat.shiftLeft_eq, Nat.mod_eq_of_lt h]

theorem enc_eq (m e c f : Nat) (hm : m * 2 ^ 17 < 2 ^ 64) (he : e < 2 ^ 5) (hc : c < 2 ^ 10) (hf : f < 2 ^ 2) :
    shl64 m mantissaShift ||| shl64 e exponentShift ||| shl64 c sizeShift ||| f
      = ((m * 2 ^ 5 + e) * 2 ^ 10 + c) * 2 ^ 2 + f := by
  unfold mantissaShift exponentShift sizeShift
  -- (`omega` loops with `hm` next to other products in the context)
  rw [shl64_eq hm, shl64_eq (show e * 2 ^ 12 < 2 ^ 64 by clear hm; omega),
    shl64_eq (show c * 2 ^ 2 < 2 ^ 64 by clear hm; omega),
    ← pack_or _ f 2 hf, ← pack_or _ c 10 hc, ← pack_or m e 5 he]
  simp only [Nat.shiftLeft_or_distrib, ← Nat.shiftLeft_add]

/-- Each shift-and-mask peels the fields below off with `pack_div` and cuts those above off with `Nat.mul_add_mod_of_lt`. -/
theorem dec_eq (m e c f : Nat) (he : e < 2 ^ 5) (hc : c < 2 ^ 10) (hf : f < 2 ^ 2) :
    (((m * 2 ^ 5 + e) * 2 ^ 10 + c) * 2 ^ 2 + f) >>> mantissaShift = m ∧
    ((((m * 2 ^ 5 + e) * 2 ^ 10 + c) * 2 ^ 2 + f) &&& exponentMask) >>> exponentShift = e ∧
    ((((m * 2 ^ 5 + e) * 2 ^ 10 + c) * 2 ^ 2 + f) &&& sizeMask) >>> sizeShift = c := by
  unfold mantissaShift exponentMask exponentShift sizeMask sizeShift
  rw [Mmtk.Bits.and_mask_shift, Mmtk.Bits.and_mask_shift, Nat.shiftRight_eq_div_pow,
    show (2 : Nat) ^ 17 = 2 ^ 2 * 2 ^ 10 * 2 ^ 5 from rfl, show (2 : Nat) ^ 12 = 2 ^ 2 * 2 ^ 10 from rfl]
  simp only [← Nat.div_div_eq_div_mul, pack_div _ _ 2 hf, pack_div _ _ 10 hc]
  exact ⟨pack_div _ _ 5 he, Nat.mul_add_mod_of_lt he, Nat.mul_add_mod_of_lt hc⟩

/-- **C32 (round trip, 32-bit-style encoding).** For every admissible `(start, chunks)` — in either
build profile, whatever the heap end — the descriptor created for `[start, start + chunks·4MiB)`
is non-empty, contiguous, decodes to the same start and extent, and carries the top-of-heap flag
iff the range ends at `heap_end`. -/
theorem descriptor_roundtrip (debug : Bool) (heapEnd start chunks : Nat) (h : Admissible start chunks) :
    ∃ d, create32 debug heapEnd start (start + chunks * 2 ^ 22) = some d ∧
      getStart32 debug d = some start ∧ getExtent32 debug d = some (chunks * 2 ^ 22) ∧
      isContiguous d = true ∧ isEmpty d = false ∧
      (isContiguousHi d = true ↔ start + chunks * 2 ^ 22 = heapEnd) := by
  obtain ⟨h0, h22, h50, hc1, hc2, hend⟩ := h
  have hlt : start < 2 ^ 64 := by omega
  have hst := norm_start start h0 (by omega) hlt
  generalize hr : normLoop 64 (start >>> baseExponent) 0 = r at hst
  -- the exponent fits in 5 bits because 2^50 does not divide start
  have he : r.2 < 2 ^ 5 := by
    apply Classical.byContradiction
    intro hn
    apply h50
    have hd : 2 ^ 50 ∣ 2 ^ (18 + r.2) := Nat.pow_dvd_pow 2 (by omega)
    rw [hst]
    exact Nat.mod_eq_zero_of_dvd (Nat.dvd_trans hd (Nat.dvd_mul_left _ _))
  -- the mantissa does not leave the word when shifted by 17
  have hm : r.1 * 2 ^ 17 < 2 ^ 64 :=
    Nat.lt_of_le_of_lt (Nat.mul_le_mul_left _ (Nat.pow_le_pow_right (by omega) (by omega))) (hst ▸ hlt)
  have hchunks : (start + chunks * 2 ^ 22 - start) >>> logBytesInChunk = chunks := by
    unfold logBytesInChunk
    rw [Nat.add_sub_cancel_left, Nat.shiftRight_eq_div_pow, Nat.mul_div_cancel _ (Nat.two_pow_pos 22)]
  have hshl : shl64 r.1 (baseExponent + r.2) = start := by
    unfold shl64 baseExponent
    rw [Nat.shiftLeft_eq, ← hst, Nat.mod_eq_of_lt hlt]
  generalize htop : (start + chunks * 2 ^ 22 == heapEnd) = top
  obtain ⟨hcont, hemp, hhi⟩ := contiguous_flags ((r.1 * 2 ^ 5 + r.2) * 2 ^ 10 + chunks) top
  obtain ⟨d1, d2, d3⟩ := dec_eq r.1 r.2 chunks (if top = true then typeContiguousHi else typeContiguous)
    he hc2 (by split <;> decide)
  refine ⟨_, ?_, ?_, ?_, hcont, hemp, hhi.trans (by rw [← htop, beq_iff_eq])⟩
  · have hg : (start != 0 && decide (chunks > 0) && decide (chunks < 2 ^ 10)) = true := by
      simp; omega
    unfold create32
    simp only [hchunks, hr, hshl, sizeBits, htop, hg, Bool.not_true, Bool.and_false, beq_self_eq_true,
      Bool.false_eq_true, if_false]
    rw [enc_eq r.1 r.2 chunks _ hm he hc2 (by split <;> decide)]
  · unfold getStart32
    simp only [hcont, Bool.not_true, Bool.and_false, Bool.false_eq_true, if_false, d1, d2, hshl]
  · unfold getExtent32
    simp only [hcont, Bool.not_true, Bool.and_false, Bool.false_eq_true, if_false, d3]
    unfold logBytesInChunk
    rw [shl64_eq (Nat.lt_of_le_of_lt (Nat.le_add_left _ _) hend), Nat.shiftLeft_eq]

/-- **C32 (round trip through the public entry points)** under any layout that uses the
32-bit-style encoding (`force_use_contiguous_spaces = false`). -/
theorem descriptor_roundtrip_layout (l : VMLayout) (hl : l.forceContiguous = false) (debug : Bool)
    (start chunks : Nat) (h : Admissible start chunks) :
    ∃ d, createFromHeapRange l debug start (start + chunks * 2 ^ 22) = some d ∧
      getStart l debug d = some start ∧ getExtent l debug d = some (chunks * 2 ^ 22) ∧
      isContiguous d = true ∧ isEmpty d = false ∧
      (isContiguousHi d = true ↔ start + chunks * 2 ^ 22 = l.heapEnd) := by
  obtain ⟨d, h1, h2, h3, h4, h5, h6⟩ := descriptor_roundtrip debug l.heapEnd start chunks h
  refine ⟨d, ?_, ?_, ?_, h4, h5, h6⟩
  · unfold createFromHeapRange
    simp only [hl, Bool.false_eq_true, if_false, Nat.le_add_right, if_true]
    exact h1
  · unfold getStart; simp only [hl, Bool.not_false, if_true]; exact h2
  · unfold getExtent; simp only [hl, Bool.not_false, if_true]; exact h3

/-! ## the 64-bit branch (`index << 2 | flags`) -/

/-- **C32 (64-bit encoding).** Under a layout with `force_use_contiguous_spaces` and a space
extent `2^k`, `2 ≤ k < 64`, for every `start ≤ heap_end` (`< 2^64`): the descriptor is non-empty and
contiguous, its index is `start >> k`, its extent is the space size, its start is `start` rounded
down to the space size (so exactly `start` for a space-aligned `start`), and it carries the top flag
iff `end = heap_end`. -/
theorem descriptor64_roundtrip (l : VMLayout) (hl : l.forceContiguous = true)
    (hk2 : 2 ≤ l.logSpaceExtent) (hk : l.logSpaceExtent < 64) (debug : Bool)
    (start end_ : Nat) (hs : start ≤ l.heapEnd) (hlt : start < 2 ^ 64) :
    ∃ d, createFromHeapRange l debug start end_ = some d ∧
      getIndex d = start / 2 ^ l.logSpaceExtent ∧
      getStart l debug d = some (start - start % 2 ^ l.logSpaceExtent) ∧
      getExtent l debug d = some (2 ^ l.logSpaceExtent) ∧
      isContiguous d = true ∧ isEmpty d = false ∧
      (isContiguousHi d = true ↔ end_ = l.heapEnd) := by
  generalize hkk : l.logSpaceExtent = k at *
  have hidx : start / 2 ^ k * 2 ^ 2 ≤ start :=
    Nat.le_trans (Nat.mul_le_mul_left _ (Nat.pow_le_pow_right (by omega) hk2)) (Nat.div_mul_le_self _ _)
  generalize htop : (end_ == l.heapEnd) = top
  have hf : (if top = true then typeContiguousHi else typeContiguous) < 2 ^ 2 := by split <;> decide
  have hd : create64 l start end_ =
      start / 2 ^ k * 2 ^ 2 + if top = true then typeContiguousHi else typeContiguous := by
    unfold create64 indexShift
    simp only [show ¬ start > l.heapEnd by omega, if_false, hkk, htop]
    rw [shl64_eq (by rw [Nat.shiftRight_eq_div_pow]; omega), Nat.shiftRight_eq_div_pow, pack_or _ _ 2 hf]
  have hgi := getIndex_pack (start / 2 ^ k) _ hf (by omega)
  obtain ⟨hcont, hemp, hhi⟩ := contiguous_flags (start / 2 ^ k) top
  refine ⟨_, ?_, hgi, ?_, ?_, hcont, hemp, hhi.trans (by rw [← htop, beq_iff_eq])⟩
  · unfold createFromHeapRange; simp only [hl, if_true, hd]
  · unfold getStart
    simp only [hl, Bool.not_true, Bool.false_eq_true, if_false, hgi, hkk]
    have := Nat.div_mul_le_self start (2 ^ k)
    rw [shl64_eq (by omega), Nat.shiftLeft_eq, Mmtk.Bits.sub_mod_eq_mul_div, Nat.mul_comm]
  · unfold getExtent; simp only [hl, Bool.not_true, Bool.false_eq_true, if_false, hkk]

theorem discontigSeq_get : ∀ (n c i : Nat), i < n → c + 4 * n ≤ 2 ^ 64 →
    (discontigSeq n c)[i]? = some (c + 4 * i) := by
  intro n
  induction n with
  | zero => intro c i h; omega
  | succ n ih =>
    intro c i hi hc
    unfold discontigSeq createDiscontiguous discontigIncrement
    cases i with
    | zero => simp
    | succ j =>
      simp only [List.getElem?_cons_succ]
      have hm : (c + 4) % 2 ^ 64 = c + 4 := Nat.mod_eq_of_lt (by omega)
      rw [hm, ih (c + 4) j (by omega) (by omega)]
      congr 1; omega

theorem discontigSeq_length : ∀ (n c : Nat), (discontigSeq n c).length = n := by
  intro n; induction n with
  | zero => intro c; rfl
  | succ n ih => intro c; simp [discontigSeq, ih]

/-- **C32 (discontiguous descriptors).** The first `n ≤ 2^62 - 1` descriptors created in a process
(counter starts at 4) are `4, 8, …`: pairwise distinct, non-empty, not contiguous, not
contiguous-hi, with index `i + 1`. -/
theorem discontig_distinct_noncontiguous (n : Nat) (hn : n ≤ 2 ^ 62 - 1) :
    let ds := discontigSeq n discontigIncrement
    ds.length = n ∧
    (∀ i, i < n → ∃ d, ds[i]? = some d ∧ d = 4 * (i + 1) ∧ isEmpty d = false ∧
        isContiguous d = false ∧ isContiguousHi d = false ∧ getIndex d = i + 1) ∧
    (∀ (i j d : Nat), ds[i]? = some d → ds[j]? = some d → i = j) := by
  intro ds
  have hget : ∀ i, i < n → ds[i]? = some (4 + 4 * i) := fun i hi =>
    discontigSeq_get n 4 i hi (by omega)
  refine ⟨discontigSeq_length n _, ?_, ?_⟩
  · intro i hi
    obtain ⟨h1, h2⟩ := type_bits (i + 1) 0 (by decide)
    have hgi := getIndex_pack (i + 1) 0 (by decide) (by omega)
    rw [show (i + 1) * 2 ^ 2 + 0 = 4 + 4 * i by omega] at h1 h2 hgi
    refine ⟨4 + 4 * i, hget i hi, by omega, ?_, ?_, ?_, hgi⟩
    · exact beq_false_of_ne (by omega)
    · unfold isContiguous; rw [h2]; rfl
    · unfold isContiguousHi; rw [h1]; rfl
  · intro i j d hi hj
    have hlt : ∀ {i : Nat}, ds[i]? = some d → i < n := fun h =>
      discontigSeq_length n _ ▸ (List.getElem?_eq_some_iff.1 h).1
    rw [hget i (hlt hi), Option.some.injEq] at hi
    rw [hget j (hlt hj), Option.some.injEq] at hj
    omega

/-- Descriptors whose contiguity bits differ are different; so no descriptor of
`discontig_distinct_noncontiguous` equals one created for a heap range (`contiguous_flags`). -/
theorem discontig_ne_contiguous (d d' : Nat) (h : isContiguous d = false) (h' : isContiguous d' = true) :
    d ≠ d' := by
  intro e; subst e; rw [h] at h'; cases h'

/-- Boundary of `discontig_distinct_noncontiguous`: the counter wraps after `2^62 - 1` descriptors —
the next one would be `0 = UNINITIALIZED` (unreachable in practice). -/
theorem discontig_wraps :
    (createDiscontiguous (2 ^ 64 - 4)).2 = 0 ∧ isEmpty (createDiscontiguous 0).1 = true := by
  decide

/-- `start = 2^50` (chunk-aligned, non-zero) is *not* admissible, and indeed does not round-trip:
the exponent `32` does not fit the 5-bit field and the descriptor decodes to `2^18`. -/
theorem exponent_overflows_witness :
    ¬ Admissible (2 ^ 50) 1 ∧
    (∃ d, create32 true 0 (2 ^ 50) (2 ^ 50 + 2 ^ 22) = some d ∧ getStart32 true d = some (2 ^ 18)) := by
  refine ⟨by decide, ⟨131077, by decide, by decide⟩⟩

example : Admissible 0x80000000 3 := by decide
example : Admissible (2 ^ 50 - 2 ^ 22) 1023 := by decide
example : Admissible (2 ^ 50 + 2 ^ 22) 1 := by decide
example : Admissible (2 ^ 64 - 2 ^ 32) 1023 := by decide
example : ¬ Admissible (2 ^ 64 - 2 ^ 32) 1024 := by decide
example : create32 true 0xd0000000 0xcfc00000 0xd0000000 = some 108937223 := by decide
example : layout32.forceContiguous = false ∧ layout64.forceContiguous = true ∧
    2 ≤ layout64.logSpaceExtent ∧ layout64.logSpaceExtent < 64 := by decide

end Mmtk.Desc
