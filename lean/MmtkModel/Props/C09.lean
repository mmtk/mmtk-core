import MmtkModel.Model.Snap
/-!
# C09 — Garbage is fully reclaimable (no space leak across GC cycles)

The floor rule the monitor applies to the `used_bytes` samples of a cycle program (`floorStep`): the
first `warm` samples establish the floor (their maximum), every later sample must be `≤ floor + slack`.
Proved, for runs of any length: in a run the rule accepts, every sample after the first `warm` ones is bounded by the
maximum of the warm-up samples + slack (`floorRun_bound`; from a warmed-up state, `floorRun_sound`).
Level: proof of the verdict function; partial w.r.t. the code (page accounting is sampled).
-/
namespace Mmtk.Heap

theorem floorStep_of_warm (warm slack : Nat) (f : Floor) (u : Nat) (hw : warm ≤ f.samples) :
    floorStep warm slack f u = ({ f with samples := f.samples + 1 }, decide (u ≤ f.floor + slack)) :=
  if_neg (Nat.not_lt.2 hw)

theorem floorStep_floor_mono (warm slack : Nat) (f : Floor) (u : Nat) (hw : warm ≤ f.samples) :
    (floorStep warm slack f u).1.floor = f.floor ∧ warm ≤ (floorStep warm slack f u).1.samples := by
  rw [floorStep_of_warm warm slack f u hw]
  exact ⟨rfl, Nat.le_succ_of_le hw⟩

theorem floorRun_sound (warm slack : Nat) : ∀ (us : List Nat) (f : Floor), warm ≤ f.samples →
    floorRun warm slack f us = true → ∀ u ∈ us, u ≤ f.floor + slack
  | [], _, _, _ => nofun
  | u :: rest, f, hw, h => by
    rw [floorRun, floorStep_of_warm warm slack f u hw] at h
    obtain ⟨h1, h2⟩ := Bool.and_eq_true_iff.1 h
    intro x hx
    rcases List.mem_cons.1 hx with rfl | hx
    · exact of_decide_eq_true h1
    · exact floorRun_sound warm slack rest _ (Nat.le_succ_of_le hw) h2 x hx
/-- an accepted run whose prefix `pre` completes the warm-up has every later sample `≤ max (old floor, pre) + slack`:
the floor after `pre` is that maximum -/
theorem floorRun_bound (warm slack : Nat) : ∀ (pre post : List Nat) (f : Floor), f.samples + pre.length = warm →
    floorRun warm slack f (pre ++ post) = true → ∀ u ∈ post, u ≤ pre.foldl Nat.max f.floor + slack
  | [], post, f, hl, h => floorRun_sound warm slack post f (Nat.le_of_eq hl.symm) h
  | p :: pre, post, f, hl, h => by
    rw [List.length_cons, ← Nat.add_assoc, Nat.add_right_comm] at hl
    have hlt : f.samples < warm := hl ▸ Nat.lt_of_lt_of_le (Nat.lt_succ_self _) (Nat.le_add_right _ _)
    simp only [List.cons_append, floorRun, floorStep, hlt, if_true, Bool.true_and] at h
    exact floorRun_bound warm slack pre post { samples := f.samples + 1, floor := Nat.max f.floor p } hl h

example : floorRun 3 262144 {} [45056, 45056, 49152, 45056, 300000, 45056] = true := by decide
example : floorRun 3 262144 {} [45056, 45056, 49152, 45056, 400000] = false := by decide

end Mmtk.Heap
