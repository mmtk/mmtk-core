import MmtkModel.Model.IntPtr
/-!
# C08 — interior-pointer and conservative lookups resolve to the right object

`is_mmtk_object` is the VO bit of the address (`isMmtkObject_iff`; with the VO bits exactly the valid objects, C07:
`isMmtkObject_valid`). Both searches behind `find_object_from_internal_pointer` — over words for
`find_prev_non_zero_value_simple`, over pages for the large-object space — are one downward walk (`downWalk_spec`).
The LOS applies the limit to pages, not to the reference: `los_limit_witness` is an answer with `p - ref(o) ≥ n`; what
holds is `p - ref(o) < n + 4096` (`findLos_limit_partial`). Stale pointers into the LOS: `findLos_none_of_no_vo` (no
hypothesis on `mapped`), `findLos_reads_mapped_only`; `findLosHoisted` tests `is_mapped` once before the loop and loses
that (`hoisted_reads_unmapped`).
-/
namespace Mmtk.IntPtr

theorem isMmtkObject_iff (sp : Space) (e : Env) (a : Nat) :
    isMmtkObject sp e a = some a ↔ (sp ≠ .empty ∧ e.voMapped a = true ∧ e.vo a = true) := by
  cases sp <;> simp [isMmtkObject, isVoBitSet] <;>
    (by_cases h1 : e.voMapped a = true <;> by_cases h2 : e.vo a = true <;> simp [h1, h2])

theorem isMmtkObject_eq (sp : Space) (e : Env) (a b : Nat) (h : isMmtkObject sp e a = some b) : b = a := by
  cases sp <;> simp [isMmtkObject, isVoBitSet] at h <;>
    (by_cases h1 : e.voMapped a = true <;> by_cases h2 : e.vo a = true <;> simp_all)

/-- with the VO bits exactly the valid objects (C07's theorem) and VO metadata mapped for every space address:
`Some(o)` iff the address is the reference of a valid object -/
theorem isMmtkObject_valid (sp : Space) (e : Env) (valid : List Nat) (a : Nat) (hsp : sp ≠ .empty)
    (hvo : ∀ x, e.vo x = true ↔ x ∈ valid) (hm : e.voMapped a = true) :
    isMmtkObject sp e a = some a ↔ a ∈ valid := by
  rw [isMmtkObject_iff, hvo]
  exact ⟨fun h => h.2.2, fun h => ⟨hsp, hm, h⟩⟩

theorem alignDown_spec (x a : Nat) (ha : 0 < a) : alignDown x a % a = 0 ∧ alignDown x a ≤ x ∧ x < alignDown x a + a := by
  unfold alignDown
  have h1 := Nat.mod_lt x ha
  have h2 := Nat.mod_le x a
  refine ⟨?_, Nat.sub_le _ _, by omega⟩
  have e : x - x % a = a * (x / a) := by have := Nat.div_add_mod x a; omega
  rw [e, Nat.mul_mod_right]

theorem mod_down {S c : Nat} (h1 : c % S = 0) : (c - S) % S = 0 :=
  Nat.sub_mod_eq_zero_of_mod_eq (by rw [h1, Nat.mod_self])

theorem mod_near {S c q : Nat} (h1 : c % S = 0) (h2 : q % S = 0) (h3 : q ≤ c) (h4 : c < S ∨ c - S < q) : q = c := by
  have hd : S ∣ c - q := Nat.dvd_of_mod_eq_zero (Nat.sub_mod_eq_zero_of_mod_eq (h1.trans h2.symm))
  have := Nat.eq_zero_of_dvd_of_lt hd (by omega)
  omega

/-- **the downward walks** (`find_prev_non_zero_value_simple` over words, the LOS walk over pages) have one shape:
from an aligned cursor step down by `S`; give up below `low` or on entering an unmapped grain; at the first cursor
where `test` answers, return what `res` makes of the answer. `grain` is the loop's `mapped_grain` cache: `hstep`
lets it change in any way (`grain'`), since with every aligned cursor in `[low, cur]` mapped it cannot matter. -/
theorem downWalk_spec {β : Type} (S low : Nat) (mapped : Nat → Bool)
    (test : Nat → Option β) (res : β → Option Nat) (loop : Nat → Nat → Nat → Option Nat)
    (hstep : ∀ fuel cur grain, ∃ grain', loop (fuel + 1) cur grain =
      if cur < low then none else if (cur < grain && !mapped cur) = true then none else
      match test cur with
      | some r => res r
      | none => if cur < S then none else loop fuel (cur - S) grain') :
    ∀ fuel cur grain o, cur % S = 0 → cur < fuel * S →
      (∀ c, c % S = 0 → low ≤ c → c ≤ cur → mapped c = true) →
      (loop fuel cur grain = some o ↔
        ∃ c r, c % S = 0 ∧ low ≤ c ∧ c ≤ cur ∧ test c = some r ∧
          (∀ q, q % S = 0 → c < q → q ≤ cur → test q = none) ∧ res r = some o) := by
  intro fuel
  induction fuel with
  | zero => intro cur grain o _ h; rw [Nat.zero_mul] at h; omega
  | succ fuel ih =>
    intro cur grain o hal hf hm
    obtain ⟨grain', hs⟩ := hstep fuel cur grain
    rw [hs]
    by_cases h1 : cur < low
    · rw [if_pos h1]
      exact ⟨fun h => (by cases h), fun ⟨c, _, _, h2, h3, _⟩ => by omega⟩
    · have hmc : mapped cur = true := hm cur hal (Nat.le_of_not_lt h1) (Nat.le_refl _)
      rw [if_neg h1, hmc, if_neg (by simp)]
      cases hv : test cur with
      | some a =>
        show res a = some o ↔ _
        constructor
        · intro h
          exact ⟨cur, a, hal, Nat.le_of_not_lt h1, Nat.le_refl _, hv, fun q _ h2 h3 => by omega, h⟩
        · rintro ⟨c, r, c1, c2, c3, c4, c5, c6⟩
          by_cases hc : c = cur
          · rw [hc, hv] at c4; cases c4; exact c6
          · have := c5 cur hal (by omega) (Nat.le_refl _)
            rw [hv] at this; cases this
      | none =>
        show (if cur < S then none else loop fuel (cur - S) grain') = some o ↔ _
        by_cases h8 : cur < S
        · rw [if_pos h8]
          refine ⟨fun h => (by cases h), ?_⟩
          rintro ⟨c, r, c1, _, c3, c4, _⟩
          rw [mod_near hal c1 c3 (Or.inl h8), hv] at c4; cases c4
        · rw [if_neg h8, ih (cur - S) grain' o (mod_down hal) (by rw [Nat.succ_mul] at hf; omega)
            (fun c hc1 hc2 hc3 => hm c hc1 hc2 (by omega))]
          constructor
          · rintro ⟨c, r, c1, c2, c3, c4, c5, c6⟩
            refine ⟨c, r, c1, c2, by omega, c4, fun q hq1 hq2 hq3 => ?_, c6⟩
            by_cases hq : q ≤ cur - S
            · exact c5 q hq1 hq2 hq
            · rw [mod_near hal hq1 hq3 (Or.inr (by omega))]; exact hv
          · rintro ⟨c, r, c1, c2, c3, c4, c5, c6⟩
            have hne : ¬ cur - S < c := fun h => by
              rw [mod_near hal c1 c3 (Or.inr h), hv] at c4; cases c4
            exact ⟨c, r, c1, c2, by omega, c4, fun q hq1 hq2 hq3 => c5 q hq1 hq2 (by omega), c6⟩

/-- **`find_prev_non_zero_value` on the VO bits**: the nearest set bit at or below `p`, strictly less than `limit`
bytes below it — for every bitmap, provided every word in that range is mapped (`hm`: what the walk answers at an
unmapped grain is not stated here). -/
theorem findPrev_spec (e : Env) (p limit a : Nat)
    (hm : ∀ c, c % 8 = 0 → (p - limit) + 1 ≤ c → c ≤ p → e.mapped c = true) :
    findPrev e p limit = some a ↔
      (a % 8 = 0 ∧ (p - limit) + 1 ≤ a ∧ a ≤ p ∧ e.vo a = true ∧ ∀ b, b % 8 = 0 → a < b → b ≤ p → e.vo b = false) := by
  obtain ⟨s1, s2, s3⟩ := alignDown_spec p 8 (by decide)
  unfold findPrev
  simp only
  generalize alignDown p 8 = c at *
  rw [downWalk_spec 8 _ e.mapped (fun c => if e.vo c then some c else none) some
    (findPrevLoop e _) (fun fuel cur grain => ⟨_, by rw [findPrevLoop]; cases e.vo cur <;> rfl⟩)
    _ c _ a s1 (by omega) (fun c h1 h2 h3 => hm c h1 h2 (by omega))]
  simp only [Option.ite_none_right_eq_some, Option.some.injEq]
  constructor
  · rintro ⟨_, _, c1, c2, c3, ⟨hv, rfl⟩, c5, rfl⟩
    exact ⟨c1, c2, by omega, hv, fun b b1 b2 b3 => by simpa using c5 b b1 b2 (by omega)⟩
  · rintro ⟨a1, a2, a3, a4, a5⟩
    exact ⟨a, a, a1, a2, by omega, ⟨a4, rfl⟩, fun q q1 q2 q3 => by simp [a5 q q1 q2 (by omega)], rfl⟩

theorem internalOf_eq_some (e : Env) (a p o : Nat) :
    internalOf e a p = some o ↔ a = o ∧ p < (o - e.refOff) + e.size o := by
  unfold internalOf
  by_cases h : p < (a - e.refOff) + e.size a
  · rw [if_pos h]
    exact ⟨fun c => ⟨Option.some.inj c, Option.some.inj c ▸ h⟩, fun c => by rw [c.1]⟩
  · rw [if_neg h]
    exact ⟨fun c => (by cases c), fun c => absurd (c.1 ▸ c.2) h⟩

/-- objects do not overlap: a valid object ends before the next one starts; and the later object's start
`b - refOff` does not underflow -/
def Disjoint (e : Env) : Prop :=
  ∀ a b, e.vo a = true → e.vo b = true → a < b → (a - e.refOff) + e.size a ≤ b - e.refOff ∧ e.refOff ≤ b

/-- **C08 (generic spaces)** `find_object_from_internal_pointer(p, n)` answers `o` iff `o` is a valid object with
`ref(o) ≤ p < start(o) + size(o)` whose reference is less than `n` bytes below `p`; otherwise `None`. -/
theorem findObject_spec (e : Env) (p n o : Nat) (hdis : Disjoint e) (hp : e.mapped p = true)
    (hm : ∀ c, c % 8 = 0 → (p - n) + 1 ≤ c → c ≤ p → e.mapped c = true) :
    findObject e p n = some o ↔
      (o % 8 = 0 ∧ e.vo o = true ∧ o ≤ p ∧ (p - n) + 1 ≤ o ∧ p < (o - e.refOff) + e.size o) := by
  have key : findObject e p n = some o ↔ findPrev e p n = some o ∧ p < (o - e.refOff) + e.size o := by
    unfold findObject
    rw [hp]
    cases findPrev e p n with
    | none => simp
    | some a => simpa using internalOf_eq_some e a p o
  rw [key, findPrev_spec e p n o hm]
  constructor
  · rintro ⟨⟨h1, h2, h3, h4, _⟩, h5⟩
    exact ⟨h1, h4, h3, h2, h5⟩
  · rintro ⟨h1, h2, h3, h4, h5⟩
    refine ⟨⟨h1, h4, h3, h2, fun b _ hb2 _ => ?_⟩, h5⟩
    cases hvb : e.vo b with
    | false => rfl
    | true =>
      have := hdis o b h2 hvb hb2
      omega

/-- **C08** per space: the empty SFT answers `None`; Immix / mark-sweep cap the limit by their maximal object size.
`hm` asks every word at or below `p` to be mapped, more than `findObject_spec` uses (those from `(p - n) + 1` up).
The large-object space is `findLos_spec`, stated about `findLos` (= `findFromInternal .los`). -/
theorem findFromInternal_spec (sp : Space) (e : Env) (p n o : Nat) (hdis : Disjoint e) (hp : e.mapped p = true)
    (hm : ∀ c, c % 8 = 0 → c ≤ p → e.mapped c = true) :
    (sp = .empty → findFromInternal sp e p n = none) ∧
    (sp = .generic none → (findFromInternal sp e p n = some o ↔
      (o % 8 = 0 ∧ e.vo o = true ∧ o ≤ p ∧ (p - n) + 1 ≤ o ∧ p < (o - e.refOff) + e.size o))) ∧
    (∀ cap, sp = .generic (some cap) → (findFromInternal sp e p n = some o ↔
      (o % 8 = 0 ∧ e.vo o = true ∧ o ≤ p ∧ (p - Nat.min cap n) + 1 ≤ o ∧ p < (o - e.refOff) + e.size o))) := by
  refine ⟨fun h => by subst h; rfl, fun h => ?_, fun cap h => ?_⟩
  · subst h
    exact findObject_spec e p n o hdis hp (fun c h1 _ h3 => hm c h1 h3)
  · subst h
    exact findObject_spec e p _ o hdis hp (fun c h1 _ h3 => hm c h1 h3)

/- `firstVo` reads one 64-bit VO word: the 64 word addresses `page + 8 * k`, i.e. the first 512 bytes of the page. -/
theorem firstVo_some (e : Env) (page a : Nat) (h : firstVo e page = some a) :
    e.vo a = true ∧ page ≤ a ∧ a < page + 512 ∧ a % 8 = page % 8 := by
  unfold firstVo at h
  cases hf : (List.range 64).find? (fun k => e.vo (page + 8 * k)) with
  | none => rw [hf] at h; cases h
  | some k =>
    rw [hf] at h
    simp only [Option.map_some, Option.some.injEq] at h
    subst h
    have h1 := List.find?_some hf
    have h2 := List.mem_of_find?_eq_some hf
    simp only [List.mem_range] at h2
    exact ⟨h1, by omega, by omega, by omega⟩

theorem firstVo_none (e : Env) (page : Nat) (h : firstVo e page = none) :
    ∀ k, k < 64 → e.vo (page + 8 * k) = false := by
  unfold firstVo at h
  simp only [Option.map_eq_none_iff] at h
  intro k hk
  have := List.find?_eq_none.1 h k (List.mem_range.2 hk)
  simpa using this

/-- **C08 (large-object space)**: the page walk answers the first VO-set address of the nearest page at or below
`p`'s page — not lower than `align_down(p - n, 4096)` — whose first VO word is non-zero, iff `p` is inside that
object. Under the LOS layout (one object per page run, its reference in the first 512 bytes of its first page —
asserted by `initialize_object_metadata`) that is the object containing `p`. `hm`: every page start at or below
`p` is mapped (the walk itself stops at `align_down(p - n, 4096)`). -/
theorem findLos_spec (e : Env) (p n o : Nat)
    (hm : ∀ c, c % 4096 = 0 → c ≤ p → e.mapped c = true) :
    findLos e p n = some o ↔
      ∃ page, page % 4096 = 0 ∧ alignDown (p - n) 4096 ≤ page ∧ page ≤ p ∧ firstVo e page = some o ∧
        (∀ q, q % 4096 = 0 → page < q → q ≤ p → firstVo e q = none) ∧ p < (o - e.refOff) + e.size o := by
  obtain ⟨s1, s2, s3⟩ := alignDown_spec p 4096 (by decide)
  unfold findLos
  simp only
  generalize alignDown p 4096 = c at *
  rw [downWalk_spec 4096 _ e.mapped (firstVo e) (fun a => internalOf e a p)
    (fun fuel cur grain => findLosLoop e p _ fuel cur grain)
    (fun fuel cur grain => ⟨if cur < grain then alignDown cur e.gran else grain, by
      rw [findLosLoop]; cases firstVo e cur <;> rfl⟩)
    _ c _ o s1 (by omega) (fun c h1 _ h3 => hm c h1 (by omega))]
  simp only [internalOf_eq_some]
  constructor
  · rintro ⟨page, _, h1, h2, h3, h4, h5, rfl, h⟩
    exact ⟨page, h1, h2, by omega, h4, fun q hq1 hq2 hq3 => h5 q hq1 hq2 (by omega), h⟩
  · rintro ⟨page, h1, h2, h3, h4, h5, h6⟩
    exact ⟨page, o, h1, h2, by omega, h4, fun q hq1 hq2 hq3 => h5 q hq1 hq2 (by omega), rfl, h6⟩

/-- What the limit means for the LOS: an answer's reference is less than `n + 4096` bytes below `p`. -/
theorem findLos_limit_partial (e : Env) (p n o : Nat) (hm : ∀ c, c % 4096 = 0 → c ≤ p → e.mapped c = true)
    (h : findLos e p n = some o) : e.vo o = true ∧ o ≤ p + 511 ∧ p < o + (n + 4096) := by
  obtain ⟨page, h1, h2, h3, h4, _, _⟩ := (findLos_spec e p n o hm).1 h
  obtain ⟨hv, ha, hb, _⟩ := firstVo_some e page o h4
  have := (alignDown_spec (p - n) 4096 (by decide)).2.2
  exact ⟨hv, by omega, by omega⟩

theorem findLosLoop_none_of_no_vo (e : Env) (p low : Nat) :
    ∀ (fuel cur grain : Nat), (∀ q, q ≤ cur → firstVo e q = none) → findLosLoop e p low fuel cur grain = none := by
  intro fuel
  induction fuel with
  | zero => intro cur grain _; rfl
  | succ fuel ih =>
    intro cur grain h
    unfold findLosLoop
    by_cases h1 : cur < low
    · simp [h1]
    · by_cases h2 : (cur < grain && !e.mapped cur) = true
      · simp [h1, h2]
      · simp only [h1, if_false, h2, h cur (Nat.le_refl _)]
        by_cases h8 : cur < 4096
        · simp [h8]
        · simp only [h8, if_false]
          exact ih _ _ (fun q hq => h q (by omega))

/-- **C08 (stale pointer into the LOS)**: when no VO bit is set below `align_down(p, 4096) + 512`, the end of the
highest VO word the walk can read — the lowest large object of the space after it was swept, or between `alloc` and
`post_alloc` — the lookup answers `None` for every search limit `n` and whatever is mapped below: no hypothesis
on `mapped`. -/
theorem findLos_none_of_no_vo (e : Env) (p n : Nat) (h : ∀ a, a < alignDown p 4096 + 512 → e.vo a = false) :
    findLos e p n = none := by
  unfold findLos
  apply findLosLoop_none_of_no_vo
  intro q hq
  rw [firstVo, Option.map_eq_none_iff, List.find?_eq_none]
  intro k hk
  have hk' := List.mem_range.1 hk
  simp [h (q + 8 * k) (by omega)]

/-! ### the walk never depends on VO metadata of unmapped memory

`Address::is_mapped` is tested whenever the walk enters a new mmap grain; a grain is mapped as a whole (`hu`). Two
memories that agree on everything except the VO words of UNMAPPED pages give the same answer: the walk reads a VO
word only after its page was found mapped. (`findLosHoisted`, the walk with `is_mapped` tested once before the loop,
breaks exactly this: `hoisted_reads_unmapped`.) -/

theorem alignDown_eq_of_between (c q g : Nat) (hg : 0 < g) (h1 : alignDown c g ≤ q) (h2 : q ≤ c) :
    alignDown q g = alignDown c g := by
  unfold alignDown at *
  have hc := Nat.div_add_mod c g
  have hq := Nat.div_add_mod q g
  have hcl := Nat.mod_lt c hg
  have hb : q / g ≤ c / g := Nat.div_le_div_right h2
  have ha : c / g ≤ q / g := by
    rw [Nat.le_div_iff_mul_le hg, Nat.mul_comm]
    omega
  have hab : q / g = c / g := Nat.le_antisymm hb ha
  rw [hab] at hq
  omega

/-- `e'` is `e` except for the VO words of pages that are not mapped -/
structure AgreeOnMapped (e e' : Env) : Prop where
  mapped : e'.mapped = e.mapped
  gran : e'.gran = e.gran
  refOff : e'.refOff = e.refOff
  size : e'.size = e.size
  vo : ∀ page k, k < 64 → e.mapped page = true → e'.vo (page + 8 * k) = e.vo (page + 8 * k)

theorem findLosLoop_reads_mapped_only (e e' : Env) (hag : AgreeOnMapped e e') (hg : 0 < e.gran)
    (hu : ∀ a, e.mapped a = e.mapped (alignDown a e.gran)) (p low : Nat) :
    ∀ (fuel cur grain : Nat), (∀ q, grain ≤ q → q ≤ cur → e.mapped q = true) →
      findLosLoop e' p low fuel cur grain = findLosLoop e p low fuel cur grain := by
  intro fuel
  induction fuel with
  | zero => intro cur grain _; rfl
  | succ fuel ih =>
    intro cur grain hinv
    unfold findLosLoop
    rw [hag.mapped, hag.gran]
    by_cases h1 : cur < low
    · simp [h1]
    · by_cases h2 : (cur < grain && !e.mapped cur) = true
      · simp [h1, h2]
      · have hmc : e.mapped cur = true := by
          by_cases hlt : cur < grain
          · simpa [hlt] using h2
          · exact hinv cur (by omega) (Nat.le_refl _)
        have hfv : firstVo e' cur = firstVo e cur := by
          unfold firstVo
          rw [← List.head?_filter, ← List.head?_filter,
            List.filter_congr fun k hk => hag.vo cur k (List.mem_range.1 hk) hmc]
        simp only [h1, if_false, h2, hfv]
        cases hv : firstVo e cur with
        | some a => simp only [internalOf, hag.refOff, hag.size]
        | none =>
          simp only
          by_cases h8 : cur < 4096
          · simp [h8]
          · simp only [h8, if_false]
            apply ih
            intro q hq1 hq2
            split at hq1
            · rw [hu q, alignDown_eq_of_between cur q e.gran hg hq1 (by omega), ← hu cur]
              exact hmc
            · exact hinv q hq1 (by omega)

/-- **C08 (the LOS walk reads mapped pages only, as non-interference)**: the answer does not depend on the VO words of
unmapped pages, for every pointer below 2^64 and every limit. Nothing in the model can fault; that a read of an
unmapped page would, is the reading. -/
theorem findLos_reads_mapped_only (e e' : Env) (hag : AgreeOnMapped e e') (hg : 0 < e.gran)
    (hu : ∀ a, e.mapped a = e.mapped (alignDown a e.gran)) (p n : Nat) (hp : p < 2 ^ 64) :
    findLos e' p n = findLos e p n := by
  unfold findLos
  apply findLosLoop_reads_mapped_only e e' hag hg hu
  intro q h1 h2
  -- the initial grain is `2 ^ 64 - 1`, which no page start `≤ p < 2 ^ 64` reaches (`hp`): nothing is assumed mapped
  unfold alignDown at h2
  omega

/-- a variant of `findLos` (not in mmtk-core): `is_mapped` tested once for `p`'s page, then the walk without any further test
(`mapped := true`; fuel `cur / 4096 + 1` = one iteration per page down to 0, grain `2^64 - 1` = `Address::MAX`,
as in `findLos`) -/
def findLosHoisted (e : Env) (p n : Nat) : Option Nat :=
  let cur := alignDown p 4096
  if !e.mapped cur then none
  else findLosLoop { e with mapped := fun _ => true } p (alignDown (p - n) 4096) (cur / 4096 + 1) cur (2 ^ 64 - 1)

/-- one mapped 8 KB grain at 0x2000 (no object), below it unmapped memory whose "VO word" holds garbage -/
def staleDemo (garbage : Bool) : Env :=
  { vo := fun a => garbage && a == 0x1008, mapped := fun a => decide (0x2000 ≤ a ∧ a < 0x4000), voMapped := fun _ => true,
    gran := 0x2000, refOff := 8, size := fun _ => 0x4000 }

/-- **witness** (decide): the real walk answers `None` whatever the unmapped VO word holds; the hoisted variant's
answer depends on it (it reads the unmapped word — a SIGSEGV in the real process). -/
theorem hoisted_reads_unmapped :
    findLos (staleDemo false) 0x2010 (2 ^ 64 - 1) = none ∧ findLos (staleDemo true) 0x2010 (2 ^ 64 - 1) = none ∧
    findLosHoisted (staleDemo false) 0x2010 (2 ^ 64 - 1) = none ∧
    findLosHoisted (staleDemo true) 0x2010 (2 ^ 64 - 1) = some 0x1008 := by decide +kernel

/-- the hypotheses of `findLos_reads_mapped_only` / `findLos_none_of_no_vo` are satisfiable (and the conclusion is
not vacuous: the two memories differ) -/
example : findLos (staleDemo true) 0x2010 (2 ^ 64 - 1) = findLos (staleDemo false) 0x2010 (2 ^ 64 - 1) :=
  findLos_reads_mapped_only (staleDemo false) (staleDemo true)
    ⟨rfl, rfl, rfl, rfl, fun page k _ hm => by
      have : 0x2000 ≤ page := by simp [staleDemo] at hm; omega
      simp [staleDemo]; omega⟩
    (by decide)
    (fun a => by
      simp only [staleDemo, alignDown]
      have := Nat.div_add_mod a 0x2000
      have := Nat.mod_lt a (show 0 < 0x2000 by decide)
      by_cases h : 0x2000 ≤ a ∧ a < 0x4000
      · have : 0x2000 ≤ a - a % 0x2000 ∧ a - a % 0x2000 < 0x4000 := by omega
        simp [h, this]
      · have : ¬ (0x2000 ≤ a - a % 0x2000 ∧ a - a % 0x2000 < 0x4000) := by omega
        simp [h, this])
    0x2010 (2 ^ 64 - 1) (by decide)
example : findLos (staleDemo false) 0x2010 (2 ^ 64 - 1) = none :=
  findLos_none_of_no_vo _ _ _ (fun a _ => by simp [staleDemo])

/-- a three-page large object at 0x10000 (reference 0x10008), everything mapped -/
def losDemo : Env :=
  { vo := fun a => a == 0x10008, mapped := fun _ => true, voMapped := fun _ => true, gran := 4194304, refOff := 8,
    size := fun _ => 0x3000 }

/-- **witness** (decide): `p` = 0x11000 lies 0xff8 bytes above the reference, the search limit is 8 bytes, and the
lookup still answers the object: the LOS applies `max_search_bytes` to pages only. -/
theorem los_limit_witness : findLos losDemo 0x11000 8 = some 0x10008 ∧ ¬ (0x11000 - 0x10008 < 8) := by decide

/-- two objects of 32 and 48 bytes at 0x1000 / 0x1020 (references 8 bytes above their starts) -/
def demo : Env :=
  { vo := fun a => a == 0x1008 || a == 0x1028, mapped := fun _ => true, voMapped := fun _ => true, gran := 4194304,
    refOff := 8, size := fun a => if a == 0x1008 then 32 else 48 }

example : findFromInternal (.generic none) demo 0x1018 64 = some 0x1008 ∧ findFromInternal (.generic none) demo 0x1020 64 = none ∧ findFromInternal (.generic none) demo 0x1028 64 = some 0x1028
    ∧ findFromInternal (.generic none) demo 0x1050 64 = none ∧ findFromInternal (.generic none) demo 0x1048 16 = none
    ∧ findFromInternal (.generic (some 16)) demo 0x1048 4096 = none ∧ findFromInternal .empty demo 0x1018 64 = none := by decide

end Mmtk.IntPtr
