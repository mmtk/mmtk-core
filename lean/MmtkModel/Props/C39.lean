import MmtkModel.Model.Opts
/-!
# C39 — Option setting is all-or-nothing and parsers match their grammar

*Statement*: `set_from_string(name, value)` returns true iff the value parses and passes validation,
and on false no option changes; bulk setting behaves like applying its pairs in order. Size,
nursery, GC-trigger and CPU-list parsers accept exactly their documented grammar and compute the
documented values, reporting overflow instead of wrapping.

Setting is proved for ANY option table (so in particular for `table env`) from one inversion of
`set_from_string_inner`. Each parser is inverted along its own `match`es; what they share is stated once:
one step of `str::split`, from which a split into one or two pieces determines the string, and the digit
loop, whose checked arithmetic reports exactly the values that do not fit.
The trigger, nursery and CPU-list theorems are these inversions: an accepted string has the documented form
and value. That every string of the form is accepted (unless a number overflows) is proved for the number
parsers, `FixedHeapSize:` and `Delegated` only.

Where the code and the documented forms differ:
* before a `fix:` commit of mmtk-core, `Delegated` followed by ANY suffix was accepted as `Delegated`
  (`s.starts_with("Delegated")`, key `opts:delegated-prefix`); the code modelled here compares the whole
  string: `trigger_delegated_exact`.
* numbers that are not guarded by a regex (`Bounded:+5,10`, core ids `+1-+3`, `threads=+4`) accept
  one leading `+`, because `uN::from_str` does; the sizes of `gc_trigger` do not (`\d+`). The
  documentation says "numbers", so this is recorded as an observation, not a violation.
-/
namespace Mmtk.Opts

theorem setInner_ok_iff (tbl : List OptSpec) (opts r : Options) (key val : List Char) :
    setInner tbl opts key val = .ok r ↔
      ∃ o v, tbl.find? (fun o => o.name.toList = key) = some o ∧ o.parse val = some v ∧ o.valid v = true ∧
        r = setVal opts o.name v := by
  constructor
  · intro h
    unfold setInner at h
    split at h
    · cases h
    next o hf =>
      split at h
      · cases h
      next v hp =>
        split at h
        next hv => cases h; exact ⟨o, v, hf, hp, hv, rfl⟩
        · cases h
  · rintro ⟨o, v, hf, hp, hv, rfl⟩
    simp only [setInner, hf, hp, hv, if_true]

/-- `set_from_string(key, val)` returns true iff `key` names an
option (the first table entry with that name), `val` parses for that option's type and the parsed
value passes the option's validator. -/
theorem set_iff_parse_and_valid (tbl : List OptSpec) (opts : Options) (key val : List Char) :
    (setFromString tbl opts key val).1 = true ↔
      ∃ o v, tbl.find? (fun o => o.name.toList = key) = some o ∧ o.parse val = some v ∧ o.valid v = true := by
  unfold setFromString
  cases hs : setInner tbl opts key val with
  | ok r =>
    obtain ⟨o, v, h1, h2, h3, _⟩ := (setInner_ok_iff tbl opts r key val).1 hs
    simp only [true_iff]
    exact ⟨o, v, h1, h2, h3⟩
  | error e =>
    simp only [Bool.false_eq_true, false_iff]
    rintro ⟨o, v, h1, h2, h3⟩
    have := (setInner_ok_iff tbl opts (setVal opts o.name v) key val).2 ⟨o, v, h1, h2, h3, rfl⟩
    rw [hs] at this
    cases this

theorem set_false_unchanged (tbl : List OptSpec) (opts : Options) (key val : List Char)
    (h : (setFromString tbl opts key val).1 = false) : (setFromString tbl opts key val).2 = opts := by
  unfold setFromString at *
  cases hs : setInner tbl opts key val with
  | ok o => simp [hs] at h
  | error e => rfl

theorem mem_setVal {opts : Options} {name : String} {v : Val} {kv : String × Val}
    (h : kv ∈ setVal opts name v) : (kv.1 ≠ name → kv ∈ opts) ∧ (kv.1 = name → kv.2 = v) := by
  simp only [setVal, List.mem_map] at h
  obtain ⟨kv0, hm, rfl⟩ := h
  split
  next hk => exact ⟨fun hne => absurd hk hne, fun _ => rfl⟩
  next hk => exact ⟨fun _ => hm, fun he => absurd he hk⟩

theorem set_true_effect (tbl : List OptSpec) (opts : Options) (key val : List Char)
    (h : (setFromString tbl opts key val).1 = true) :
    ∃ o v, tbl.find? (fun o => o.name.toList = key) = some o ∧ o.parse val = some v ∧ o.valid v = true ∧
      (setFromString tbl opts key val).2 = setVal opts o.name v ∧
      (∀ kv ∈ setVal opts o.name v, kv.1 ≠ o.name → kv ∈ opts) ∧
      (∀ kv ∈ setVal opts o.name v, kv.1 = o.name → kv.2 = v) := by
  unfold setFromString at *
  cases hs : setInner tbl opts key val with
  | error e => simp [hs] at h
  | ok r =>
    obtain ⟨o, v, h1, h2, h3, h4⟩ := (setInner_ok_iff tbl opts r key val).1 hs
    exact ⟨o, v, h1, h2, h3, h4, fun kv hkv => (mem_setVal hkv).1, fun kv hkv => (mem_setVal hkv).2⟩

/-- the whole table: every name is distinct (so "the first entry with that name" is "the entry") -/
example : ((table {}).map (·.name)).Nodup := by decide +kernel
example : (setFromString (table {}) (defaults (table {})) "threads".toList "0".toList).1 = false := by decide +kernel

/-- One step of the bulk loop as a fold function over `(result so far, options)`:
`none` = still going. -/
def bulkStep (tbl : List OptSpec) (acc : Option BulkResult × Options) (tok : List Char) : Option BulkResult × Options :=
  match acc with
  | (some r, o) => (some r, o)              -- already returned / panicked: later pairs are not looked at
  | (none, opts) =>
    match splitOn '=' tok with
    | [key, val] =>
      match setInner tbl opts key val with
      | .ok opts' => (none, opts')
      | .error .invalidKey => (some (.panic opts), opts)
      | .error _ => (some (.ret false opts), opts)
    | _ => (some (.ret false opts), opts)

def bulkFinish : Option BulkResult × Options → BulkResult
  | (some r, _) => r
  | (none, o) => .ret true o

theorem bulkLoop_eq_fold (tbl : List OptSpec) : ∀ (toks : List (List Char)) (opts : Options),
    bulkLoop tbl toks opts = bulkFinish (toks.foldl (bulkStep tbl) (none, opts)) := by
  have stuck : ∀ (toks : List (List Char)) (r : BulkResult) (o : Options),
      toks.foldl (bulkStep tbl) (some r, o) = (some r, o) := by
    intro toks
    induction toks with
    | nil => intro r o; rfl
    | cons t ts ih => intro r o; simp [List.foldl_cons, bulkStep, ih]
  intro toks
  induction toks with
  | nil => intro opts; rfl
  | cons tok rest ih =>
    intro opts
    simp only [bulkLoop, List.foldl_cons]
    cases hs : splitOn '=' tok with
    | nil => simp [bulkStep, hs, stuck, bulkFinish]
    | cons a l1 =>
      cases l1 with
      | nil => simp [bulkStep, hs, stuck, bulkFinish]
      | cons b l2 =>
        cases l2 with
        | cons c l3 => simp [bulkStep, hs, stuck, bulkFinish]
        | nil =>
          cases hi : setInner tbl opts a b with
          | ok o' => simp [bulkStep, hs, hi, ih]
          | error e => cases e <;> simp [bulkStep, hs, hi, stuck, bulkFinish]

/-- `set_bulk_from_string` is the left fold of single settings over its
whitespace/comma separated `key=value` tokens, in order, stopping at the first failure: a token
without exactly one `=`, a parse or validation failure returns false; an unknown key panics; pairs
before the failing one stay applied; true iff every pair was set. -/
theorem bulk_eq_fold (tbl : List OptSpec) (opts : Options) (s : List Char) :
    setBulkFromString tbl opts s = bulkFinish ((bulkTokens s).foldl (bulkStep tbl) (none, opts)) :=
  bulkLoop_eq_fold tbl _ _

theorem bulkStep_ok_iff (tbl : List OptSpec) (opts : Options) (key val : List Char) (tok : List Char)
    (ht : splitOn '=' tok = [key, val]) :
    (bulkStep tbl (none, opts) tok).1 = none ↔ (setFromString tbl opts key val).1 = true := by
  simp only [bulkStep, ht, setFromString]
  cases hi : setInner tbl opts key val with
  | ok o' => simp
  | error e => cases e <;> simp

theorem stripPrefix_some {p s x : List Char} (h : stripPrefix p s = some x) : s = p ++ x := by
  unfold stripPrefix at h
  split at h
  next hp => cases h; exact (List.prefix_iff_eq_append.1 (List.isPrefixOf_iff_prefix.1 hp)).symm
  · cases h

theorem stripPrefix_append (p x : List Char) : stripPrefix p (p ++ x) = some x := by
  unfold stripPrefix
  rw [if_pos (List.isPrefixOf_iff_prefix.2 (List.prefix_append p x)), List.drop_left]

theorem splitOn_ne_nil (sep : Char) (y : List Char) : splitOn sep y ≠ [] := by
  cases y with
  | nil => simp [splitOn]
  | cons d ds =>
    unfold splitOn
    split
    · simp
    · split <;> simp

theorem splitOn_cons (sep c : Char) (cs : List Char) : ∃ p ps, splitOn sep cs = p :: ps ∧
    splitOn sep (c :: cs) = if c = sep then [] :: p :: ps else (c :: p) :: ps := by
  cases h : splitOn sep cs with
  | nil => exact absurd h (splitOn_ne_nil sep cs)
  | cons p ps => exact ⟨p, ps, rfl, by simp only [splitOn, h]⟩

theorem splitOn_one (sep : Char) : ∀ (y b : List Char), splitOn sep y = [b] → y = b := by
  intro y
  induction y with
  | nil => intro b h; cases h; rfl
  | cons d ds ih =>
    intro b h
    obtain ⟨p, ps, hp, e⟩ := splitOn_cons sep d ds
    rw [e] at h
    split at h
    · cases h
    · cases h; rw [ih p hp]

theorem splitOn_two (sep : Char) : ∀ (x a b : List Char), splitOn sep x = [a, b] → x = a ++ sep :: b := by
  intro x
  induction x with
  | nil => intro a b h; cases h
  | cons c cs ih =>
    intro a b h
    obtain ⟨p, ps, hp, e⟩ := splitOn_cons sep c cs
    rw [e] at h
    split at h
    next hc => cases h; rw [splitOn_one sep cs b hp, hc]; rfl
    next => cases h; rw [ih p b hp]; rfl

def digitsValue : List Char → Nat → Nat
  | [], acc => acc
  | c :: cs, acc => digitsValue cs (acc * 10 + digitVal c)

theorem le_digitsValue : ∀ (cs : List Char) (acc : Nat), acc ≤ digitsValue cs acc := by
  intro cs
  induction cs with
  | nil => intro acc; exact Nat.le_refl _
  | cons c cs ih => intro acc; exact Nat.le_trans (by omega) (ih (acc * 10 + digitVal c))

/-- The checked digit loop accepts exactly ASCII digit strings whose
decimal value stays below the bound and returns that value: overflow is reported (`none`), never
wrapped. -/
theorem parseDigits_spec (bound : Nat) : ∀ (cs : List Char) (acc v : Nat),
    parseDigits bound cs acc = some v ↔
      cs.all isAsciiDigit = true ∧ v = digitsValue cs acc ∧ (cs = [] ∨ v < bound) := by
  intro cs
  induction cs with
  | nil => intro acc v; simp [parseDigits, digitsValue, eq_comm]
  | cons c cs ih =>
    intro acc v
    have hmono := le_digitsValue cs (acc * 10 + digitVal c)
    simp only [parseDigits, List.all_cons, Bool.and_eq_true, digitsValue]
    cases hd : isAsciiDigit c with
    | false => simp
    | true =>
      simp only [if_true, true_and, List.cons_ne_nil, false_or]
      split
      next hb =>
        -- with no digit left the value is the accumulator, which is below the bound
        rw [ih]
        refine and_congr_right fun _ => and_congr_right fun hv => or_iff_right_of_imp ?_
        rintro rfl
        exact hv ▸ hb
      next hb =>
        refine ⟨nofun, fun ⟨_, hv, h⟩ => ?_⟩
        omega

def IsDigits (ds : List Char) : Prop := ds ≠ [] ∧ ds.all isAsciiDigit = true

theorem digit_not_sign {c : Char} (h : isAsciiDigit c = true) : c ≠ '+' ∧ c ≠ '-' := by
  constructor <;> (intro e; subst e; revert h; decide)

theorem parseUnsigned_plus (bound : Nat) {ds : List Char} (h : ds ≠ []) :
    parseUnsigned bound ('+' :: ds) = parseDigits bound ds 0 := by
  cases ds with
  | nil => exact absurd rfl h
  | cons d ds => simp [parseUnsigned]

theorem parseUnsigned_of_ne_sign (bound : Nat) {c : Char} (rest : List Char) (h1 : c ≠ '+') (h2 : c ≠ '-') :
    parseUnsigned bound (c :: rest) = parseDigits bound (c :: rest) 0 := by
  cases rest <;> simp [parseUnsigned, h1, h2]

theorem parseUnsigned_minus (bound : Nat) (rest : List Char) : parseUnsigned bound ('-' :: rest) = none := by
  cases rest <;> simp [parseUnsigned, parseDigits, isAsciiDigit]

theorem parseUnsigned_of_isDigits (bound : Nat) {ds : List Char} (hd : IsDigits ds) :
    parseUnsigned bound ds = parseDigits bound ds 0 := by
  obtain ⟨hne, hall⟩ := hd
  cases ds with
  | nil => exact absurd rfl hne
  | cons d ds' =>
    have hs := digit_not_sign (Bool.and_eq_true_iff.1 (List.all_cons ▸ hall)).1
    exact parseUnsigned_of_ne_sign bound ds' hs.1 hs.2

/-- `uN::from_str` accepts exactly `+? digit+` with value `< 2^N` and
returns the decimal value; anything else — empty, a lone sign, `-`, blanks, non-ASCII digits, a
value `≥ 2^N` — is an error. -/
theorem parseUnsigned_spec (bound : Nat) (s : List Char) (v : Nat) :
    parseUnsigned bound s = some v ↔
      ∃ ds, (s = ds ∨ s = '+' :: ds) ∧ IsDigits ds ∧ v = digitsValue ds 0 ∧ v < bound := by
  constructor
  · intro h
    cases s with
    | nil => cases h
    | cons c rest =>
      by_cases hp : c = '+'
      · subst hp
        have hne : rest ≠ [] := by rintro rfl; cases h
        rw [parseUnsigned_plus bound hne, parseDigits_spec] at h
        exact ⟨rest, Or.inr rfl, ⟨hne, h.1⟩, h.2.1, h.2.2.resolve_left hne⟩
      · by_cases hm : c = '-'
        · rw [hm, parseUnsigned_minus] at h; cases h
        · rw [parseUnsigned_of_ne_sign bound rest hp hm, parseDigits_spec] at h
          exact ⟨c :: rest, Or.inl rfl, ⟨List.cons_ne_nil _ _, h.1⟩, h.2.1,
            h.2.2.resolve_left (List.cons_ne_nil _ _)⟩
  · rintro ⟨ds, h1, hd, hv, hb⟩
    have hspec := (parseDigits_spec bound ds 0 v).2 ⟨hd.2, hv, Or.inr hb⟩
    rcases h1 with rfl | rfl
    · rwa [parseUnsigned_of_isDigits bound hd]
    · rwa [parseUnsigned_plus bound hd.1]

theorem parseUnsigned_digits (bound : Nat) (ds : List Char) (hd : IsDigits ds) :
    parseUnsigned bound ds = if digitsValue ds 0 < bound then some (digitsValue ds 0) else none := by
  rw [parseUnsigned_of_isDigits bound hd]
  split
  next hb => exact (parseDigits_spec bound ds 0 _).2 ⟨hd.2, rfl, Or.inr hb⟩
  next hb =>
    cases h : parseDigits bound ds 0 with
    | none => rfl
    | some v =>
      obtain ⟨_, rfl, hv⟩ := (parseDigits_spec bound ds 0 v).1 h
      exact absurd (hv.resolve_left hd.1) hb

theorem lower_digit {c : Char} (h : isAsciiDigit c = true) : toLowerAscii c = c ∧ isAsciiAlpha c = false := by
  simp only [isAsciiDigit, Bool.and_eq_true, decide_eq_true_eq] at h
  unfold toLowerAscii isAsciiAlpha
  constructor
  · have : ¬ (65 ≤ c.toNat ∧ c.toNat ≤ 90) := by omega
    simp [this]
  · simp only [Bool.or_eq_false_iff, Bool.and_eq_false_iff, decide_eq_false_iff_not]
    constructor <;> omega

theorem map_lower_digits : ∀ (ds : List Char), ds.all isAsciiDigit = true → ds.map toLowerAscii = ds := by
  intro ds
  induction ds with
  | nil => intro _; rfl
  | cons c cs ih =>
    intro h
    simp only [List.all_cons, Bool.and_eq_true] at h
    simp [List.map_cons, (lower_digit h.1).1, ih h.2]

/-- Meant for size suffixes only (`isSizeSuffix`), where the last branch is `t`/`T`. -/
def sizeMult (c : Char) : Nat :=
  if c = 'k' ∨ c = 'K' then 2^10 else if c = 'm' ∨ c = 'M' then 2^20 else if c = 'g' ∨ c = 'G' then 2^30 else 2^40

theorem suffix_mult {c : Char} (h : isSizeSuffix c = true) :
    isAsciiAlpha (toLowerAscii c) = true ∧ 1 ≤ sizeMult c ∧
    (if toLowerAscii c = 'k' then some 1024 else if toLowerAscii c = 'm' then some (1024 * 1024)
      else if toLowerAscii c = 'g' then some (1024 * 1024 * 1024)
      else if toLowerAscii c = 't' then some (1024 * 1024 * 1024 * 1024) else none) = some (sizeMult c) := by
  have : c = 'k' ∨ c = 'K' ∨ c = 'm' ∨ c = 'M' ∨ c = 'g' ∨ c = 'G' ∨ c = 't' ∨ c = 'T' := by
    simpa [isSizeSuffix] using h
  rcases this with h | h | h | h | h | h | h | h <;> subst h <;> decide

/-- On the strings the regexes admit, `digit+ [kKmMgGtT]?`:
the value is `n · 1024^i` and `none` exactly when that exceeds `2^64 − 1` (overflow is reported, not
wrapped); leading zeros are allowed. -/
theorem parseSize_spec (ds : List Char) (hd : IsDigits ds) :
    parseSize ds = (if digitsValue ds 0 < 2^64 then some (digitsValue ds 0) else none) ∧
    ∀ c, isSizeSuffix c = true →
      parseSize (ds ++ [c]) =
        (if digitsValue ds 0 * sizeMult c < 2^64 then some (digitsValue ds 0 * sizeMult c) else none) := by
  have hmap := map_lower_digits ds hd.2
  have hv := parseUnsigned_digits (2^64) ds hd
  constructor
  · unfold parseSize
    simp only [hmap]
    cases hl : ds.getLast? with
    | none => exact hv
    | some last =>
      have hdig : isAsciiDigit last = true := (List.all_eq_true.1 hd.2) last (List.mem_of_getLast? hl)
      simp only [(lower_digit hdig).2, Bool.false_eq_true, if_false]
      exact hv
  · intro c hc
    obtain ⟨h1, h2, h3⟩ := suffix_mult hc
    unfold parseSize
    simp only [List.map_append, hmap, List.map_cons, List.map_nil, List.getLast?_concat, List.dropLast_concat,
      h1, if_true, h3, hv]
    by_cases hb : digitsValue ds 0 < 2^64
    · simp only [hb, if_true]
    · -- the number alone overflows, so does its multiple
      have := Nat.le_mul_of_pos_right (digitsValue ds 0) h2
      rw [if_neg hb, if_neg (by omega)]

theorem dynParts_some {s a b : List Char} (h : dynParts s = some (a, b)) :
    s = "DynamicHeapSize:".toList ++ (a ++ ',' :: b) ∧ matchSize a = true ∧ matchSize b = true := by
  unfold dynParts at h
  split at h
  · cases h
  next x hd =>
    split at h
    next a' b' hsplit =>
      split at h
      next hm =>
        cases h
        rw [Bool.and_eq_true] at hm
        exact ⟨by rw [stripPrefix_some hd, splitOn_two ',' x a b hsplit], hm.1, hm.2⟩
      · cases h
    · cases h

/-- Every string `GCTriggerSelector::from_str` accepts
is `FixedHeapSize:<size>`, `DynamicHeapSize:<size>,<size>` with `<size> = digit+ [kKmMgGtT]?` whose
values fit in 64 bits, or is exactly `Delegated`; the value is the parsed size(s). -/
theorem trigger_spec (s : List Char) (t : Trigger) (h : triggerFromStr s = some t) :
    (∃ x n, s = "FixedHeapSize:".toList ++ x ∧ matchSize x = true ∧ parseSize x = some n ∧ t = .fixed n) ∨
    (∃ a b mn mx, s = "DynamicHeapSize:".toList ++ (a ++ ',' :: b) ∧ matchSize a = true ∧ matchSize b = true ∧
        parseSize a = some mn ∧ parseSize b = some mx ∧ t = .dynamic mn mx) ∨
    (s = "Delegated".toList ∧ t = .delegated) := by
  unfold triggerFromStr at h
  split at h
  · cases h
  split at h
  next x hf =>
    obtain ⟨n, hp, e⟩ := Option.map_eq_some_iff.1 h
    have hx := Option.filter_eq_some_iff.1 hf
    exact Or.inl ⟨x, n, stripPrefix_some hx.1, hx.2, hp, e.symm⟩
  next =>
    split at h
    next a b hd =>
      obtain ⟨e, ma, mb⟩ := dynParts_some hd
      split at h
      · cases h
      next mn hpa =>
        split at h
        · cases h
        next mx hpb =>
          cases h
          exact Or.inr (Or.inl ⟨a, b, mn, mx, e, ma, mb, hpa, hpb, rfl⟩)
    next =>
      split at h
      next hpre => cases h; exact Or.inr (Or.inr ⟨hpre, rfl⟩)
      · cases h

/-- Conversely every `FixedHeapSize:<size>` is accepted with the value of `<size>` (or rejected
because of overflow only). -/
theorem trigger_fixed_accepts (x : List Char) (hm : matchSize x = true) :
    triggerFromStr ("FixedHeapSize:".toList ++ x) = (parseSize x).map Trigger.fixed := by
  unfold triggerFromStr fixedPart
  rw [if_neg (by simp), stripPrefix_append, Option.filter_some, if_pos hm]

/-- The variant name must match exactly: `Delegated` parses (and
validates), `Delegated` followed by any non-empty suffix is rejected. -/
theorem trigger_delegated_exact :
    (triggerFromStr "Delegated".toList = some .delegated ∧ Trigger.delegated.validate = true) ∧
    ∀ suffix : List Char, suffix ≠ [] → triggerFromStr ("Delegated".toList ++ suffix) = none := by
  refine ⟨⟨by decide +kernel, rfl⟩, ?_⟩
  intro suffix hne
  -- neither prefix matches: the first resp. second character differs
  have hf : fixedPart ("Delegated".toList ++ suffix) = none := rfl
  have hd : dynParts ("Delegated".toList ++ suffix) = none := rfl
  unfold triggerFromStr
  rw [hf, hd, if_neg (by simp), if_neg (by simpa using hne)]

example : triggerFromStr "FixedHeapSize:2g".toList = some (.fixed (2 * 2^30)) := by decide +kernel
example : triggerFromStr "DynamicHeapSize:1m,512K".toList = some (.dynamic (2^20) (512 * 1024)) := by decide +kernel
example : triggerFromStr "FixedHeapSize:18014398509481984k".toList = none := by decide +kernel   -- 2^54 · 1024 = 2^64: overflow reported
example : triggerFromStr "FixedHeapSize:18014398509481983k".toList = some (.fixed (2^64 - 1024)) := by decide +kernel
example : triggerFromStr "FixedHeapSize:+5".toList = none := by decide +kernel
example : triggerFromStr "DelegatedHeapSize:1g".toList = none := by decide +kernel
example : triggerFromStr "Delegated".toList = some .delegated := by decide +kernel

def StrictSorted (l : List Nat) : Prop := List.Pairwise (· < ·) l

/-- `push; sort_unstable; dedup` on a sorted duplicate-free core list is
set insertion: the result is sorted, duplicate free, and contains exactly the old cores and the new one. -/
theorem insertCore_spec (c : Nat) : ∀ (l : List Nat), StrictSorted l →
    StrictSorted (insertCore c l) ∧ ∀ x, x ∈ insertCore c l ↔ x = c ∨ x ∈ l := by
  intro l
  induction l with
  | nil => intro _; simp [insertCore, StrictSorted]
  | cons y ys ih =>
    intro hs
    obtain ⟨hy, hys⟩ := List.pairwise_cons.1 hs
    obtain ⟨ih1, ih2⟩ := ih hys
    unfold insertCore
    split
    next h1 =>
      refine ⟨List.pairwise_cons.2 ⟨fun a ha => ?_, hs⟩, fun x => by simp⟩
      rcases List.mem_cons.1 ha with rfl | ha
      · exact h1
      · exact Nat.lt_trans h1 (hy a ha)
    next h1 =>
      split
      next h2 => subst h2; exact ⟨hs, fun x => by simp⟩
      next h2 =>
        refine ⟨List.pairwise_cons.2 ⟨fun a ha => ?_, ih1⟩, fun x => ?_⟩
        · rcases (ih2 a).1 ha with rfl | ha
          · omega
          · exact hy a ha
        · simp only [List.mem_cons, ih2]; exact or_left_comm

theorem insertRange_spec (start : Nat) : ∀ (n : Nat) (set : List Nat), StrictSorted set →
    StrictSorted ((List.range n).foldl (fun acc i => insertCore (start + i) acc) set) ∧
    ∀ x, x ∈ (List.range n).foldl (fun acc i => insertCore (start + i) acc) set ↔ (x ∈ set ∨ (start ≤ x ∧ x < start + n)) := by
  intro n
  induction n with
  | zero => intro set hs; exact ⟨hs, fun x => (or_iff_left (by omega)).symm⟩
  | succ n ih =>
    intro set hs
    rw [List.range_succ, List.foldl_append]
    obtain ⟨h1, h2⟩ := ih set hs
    obtain ⟨h3, h4⟩ := insertCore_spec (start + n) _ h1
    refine ⟨h3, fun x => ?_⟩
    simp only [List.foldl_cons, List.foldl_nil, h4, h2]
    rw [or_left_comm]
    exact or_congr_right (by omega)

/-- One element of a core list is accepted only if it is a `u16`
(`+? digit+`, value ≤ 65535; note the optional `+` of `u16::from_str`) or a range `a-b` of two such
numbers with `a < b`; the set becomes the sorted duplicate-free union with that core / that range. -/
theorem cpulist_item_spec (set : List Nat) (hs : StrictSorted set) (item : List Char) (set' : List Nat)
    (h : parseCpuItem set item = some set') :
    StrictSorted set' ∧
    ((∃ core, item.contains '-' = false ∧ parseU16 item = some core ∧ ∀ x, x ∈ set' ↔ x = core ∨ x ∈ set) ∨
     (∃ a b start stop, item = a ++ '-' :: b ∧ parseU16 a = some start ∧ parseU16 b = some stop ∧ start < stop ∧
        ∀ x, x ∈ set' ↔ (x ∈ set ∨ (start ≤ x ∧ x ≤ stop)))) := by
  unfold parseCpuItem at h
  split at h
  next hc =>
    split at h
    · split at h
      next core hp =>
        cases h
        obtain ⟨r1, r2⟩ := insertCore_spec core set hs
        exact ⟨r1, Or.inl ⟨core, by simpa using hc, hp, r2⟩⟩
      · cases h
    · cases h
  next =>
    split at h
    next a b hsp =>
      split at h
      · cases h
      next start ha =>
        split at h
        · cases h
        next stop hb =>
          split at h
          · cases h
          next hge =>
            cases h
            obtain ⟨r1, r2⟩ := insertRange_spec start (stop + 1 - start) set hs
            refine ⟨r1, Or.inr ⟨a, b, start, stop, splitOn_two '-' item a b hsp, ha, hb, by omega, fun x => ?_⟩⟩
            rw [r2]
            exact or_congr_right (and_congr_right fun _ => by omega)
    · cases h

example : parseCpulist "0,5,8-11".toList = some (.roundRobin [0, 5, 8, 9, 10, 11]) := by decide +kernel
example : parseCpulist "AllInSet:7,1-3,2".toList = some (.allInSet [1, 2, 3, 7]) := by decide +kernel
example : parseCpulist "3-3".toList = none ∧ parseCpulist "0,".toList = none ∧ parseCpulist "0, 1".toList = none := by decide +kernel
example : parseCpulist "+1-+3".toList = some (.roundRobin [1, 2, 3]) := by decide +kernel
example : parseCpulist "65536".toList = none ∧ parseCpulist "65535".toList = some (.roundRobin [65535]) := by decide +kernel
example : parseCpulist [] = some .osDefault ∧ parseCpulist "Other:1".toList = none := by decide +kernel

/-- Every accepted nursery string is `Bounded:<v>,<v>`, `Fixed:<n>` or
`ProportionalBounded:<d>,<d>` with `<v>` = `_` (default) or a `usize` (`+? digit+`), `<n>` a `usize`,
`<d>` = `_` or a decimal; the value is built from exactly those fields. -/
theorem nursery_spec (s : List Char) (n : Nursery) (h : nurseryFromStr s = some n) :
    ∃ variant vals, s = variant ++ ':' :: vals ∧
      ((variant = "Bounded".toList ∧ ∃ a b mn mx, vals = a ++ ',' :: b ∧
          defaultOr parseUsize a defaultMinNursery = some mn ∧ defaultOr parseUsize b defaultMaxNursery = some mx ∧
          n = .bounded mn mx) ∨
       (variant = "ProportionalBounded".toList ∧ ∃ a b mn mx, vals = a ++ ',' :: b ∧
          defaultOr parseDec a defaultPropMin = some mn ∧ defaultOr parseDec b defaultPropMax = some mx ∧
          n = .proportional mn mx) ∨
       (variant = "Fixed".toList ∧ ∃ sz, parseUsize vals = some sz ∧ n = .fixed sz)) := by
  unfold nurseryFromStr at h
  split at h
  next variant vals hsp =>
    refine ⟨variant, vals, splitOn_two ':' s variant vals hsp, ?_⟩
    simp only [] at h
    split at h
    next hB =>
      split at h
      next a b hv =>
        split at h
        · cases h
        next mn ha =>
          obtain ⟨mx, hb, e⟩ := Option.map_eq_some_iff.1 h
          exact Or.inl ⟨hB, a, b, mn, mx, splitOn_two ',' vals a b hv, ha, hb, e.symm⟩
      · cases h
    split at h
    next hP =>
      split at h
      next a b hv =>
        split at h
        · cases h
        next mn ha =>
          obtain ⟨mx, hb, e⟩ := Option.map_eq_some_iff.1 h
          exact Or.inr (Or.inl ⟨hP, a, b, mn, mx, splitOn_two ',' vals a b hv, ha, hb, e.symm⟩)
      · cases h
    split at h
    next hF =>
      split at h
      next a hv =>
        obtain ⟨sz, hp, e⟩ := Option.map_eq_some_iff.1 h
        exact Or.inr (Or.inr ⟨hF, sz, splitOn_one ',' vals a hv ▸ hp, e.symm⟩)
      · cases h
    · cases h
  · cases h

example : nurseryFromStr "Bounded:_,4096".toList = some (.bounded (2 * 2^20) 4096) := by decide +kernel
example : nurseryFromStr "Fixed:8192".toList = some (.fixed 8192) ∧ nurseryFromStr "Fixed:1,2".toList = none := by decide +kernel
-- `⟨neg, mant, frac⟩` is the decimal `(-1)^neg · mant / 10^frac`: `0.2` and the default maximum `1.0`
example : nurseryFromStr "ProportionalBounded:0.2,_".toList = some (.proportional ⟨false, 2, 1⟩ ⟨false, 10, 1⟩) := by decide +kernel
example : (Nursery.proportional ⟨false, 2, 1⟩ ⟨false, 10, 1⟩).validate = true ∧
    (Nursery.proportional ⟨false, 0, 0⟩ ⟨false, 10, 1⟩).validate = false ∧
    (Nursery.proportional ⟨false, 5, 1⟩ ⟨false, 15, 1⟩).validate = false := by decide +kernel
example : nurseryFromStr "Bounded:+5,10".toList = some (.bounded 5 10) := by decide +kernel

end Mmtk.Opts
