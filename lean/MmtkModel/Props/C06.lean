import MmtkModel.Model.RefProc
/-!
# C06 — Soft/weak/phantom references and finalizers follow their semantics

The finalizer theorems hold for **all histories** of registrations, collections (with arbitrary liveness outcomes)
and pops (`fin_history_wf`).  The weak-table theorems speak of one scan of a duplicate-free table; a scan leaves
the table duplicate-free (`scan_table_nodup`); that registration (`WeakMon.addCandidate`) does so too is not shown.
In mmtk-core the table is a `HashSet<ObjectReference>` (reference_processor.rs, field `references`): duplicate-free by
construction, and without the order the model's list has.

One scan of a duplicate-free weak table is two filters of it (`scanRefs_closed`): the references kept (`keep`: live,
live referent) and those cleared and enqueued (`enq`: live, dead referent); every entry not kept has its referent
cleared.  Every finalizer operation permutes the registrations among candidates / ready / popped (`fin_perm`).
-/
namespace Mmtk.RefProc

/-- the fold step of `scanRefs`, named for the proofs -/
def scanStep (live : Nat → Bool) (acc : RefState) (r : Nat) : RefState :=
  if !live r then
    { acc with referent := fun x => if x = r then none else acc.referent x }
  else
    match acc.referent r with
    | none => acc
    | some o =>
      if live o then { acc with table := acc.table ++ [r] }
      else { acc with referent := fun x => if x = r then none else acc.referent x,
                      enqueued := acc.enqueued ++ [r] }

theorem scanRefs_eq (live : Nat → Bool) (s : RefState) :
    scanRefs live s = s.table.foldl (scanStep live) { s with table := [] } := rfl

def keep (live : Nat → Bool) (ref0 : Nat → Option Nat) (r : Nat) : Bool :=
  live r && (match ref0 r with | some o => live o | none => false)
def enq (live : Nat → Bool) (ref0 : Nat → Option Nat) (r : Nat) : Bool :=
  live r && (match ref0 r with | some o => !live o | none => false)

theorem scanStep_spec (live : Nat → Bool) (acc : RefState) (r : Nat) (ref0 : Nat → Option Nat)
    (h : acc.referent r = ref0 r) :
    (scanStep live acc r).table = acc.table ++ [r].filter (keep live ref0) ∧
    (scanStep live acc r).enqueued = acc.enqueued ++ [r].filter (enq live ref0) ∧
    (scanStep live acc r).referent r = (if keep live ref0 r = false then none else acc.referent r) ∧
    ∀ x, x ≠ r → (scanStep live acc r).referent x = acc.referent x := by
  unfold scanStep
  rw [h]
  by_cases hl : live r = true
  · cases hr : ref0 r with
    | none => simp [keep, enq, hl, hr, h]
    | some o =>
      by_cases ho : live o = true
      · simp [keep, enq, hl, hr, ho, h]
      · simp +contextual [keep, enq, hl, hr, ho]
  · simp +contextual [keep, enq, hl]

/-- `ref0` = the referent fields before the scan -/
theorem scan_fold (live : Nat → Bool) (ref0 : Nat → Option Nat) (l : List Nat) (hnd : l.Nodup)
    (acc : RefState) (h0 : ∀ r, r ∈ l → acc.referent r = ref0 r) :
    (l.foldl (scanStep live) acc).table = acc.table ++ l.filter (keep live ref0) ∧
    (l.foldl (scanStep live) acc).enqueued = acc.enqueued ++ l.filter (enq live ref0) ∧
    (∀ x, (l.foldl (scanStep live) acc).referent x =
        if x ∈ l ∧ keep live ref0 x = false then none else acc.referent x) := by
  induction l generalizing acc with
  | nil => simp
  | cons r rest ih =>
    obtain ⟨hr, hnd'⟩ := List.nodup_cons.1 hnd
    obtain ⟨s1, s2, s3, s4⟩ := scanStep_spec live acc r ref0 (h0 r List.mem_cons_self)
    -- the entries still to come are distinct from `r`: their referent fields are as before the scan
    obtain ⟨i1, i2, i3⟩ := ih hnd' (scanStep live acc r) fun r' hr' =>
      (s4 r' (ne_of_mem_of_not_mem hr' hr)).trans (h0 r' (List.mem_cons_of_mem _ hr'))
    rw [List.foldl_cons, i1, i2, s1, s2, List.append_assoc, List.append_assoc, ← List.filter_append,
      ← List.filter_append]
    refine ⟨rfl, rfl, fun x => ?_⟩
    rw [i3 x]
    by_cases e : x = r
    · subst e
      simp [hr, s3]
    · simp [e, s4 x e]

theorem scanRefs_closed (live : Nat → Bool) (s : RefState) (hnd : s.table.Nodup) :
    (scanRefs live s).table = s.table.filter (keep live s.referent) ∧
    (scanRefs live s).enqueued = s.enqueued ++ s.table.filter (enq live s.referent) ∧
    (∀ x, (scanRefs live s).referent x =
        if x ∈ s.table ∧ keep live s.referent x = false then none else s.referent x) := by
  have := scan_fold live s.referent s.table hnd { s with table := [] } (fun _ _ => rfl)
  rw [scanRefs_eq]
  simpa using this

theorem scan_table_nodup (live : Nat → Bool) (s : RefState) (h : s.table.Nodup) : (scanRefs live s).table.Nodup := by
  rw [(scanRefs_closed live s h).1]; exact h.filter _

theorem count_enqueued_of_not_enq {live : Nat → Bool} {s : RefState} (hnd : s.table.Nodup) {r : Nat}
    (he : enq live s.referent r = false) : (scanRefs live s).enqueued.count r = s.enqueued.count r := by
  rw [(scanRefs_closed live s hnd).2.1, List.count_append, List.count_eq_zero_of_not_mem (l := List.filter _ _),
    Nat.add_zero]
  intro hm
  rw [(List.mem_filter.1 hm).2] at he; cases he

/-- A registered reference object that is live and whose referent was not cleared
by the application: it is cleared and handed to `enqueue_references` iff its referent is not live
when its stage runs; otherwise it stays registered with its referent intact. -/
theorem weak_cleared_iff (live : Nat → Bool) (s : RefState) (hnd : s.table.Nodup) (r o : Nat)
    (hr : r ∈ s.table) (hl : live r = true) (ho : s.referent r = some o) :
    (live o = false → (scanRefs live s).referent r = none ∧ r ∈ (scanRefs live s).enqueued ∧
        r ∉ (scanRefs live s).table) ∧
    (live o = true → (scanRefs live s).referent r = some o ∧ r ∈ (scanRefs live s).table ∧
        ((scanRefs live s).enqueued.count r = s.enqueued.count r)) := by
  obtain ⟨c1, c2, c3⟩ := scanRefs_closed live s hnd
  have hk : keep live s.referent r = live o := by simp [keep, hl, ho]
  have he : enq live s.referent r = !live o := by simp [enq, hl, ho]
  constructor
  · intro hd
    rw [hd] at hk he
    exact ⟨by rw [c3 r]; simp [hr, hk], by rw [c2]; simp [hr, he], by rw [c1]; simp [hk]⟩
  · intro hd
    rw [hd] at hk he
    exact ⟨by rw [c3 r]; simp [hk, ho], by rw [c1]; simp [hr, hk], count_enqueued_of_not_enq hnd he⟩

/-- One scan enqueues each reference at most once, and a reference it enqueues leaves the table (a later scan meets
it only if the binding registers it again); the table stays duplicate-free. -/
theorem enqueued_once (live : Nat → Bool) (s : RefState) (hnd : s.table.Nodup) (r : Nat) :
    (scanRefs live s).enqueued.count r ≤ s.enqueued.count r + 1 ∧
    (s.enqueued.count r < (scanRefs live s).enqueued.count r → r ∉ (scanRefs live s).table) ∧
    (scanRefs live s).table.Nodup := by
  obtain ⟨c1, c2, _⟩ := scanRefs_closed live s hnd
  have hsub : (s.table.filter (enq live s.referent)).count r ≤ 1 :=
    List.nodup_iff_count.1 (hnd.filter _) r
  refine ⟨by rw [c2, List.count_append]; exact Nat.add_le_add_left hsub _, ?_, scan_table_nodup live s hnd⟩
  intro hlt hk
  rw [c1] at hk
  -- a reference that is kept is not enqueued: the count would not have grown
  have h2 := (List.mem_filter.1 hk).2
  have he : enq live s.referent r = false := by
    simp only [keep, enq] at h2 ⊢
    cases hrr : s.referent r with
    | none => simp
    | some o => cases hlo : live o <;> simp [hrr, hlo] at h2 ⊢
  exact Nat.lt_irrefl _ (count_enqueued_of_not_enq hnd he ▸ hlt)

/-- Nothing else is touched: reference objects outside the table keep their
referent; a dead reference object is simply dropped (not enqueued). -/
theorem scan_frame (live : Nat → Bool) (s : RefState) (hnd : s.table.Nodup) (x : Nat) (hx : x ∉ s.table) :
    (scanRefs live s).referent x = s.referent x := by
  rw [(scanRefs_closed live s hnd).2.2 x]; simp [hx]

theorem dead_reference_dropped (live : Nat → Bool) (s : RefState) (hnd : s.table.Nodup) (r : Nat)
    (hl : live r = false) : r ∉ (scanRefs live s).table ∧
    (scanRefs live s).enqueued.count r = s.enqueued.count r := by
  refine ⟨by rw [(scanRefs_closed live s hnd).1]; simp [keep, hl], count_enqueued_of_not_enq hnd ?_⟩
  simp [enq, hl]

/-- The referents of live soft references are in `retainSet`, which `retain` traces before the scan (outside an
emergency collection: `WeakMon.retained`); that the scan then keeps the reference is `weak_cleared_iff` for a live referent. -/
theorem soft_retained (live : Nat → Bool) (s : RefState) (r o : Nat) (hr : r ∈ s.table)
    (hl : live r = true) (ho : s.referent r = some o) : o ∈ retainSet live s := by
  simp only [retainSet, List.mem_filterMap]
  exact ⟨r, hr, by simp [hl, ho]⟩

def FinState.all (s : FinState) : List (Nat × Nat) := s.candidates ++ s.ready ++ s.popped

theorem fin_perm (s : FinState) (op : FinOp) :
    (s.apply op).all.Perm ((match op with | .add o => [(s.nextReg, o)] | _ => []) ++ s.all) := by
  cases op with
  | add o =>
    show ((s.candidates ++ [(s.nextReg, o)]) ++ s.ready ++ s.popped).Perm
      ((s.nextReg, o) :: (s.candidates ++ s.ready ++ s.popped))
    simp only [List.append_assoc, List.singleton_append]
    exact List.perm_middle
  | gc live => exact (List.filter_append_perm _ _).append_right _
  | pop =>
    dsimp only [FinState.apply, FinState.pop]
    cases hrev : s.ready.reverse with
    | nil => exact .refl _
    | cons g rest =>
      -- the last ready registration moves to the end of `popped`
      simp only [FinState.all, List.reverse_eq_cons_iff.1 hrev, List.append_assoc, List.nil_append]
      exact (List.perm_append_comm.append_left _).append_left _

/-- Conservation: every operation keeps the multiset of registrations, except `add` which adds exactly the new one.
With `FinWF.nodup` (registrations are distinct) a registration is in exactly one of candidates / ready / popped. -/
theorem fin_conservation (s : FinState) (op : FinOp) (f : Nat × Nat) :
    (s.apply op).all.count f = s.all.count f +
      (match op with | .add o => if f = (s.nextReg, o) then 1 else 0 | _ => 0) := by
  rw [(fin_perm s op).count_eq, List.count_append, Nat.add_comm]
  cases op with
  | add o =>
    show _ + List.count f [(s.nextReg, o)] = _
    rw [List.count_singleton]
    by_cases e : f = (s.nextReg, o)
    · simp [e]
    · simp [e, Ne.symm e]
  | gc | pop => rfl

/-- registration numbers are unique, so "at most once" is literally per registration -/
structure FinWF (s : FinState) : Prop where
  nodup : s.all.Nodup
  fresh : ∀ f, f ∈ s.all → f.1 < s.nextReg

theorem fin_wf_apply (s : FinState) (op : FinOp) (h : FinWF s) : FinWF (s.apply op) := by
  have hp := fin_perm s op
  refine ⟨hp.nodup_iff.2 ?_, fun f hm => ?_⟩
  · cases op with
    | add o => exact List.nodup_cons.2 ⟨fun hm => Nat.lt_irrefl _ (h.fresh _ hm), h.nodup⟩
    | gc | pop => exact h.nodup
  · replace hm := hp.mem_iff.1 hm
    cases op with
    | add o =>
      rcases List.mem_cons.1 hm with rfl | hm
      · exact Nat.lt_succ_self _
      · exact Nat.lt_succ_of_lt (h.fresh f hm)
    | gc => exact h.fresh f hm
    | pop =>
      have : (s.apply .pop).nextReg = s.nextReg := by
        dsimp only [FinState.apply, FinState.pop]; cases s.ready.reverse <;> rfl
      rw [this]; exact h.fresh f hm

theorem fin_scan_spec (live : Nat → Bool) (s : FinState) (f : Nat × Nat) (hf : f ∈ s.candidates ++ s.ready) :
    (live f.2 = true → f ∈ (s.scan live).candidates ∧ f ∉ (s.scan live).ready) ∧
    (live f.2 = false → f ∈ (s.scan live).ready ∧ f ∉ (s.scan live).candidates) := by
  simp only [FinState.scan, List.mem_filter]
  constructor
  · intro h; exact ⟨⟨hf, h⟩, fun c => by simp [h] at c⟩
  · intro h; exact ⟨⟨hf, by simp [h]⟩, fun c => by simp [h] at c⟩

/-- `get_finalized_object` returns only registrations that are `ready` (put there by a scan that found the object not
live: `fin_scan_spec`) and moves the one it returns to `popped`, which is never re-examined. -/
theorem pop_spec (s : FinState) (f : Nat × Nat) (h : s.pop.2 = some f) :
    f ∈ s.ready ∧ s.pop.1.popped = s.popped ++ [f] ∧ s.pop.1.ready.length + 1 = s.ready.length := by
  dsimp only [FinState.pop] at h ⊢
  cases hrev : s.ready.reverse with
  | nil => simp [hrev] at h
  | cons g rest =>
    simp only [hrev] at h ⊢
    cases h
    rw [List.reverse_eq_cons_iff.1 hrev]
    exact ⟨List.mem_append_right _ List.mem_cons_self, rfl, by simp⟩

theorem fin_history_wf (ops : List FinOp) (s : FinState) (h : FinWF s) : FinWF (ops.foldl FinState.apply s) :=
  List.foldlRecOn ops _ h fun s hs op _ => fin_wf_apply s op hs

def finInit : FinState := { candidates := [], ready := [], popped := [] }
theorem fin_init_wf : FinWF finInit := ⟨List.nodup_nil, fun _ h => by cases h⟩

example :
    let s := [FinOp.add 7, .add 8, .gc (fun o => o == 8), .pop, .gc (fun _ => false), .pop, .pop].foldl
      FinState.apply finInit
    s.popped = [(0, 7), (1, 8)] ∧ s.ready = [] ∧ s.candidates = [] := ⟨rfl, rfl, rfl⟩

example :
    let s : RefState := { table := [1, 2, 3], referent := fun r => if r = 3 then none else some (r + 10), enqueued := [] }
    let s' := scanRefs (fun o => o == 1 || o == 2 || o == 3 || o == 11) s
    s'.table = [1] ∧ s'.enqueued = [2] ∧ s'.referent 2 = none ∧ s'.referent 1 = some 11 := ⟨rfl, rfl, rfl, rfl⟩

end Mmtk.RefProc
