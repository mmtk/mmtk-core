import MmtkModel.Model.CSM
import MmtkModel.Props.C40
import MmtkModel.Lemmas.ListAux
/-!
# C30 — Mmap chunk states only move Unmapped → Quarantined → Mapped

All theorems hold for every range, every storage, and an **arbitrary** OS (`os : OS σ`, any state
type, may fail at any call). Histories are unbounded lists of operations.

What the history theorems say is `Sound`: no recorded state is ever lowered, and after a successful operation
every chunk of its range is at least in the requested state.  They say nothing of the chunks outside the
range, nothing exact about the chunks inside, and nothing of the arguments handed to the OS.  The last clause
of the property, "Mapped chunks are readable and writable", has no theorem here (no statement relates
`getState` to the OS state; the differential observes it).  The storage is followed through panicking
operations as well; in the code a panic under the `transition_lock` poisons it and ends the history.
`runOp` runs `mark_as_mapped` as `markStep` on the chunk range; `markAsMapped_eq` says that this is the
model's `markAsMapped`.
-/
namespace Mmtk.CSM
open Mmtk.RevGroup

/-! ## addresses vs chunk indices (justifies the model's representation) -/

/-- `slab_index(addr) = addr >> 35` is the slab of the address' chunk. -/
theorem addr_slab_index (a : Nat) : a >>> 35 = slabIndex (a / 2 ^ 22) := by
  unfold slabIndex chunksPerSlab
  rw [Nat.shiftRight_eq_div_pow, Nat.div_div_eq_div_mul]

/-- `in_slab_index(addr) = (addr & MMAP_SLAB_MASK) >> 22` is the chunk's index in its slab. -/
theorem addr_in_slab_index (a : Nat) : (a &&& (2 ^ 35 - 1)) >>> 22 = inSlabIndex (a / 2 ^ 22) := by
  unfold inSlabIndex chunksPerSlab
  have : (2:Nat) ^ 35 = 2 ^ 22 * 8192 := by decide
  rw [Nat.and_two_pow_sub_one_eq_mod, Nat.shiftRight_eq_div_pow, this, Nat.mod_mul_right_div_self]

theorem ubIndex_eq (K q d : Nat) (hd0 : 0 < d) (hd : d ≤ K) :
    (if (q * K + d) % K = 0 then K else (q * K + d) % K) = d := by
  rw [Nat.mul_comm, Nat.mul_add_mod]
  rcases Nat.lt_or_eq_of_le hd with h | rfl
  · rw [Nat.mod_eq_of_lt h, if_neg (Nat.ne_of_gt hd0)]
  · rw [Nat.mod_self, if_pos rfl]

theorem slab_round (K low limit : Nat) (hK : 0 < K) (h : low < limit) :
    let high := min ((low + K) / K * K) limit
    low < high ∧ high ≤ limit ∧
      (if high % K = 0 then K else high % K) - low % K = high - low := by
  intro high
  have hlow : low / K * K + low % K = low := Nat.div_add_mod' low K
  have hr : low % K < K := Nat.mod_lt low hK
  -- `high` lies `d` above the base of `low`'s slab, with `low % K < d ≤ K`
  obtain ⟨d, h1, h2, h3, h4⟩ :
      ∃ d, low % K < d ∧ d ≤ K ∧ high = low / K * K + d ∧ high ≤ limit := by
    unfold high
    rw [Nat.add_div_right _ hK, Nat.succ_mul]
    rcases Nat.le_total (low / K * K + K) limit with hle | hle
    · exact ⟨K, hr, Nat.le_refl _, Nat.min_eq_left hle, Nat.min_le_right ..⟩
    · obtain ⟨d, rfl⟩ := Nat.exists_eq_add_of_le (show low / K * K ≤ limit by omega)
      exact ⟨d, by omega, by omega, Nat.min_eq_right hle, Nat.min_le_right ..⟩
  rw [h3, ubIndex_eq K _ d (Nat.zero_lt_of_lt h1) h2] at *
  generalize low / K * K = m at *
  generalize low % K = r at *
  subst hlow
  exact ⟨Nat.add_lt_add_left h1 m, h4, (Nat.add_sub_add_left ..).symm⟩

theorem Slice.chunks_eq (s lo ub : Nat) :
    (Slice.mk s lo ub).chunks = List.range' (s * chunksPerSlab + lo) (ub - lo) :=
  List.map_add_range' ..

theorem slabSlices_cover : ∀ (fuel low limit : Nat), limit - low < fuel →
    (slabSlices fuel low limit).flatMap Slice.chunks = List.range' low (limit - low) := by
  intro fuel
  induction fuel with
  | zero => intro low limit h; omega
  | succ n ih =>
    intro low limit hf
    unfold slabSlices
    by_cases h : low < limit
    · obtain ⟨e1, e2, e3⟩ := slab_round chunksPerSlab low limit (by decide) h
      rw [if_pos h, List.flatMap_cons, Slice.chunks_eq, ih _ limit
        (Nat.lt_of_lt_of_le (Nat.sub_lt_sub_left h e1) (Nat.le_of_lt_succ hf))]
      unfold slabIndex inSlabIndex
      rw [e3, Nat.div_add_mod', ListAux.range'_append_sub (Nat.le_of_lt e1) e2]
    · rw [if_neg h, Nat.sub_eq_zero_of_le (Nat.le_of_not_lt h)]; rfl

/-- **C30 (slab slices cover).** The slices `foreach_slab_slice_for_write` visits for the chunk range
`[c0, c0 + n)` are exactly its chunks, ascending, each once — for every range, including those
that cross any number of slab boundaries. -/
theorem slab_slices_cover (c0 n : Nat) : visited c0 n = List.range' c0 n := by
  unfold visited
  rw [slabSlices_cover (n + 1) c0 (c0 + n) (by omega), Nat.add_sub_cancel_left]

theorem eq_of_slab_eq {c c' : Nat} (h1 : slabIndex c' = slabIndex c)
    (h2 : inSlabIndex c' = inSlabIndex c) : c' = c := by
  rw [← Nat.div_add_mod c' chunksPerSlab, ← Nat.div_add_mod c chunksPerSlab]
  exact congr (congrArg _ (congrArg _ h1)) h2

theorem slabIndex_lt {c : Nat} (hc : c < limitChunks) : slabIndex c < maxSlabs :=
  Nat.div_lt_of_lt_mul hc

theorem getState_setChunk (S : Storage) (c c' : Nat) (v : MapState) (hc : c < limitChunks) :
    getState (setChunk S c v) c' = if c' = c then v else getState S c' := by
  unfold getState setChunk
  by_cases hs : slabIndex c' = slabIndex c
  · simp only [hs, if_pos (slabIndex_lt hc), if_true]
    by_cases hi : inSlabIndex c' = inSlabIndex c
    · rw [if_pos hi, if_pos (eq_of_slab_eq hs hi)]
    · rw [if_neg hi, if_neg (fun h : c' = c => hi (h ▸ rfl))]
      cases S.slabs (slabIndex c) <;> rfl
  · simp only [if_neg hs]
    rw [if_neg (fun h : c' = c => hs (h ▸ rfl))]

theorem getState_foldl_setChunk (v : MapState) : ∀ (l : List Nat) (S : Storage) (c : Nat),
    (∀ x ∈ l, x < limitChunks) →
    getState (l.foldl (fun S c => setChunk S c v) S) c = if c ∈ l then v else getState S c := by
  intro l
  induction l with
  | nil => intro S c _; simp
  | cons x xs ih =>
    intro S c h
    simp only [List.foldl_cons]
    rw [ih _ c (fun y hy => h y (List.mem_cons_of_mem _ hy)), getState_setChunk _ _ _ _ (h x List.mem_cons_self)]
    by_cases h1 : c ∈ xs
    · simp [h1]
    · by_cases h2 : c = x <;> simp [h1, h2]

theorem bulkSetState_eq_foldl (S : Storage) (c0 n : Nat) (v : MapState)
    (h : c0 + n ≤ limitChunks ∨ n = 0) :
    bulkSetState S c0 n v = ((List.range' c0 n).foldl (fun S c => setChunk S c v) S, .ok) := by
  unfold bulkSetState
  by_cases h0 : n = 0
  · subst h0; rfl
  · rw [if_neg h0, if_neg (Nat.not_lt.2 (h.resolve_right h0))]
    by_cases h1 : n = 1
    · subst h1; rfl
    · rw [if_neg h1, slab_slices_cover]

/-- **C30 (refinement).** `bulk_set_state` on the two-level storage is the flat update: every chunk
of the range gets the state, every other chunk — in whatever slab, present or absent — keeps its
state; ranges beyond the mappable limit panic. -/
theorem two_level_refines_flat (S : Storage) (c0 n : Nat) (v : MapState) :
    (c0 + n ≤ limitChunks ∨ n = 0 →
      (bulkSetState S c0 n v).2 = .ok ∧
      ∀ c, getState (bulkSetState S c0 n v).1 c = if c0 ≤ c ∧ c < c0 + n then v else getState S c) ∧
    (¬ (c0 + n ≤ limitChunks ∨ n = 0) → bulkSetState S c0 n v = (S, .panic)) := by
  constructor
  · intro h
    rw [bulkSetState_eq_foldl S c0 n v h]
    refine ⟨rfl, fun c => ?_⟩
    rw [getState_foldl_setChunk v _ _ _ (fun x hx => by rw [List.mem_range'_1] at hx; omega)]
    simp only [List.mem_range'_1]
  · intro h
    unfold bulkSetState
    rw [if_neg (fun h0 => h (.inr h0)), if_pos (Nat.not_le.1 (fun hl => h (.inl hl)))]

/-- What the group loop needs of an `update_fn` to bring a range to rank `t` without ever lowering a
state: it never asks for a smaller state, and whenever it lets the loop continue, the group is (or
becomes) at least `t`. -/
def StepOk {σ : Type} (step : σ → Nat → Nat → MapState → σ × Upd) (t : Nat) : Prop :=
  ∀ os c len s, match (step os c len s).2 with
    | .keep => t ≤ s.rank
    | .set ns => s.rank ≤ ns.rank ∧ t ≤ ns.rank
    | _ => True

theorem quarantineStep_ok {σ : Type} (os : OS σ) : StepOk (quarantineStep os) 1 := by
  intro st c len s
  unfold quarantineStep
  cases s with
  | unmapped => rcases os st c len false false with ⟨st', _ | _⟩ <;> simp [MapState.rank]
  | quarantined => trivial
  | mapped => simp [MapState.rank]

theorem ensureMappedStep_ok {σ : Type} (os : OS σ) : StepOk (ensureMappedStep os) 2 := by
  intro st c len s
  unfold ensureMappedStep
  cases s with
  | unmapped => rcases os st c len false true with ⟨st', _ | _⟩ <;> simp [MapState.rank]
  | quarantined => rcases os st c len true true with ⟨st', _ | _⟩ <;> simp [MapState.rank]
  | mapped => simp [MapState.rank]

section
variable {σ : Type} (step : σ → Nat → Nat → MapState → σ × Upd)

/-- The keys are those read from the initial storage `S0`; that `S` is pointwise above `S0` is all the
group loop needs to know of the stores made so far (`P`: the chunks already brought to `t`). -/
theorem applyGroups_spec (t : Nat) (hs : StepOk step t) (S0 : Storage) (c0 : Nat) :
    ∀ (gs : List (Group Nat MapState)) (si : Nat) (S : Storage) (os : σ) (P : Nat → Prop),
      (∀ g ∈ gs, ∀ x ∈ g.items, getState S0 x = g.key ∧ x < limitChunks) →
      (∀ c, (getState S0 c).rank ≤ (getState S c).rank) →
      (∀ c, P c → t ≤ (getState S c).rank) →
      (∀ c, (getState S0 c).rank ≤ (getState (applyGroups step c0 gs si S os).1 c).rank) ∧
      ((applyGroups step c0 gs si S os).2.2 = .ok → ∀ c, P c ∨ c ∈ gs.flatMap (·.items) →
        t ≤ (getState (applyGroups step c0 gs si S os).1 c).rank) := by
  intro gs
  induction gs with
  | nil => exact fun si S os P _ hI hP => ⟨hI, fun _ c h => hP c (h.resolve_right List.not_mem_nil)⟩
  | cons g gs ih =>
    intro si S os P hk hI hP
    rw [List.forall_mem_cons] at hk
    obtain ⟨hkg, hk'⟩ := hk
    unfold applyGroups
    rcases hstep : step os (c0 + si) g.len g.key with ⟨os', u⟩
    have hu := hs os (c0 + si) g.len g.key
    rw [hstep] at hu
    have split : ∀ c, P c ∨ c ∈ (g :: gs).flatMap (·.items) →
        (P c ∨ c ∈ g.items) ∨ c ∈ gs.flatMap (·.items) := fun c hc => by
      rwa [List.flatMap_cons, List.mem_append, ← or_assoc] at hc
    cases u with
    | err => exact ⟨hI, nofun⟩
    | panic => exact ⟨hI, nofun⟩
    | keep =>
      refine (ih (si + g.len) S os' _ hk' hI fun c hc => hc.elim (hP c) fun hc => ?_).imp_right
        fun b hok c hc => b hok c (split c hc)
      exact Nat.le_trans hu ((hkg c hc).1 ▸ hI c)
    | set ns =>
      obtain ⟨hns, htn⟩ := hu
      refine (ih (si + g.len) _ os' _ hk' (fun c => ?_) fun c hc => ?_).imp_right
        fun b hok c hc => b hok c (split c hc)
      all_goals rw [getState_foldl_setChunk ns g.items S c fun x hx => (hkg x hx).2]
      · by_cases hc : c ∈ g.items
        · rw [if_pos hc, (hkg c hc).1]; exact hns
        · rw [if_neg hc]; exact hI c
      · by_cases hc' : c ∈ g.items
        · rw [if_pos hc']; exact htn
        · rw [if_neg hc']; exact hP c (hc.resolve_right hc')

/-- `bulk_transition_state` on any range is the group loop on a grouping of the range by recorded state
(its single-chunk fast path: the loop on one group of one chunk). -/
theorem bulkTransition_eq_applyGroups (S : Storage) (os : σ) (c0 n : Nat) (h : c0 + n ≤ limitChunks ∨ n = 0) :
    ∃ gs, bulkTransition step S os c0 n = applyGroups step c0 gs 0 S os ∧
      gs.flatMap (·.items) = List.range' c0 n ∧ ∀ g ∈ gs, ∀ x ∈ g.items, getState S x = g.key := by
  unfold bulkTransition
  by_cases h0 : n = 0
  · subst h0; exact ⟨[], rfl, rfl, nofun⟩
  rw [if_neg h0, if_neg (Nat.not_lt.2 (h.resolve_right h0))]
  by_cases h1 : n = 1
  · subst h1
    refine ⟨[⟨getState S c0, 1, [c0]⟩], ?_, rfl, ?_⟩
    · unfold applyGroups
      rcases step os c0 1 (getState S c0) with ⟨os', u⟩
      cases u <;> rfl
    · intro g hg x hx
      rw [List.mem_singleton] at hg; subst hg
      rw [List.mem_singleton] at hx; subst hx; rfl
  · rw [if_neg h1]
    exact ⟨_, rfl, by rw [groups_concat, slab_slices_cover],
      fun g hg => (group_nonempty_same_key _ _ g hg).2⟩

def Sound (S : Storage) (c0 n t : Nat) (S' : Storage) (res : Res) : Prop :=
  (∀ c, (getState S c).rank ≤ (getState S' c).rank) ∧
  (res = .ok → ∀ c, c0 ≤ c → c < c0 + n → t ≤ (getState S' c).rank)

theorem Sound.of_ne_ok (S : Storage) (c0 n t : Nat) {res : Res} (h : res ≠ .ok) : Sound S c0 n t S res :=
  ⟨fun _ => Nat.le_refl _, fun e => absurd e h⟩

theorem bulkTransition_spec (t : Nat) (hs : StepOk step t) (S : Storage) (os : σ) (c0 n : Nat) :
    Sound S c0 n t (bulkTransition step S os c0 n).1 (bulkTransition step S os c0 n).2.2 := by
  by_cases h : c0 + n ≤ limitChunks ∨ n = 0
  · obtain ⟨gs, e, hcat, hkey⟩ := bulkTransition_eq_applyGroups step S os c0 n h
    rw [e]
    refine (applyGroups_spec step t hs S c0 gs 0 S os (fun _ => False) (fun g hg x hx => ⟨hkey g hg x hx, ?_⟩)
      (fun _ => Nat.le_refl _) nofun).imp_right fun b hok c h1 h2 => b hok c (.inr ?_)
    · have hmem : x ∈ gs.flatMap (·.items) := List.mem_flatMap.2 ⟨g, hg, hx⟩
      rw [hcat, List.mem_range'_1] at hmem
      omega
    · rw [hcat, List.mem_range'_1]; exact ⟨h1, h2⟩
  · unfold bulkTransition
    rw [if_neg (fun h0 => h (.inr h0)), if_pos (Nat.not_le.1 (fun hl => h (.inl hl)))]
    exact .of_ne_ok S c0 n t nofun

end

theorem bulkSetState_mapped_spec (S : Storage) (c0 n : Nat) :
    Sound S c0 n 2 (bulkSetState S c0 n .mapped).1 (bulkSetState S c0 n .mapped).2 := by
  by_cases h : c0 + n ≤ limitChunks ∨ n = 0
  · have e := ((two_level_refines_flat S c0 n .mapped).1 h).2
    refine ⟨fun c => ?_, fun _ c h1 h2 => ?_⟩ <;> rw [e]
    · by_cases hc : c0 ≤ c ∧ c < c0 + n
      · rw [if_pos hc]; cases getState S c <;> decide
      · rw [if_neg hc]; exact Nat.le_refl _
    · rw [if_pos ⟨h1, h2⟩]; exact Nat.le_refl 2
  · rw [(two_level_refines_flat S c0 n .mapped).2 h]
    exact .of_ne_ok S c0 n 2 nofun

inductive Op
  | quarantine (start pages : Nat)
  | ensureMapped (start pages : Nat)
  | markAsMapped (start bytes : Nat)
deriving Repr

/-- `mark_as_mapped` on the range `r` (no OS call: the OS state is untouched).
By `markAsMapped_eq`, `bulkSetState S r.1 r.2 .mapped` with `r = rangeOfUnaligned start bytes` is
the model's `markAsMapped S start bytes`. -/
def markStep {σ : Type} (S : Storage) (st : σ) (r : Nat × Nat) : Storage × σ × Res :=
  match bulkSetState S r.1 r.2 .mapped with
  | (S', res) => (S', st, res)

def runOp {σ : Type} (os : OS σ) (S : Storage) (st : σ) : Op → Storage × σ × Res
  | .quarantine s p => quarantine os S st s p
  | .ensureMapped s p => ensureMapped os S st s p
  | .markAsMapped s b => markStep S st (rangeOfUnaligned s b)

theorem markStep_fst {σ : Type} (S : Storage) (st : σ) (r : Nat × Nat) :
    (markStep S st r).1 = (bulkSetState S r.1 r.2 .mapped).1 := rfl

theorem markStep_res {σ : Type} (S : Storage) (st : σ) (r : Nat × Nat) :
    (markStep S st r).2.2 = (bulkSetState S r.1 r.2 .mapped).2 := rfl

/-- Run a whole history (results of the individual ops are irrelevant for monotonicity: the
storage is followed through failures and panics alike). -/
def runHist {σ : Type} (os : OS σ) : List Op → Storage → σ → Storage × σ
  | [], S, st => (S, st)
  | o :: os', S, st => let r := runOp os S st o; runHist os os' r.1 r.2.1

/-- (stated once by `rfl`: with `markAsMapped` unfolded in place, the literals of `rangeOfUnaligned` reach the
kernel in an arithmetic position — deep recursion after minutes; the same trap as in `runOp_spec`) -/
theorem markAsMapped_eq (S : Storage) (s b : Nat) :
    markAsMapped S s b = bulkSetState S (rangeOfUnaligned s b).1 (rangeOfUnaligned s b).2 .mapped := rfl

def Op.target : Op → Nat
  | .quarantine _ _ => 1 | .ensureMapped _ _ => 2 | .markAsMapped _ _ => 2

def Op.range : Op → Nat × Nat
  | .quarantine s p => rangeOfUnaligned s (p * 2 ^ logBytesInPage)
  | .ensureMapped s p => rangeOfUnaligned s (p * 2 ^ logBytesInPage)
  | .markAsMapped s b => rangeOfUnaligned s b

theorem runOp_spec {σ : Type} (os : OS σ) (S : Storage) (st : σ) (o : Op) :
    Sound S o.range.1 o.range.2 o.target (runOp os S st o).1 (runOp os S st o).2.2 := by
  -- the range is made a variable first, and `markStep` is read through `markStep_fst`/`_res`: unifying through
  -- `rangeOfUnaligned` would unfold its arithmetic
  cases o with
  | quarantine s p =>
    simp only [runOp, quarantine, Op.range, Op.target]
    generalize rangeOfUnaligned s (p * 2 ^ logBytesInPage) = r
    exact bulkTransition_spec _ 1 (quarantineStep_ok os) S st r.1 r.2
  | ensureMapped s p =>
    simp only [runOp, ensureMapped, Op.range, Op.target]
    generalize rangeOfUnaligned s (p * 2 ^ logBytesInPage) = r
    exact bulkTransition_spec _ 2 (ensureMappedStep_ok os) S st r.1 r.2
  | markAsMapped s b =>
    simp only [runOp, Op.range, Op.target]
    generalize rangeOfUnaligned s b = r
    rw [markStep_fst, markStep_res]
    exact bulkSetState_mapped_spec S r.1 r.2

/-- **C30 (monotone).** For every history of `quarantine_address_range` / `ensure_mapped` /
`mark_as_mapped` over arbitrary ranges, every OS behaviour (any call may fail) and every chunk: the
recorded state never moves back along Unmapped < Quarantined < Mapped — including across failed
and panicking operations. -/
theorem state_monotone {σ : Type} (os : OS σ) : ∀ (h : List Op) (S : Storage) (st : σ) (c : Nat),
    (getState S c).rank ≤ (getState (runHist os h S st).1 c).rank := by
  intro h
  induction h with
  | nil => intro S st c; exact Nat.le_refl _
  | cons o rest ih =>
    intro S st c
    exact Nat.le_trans ((runOp_spec os S st o).1 c) (ih _ _ c)

/-- **C30 (reaches).** When an operation succeeds, every chunk of its chunk-rounded range is at
least in the requested state (Quarantined for quarantine — Mapped chunks stay Mapped —, Mapped for
ensure_mapped and mark_as_mapped), for every prior state and OS. -/
theorem range_reaches_state {σ : Type} (os : OS σ) (S : Storage) (st : σ) (o : Op)
    (hok : (runOp os S st o).2.2 = .ok) (c : Nat)
    (h1 : o.range.1 ≤ c) (h2 : c < o.range.1 + o.range.2) :
    o.target ≤ (getState (runOp os S st o).1 c).rank :=
  (runOp_spec os S st o).2 hok c h1 h2

/-- **C30 (is_mapped).** `is_mapped_address(a)` is true exactly when the chunk containing `a` is
recorded Mapped (for every address, aligned or not, inside or outside the mappable range). -/
theorem is_mapped_iff_M (S : Storage) (a : Nat) :
    isMappedAddress S a = true ↔ getState S (a / 2 ^ 22) = .mapped := by
  unfold isMappedAddress logBytesInChunk; simp

end Mmtk.CSM
