import MmtkModel.Model.Requesters
/-!
# C11 (last clause) — a mutator that requested a GC is blocked until that GC has ended

Model: `Model/Requesters.lean` (any number `n` of requesters, every interleaving with the collector's
`stopWorld` / `clearFlag` / `resumeWorld` and with other threads' allocation polls).

* `requester_blocked_until_gc_end` — the CODE (`seeded = false`), with the safepoint contract of
  `stop_all_mutators` (`handshake = true`): whenever a requester's call has returned, it returned `true`, and the
  collection number `st + 1` — which had not begun when the request was made (`st` pauses had begun) — has
  completed (`st < rd`, `rd` = pauses completed when the call returned), `rd ≤ gcDone`.
* `requester_returns_after_gc_end_mono` — the CODE under nothing but the monotonicity of `gcDone`
  (`handshake` arbitrary, so also `false`: the collector may stop the world at any moment and mutators may run
  meanwhile): a pause ended between the request and the return (`d < rd`).  This is what the Python oracle
  evaluates on the implementation (`gcs_at_return > gcs_before`).
* `blocked_requester_has_pending_gc` — a requester that is blocked and still needs a pause to end is never
  forgotten: the request flag is set (so, by `gc_request_completes` of the scheduler model, Lemmas/SchedLive.lean, a collection will run) or the world is
  stopped right now (a pause is in progress and will end).  Holds for both variants.
* `merged_request_not_blocked` — kernel-evaluated witness for the seeded variant C11b (`seeded = true`: block only
  if this call set the flag): two requesters, the second one's request is merged and its call returns `false`
  with no pause completed — `requester_blocked_until_gc_end` fails for it (`merged_request_not_blocked_refutes`).
* `requester_leaves_only_after_gc_end` is the first bullet read on the transition (`blockLeave` is the only way out of the
  call); `requested_means_flag_set`: between `request()` and `block_for_gc` the flag is set and the world runs;
  `skipBlock_not_in_code`: the action of the seeded variant is never enabled in the code.
-/
namespace Mmtk.Req

theorem allParked_spec {c : Cfg} {s : State} (h : allParked c s = true) (r : Nat) (hr : r < c.n) :
    (s.pc r).atSafepoint = true := by
  unfold allParked at h
  rw [List.all_eq_true] at h
  exact h r (List.mem_range.mpr hr)

/-- invariant of every run under the handshake (code and seeded variant alike).  The last conjunct of `blocked` says that a
blocked requester still waiting for a pause to end has its request pending or the pause in progress
(`blocked_requester_has_pending_gc`). -/
structure Inv (c : Cfg) (s : State) : Prop where
  started : s.gcStarted = s.gcDone + (if s.stopped = true then 1 else 0)
  outside : ∀ r, c.n ≤ r → s.pc r = .idle
  requested : ∀ r d st sent, s.pc r = .requested d st sent →
    s.stopped = false ∧ d = s.gcDone ∧ st = s.gcStarted ∧ s.flag = true
  blocked : ∀ r d st start, s.pc r = .blocked d st start →
    d ≤ start ∧ st ≤ start ∧ start ≤ s.gcDone ∧ (start = s.gcDone → s.flag = true ∨ s.stopped = true)

/-- the part that needs no handshake -/
structure Mono (s : State) : Prop where
  requested : ∀ r d st sent, s.pc r = .requested d st sent → d ≤ s.gcDone
  blocked : ∀ r d st start, s.pc r = .blocked d st start → d ≤ start ∧ start ≤ s.gcDone
  returned : ∀ r d st ret rd, s.pc r = .returned d st ret rd → ret = true ∧ d < rd ∧ rd ≤ s.gcDone

/-- what the handshake adds to `Mono.returned`: the pause that ended before the return began after the request -/
def Late (s : State) : Prop := ∀ r d st ret rd, s.pc r = .returned d st ret rd → st < rd

/-! `step` as a relation: one constructor per action, guard and effect.  A mutator's action changes the `pc` of one
requester and no counter; any other action leaves `pc` alone.  Every invariant says "for every requester, something
about its `pc` and the counters": shown once for an update of `pc` (`….update`), once for a change of the counters. -/

inductive Step (c : Cfg) (s : State) : Act → State → Prop
  | request {r} : s.pc r = .idle → r < c.n → mutOk c s = true →
      Step c s (.request r) (setPc { s with flag := true } r (.requested s.gcDone s.gcStarted (!s.flag)))
  | blockEnter {r d st sent} : s.pc r = .requested d st sent → r < c.n → mutOk c s = true →
      (c.seeded = false ∨ sent = true) → Step c s (.blockEnter r) (setPc s r (.blocked d st s.gcDone))
  | skipBlock {r d st sent} : s.pc r = .requested d st sent → r < c.n → mutOk c s = true →
      c.seeded = true → sent = false → Step c s (.skipBlock r) (setPc s r (.returned d st false s.gcDone))
  | blockLeave {r d st start} : s.pc r = .blocked d st start → r < c.n → start < s.gcDone →
      s.stopped = false → Step c s (.blockLeave r) (setPc s r (.returned d st true s.gcDone))
  | again {r d st ret rd} : s.pc r = .returned d st ret rd → r < c.n → mutOk c s = true →
      Step c s (.again r) (setPc s r .idle)
  | pollRequest : Step c s .pollRequest { s with flag := true }
  | stopWorld : s.stopped = false → (c.handshake = false ∨ allParked c s = true) →
      Step c s .stopWorld { s with stopped := true, gcStarted := s.gcStarted + 1 }
  | clearFlag : s.stopped = true → Step c s .clearFlag { s with flag := false }
  | resumeWorld : s.stopped = true →
      Step c s .resumeWorld { s with stopped := false, gcDone := s.gcDone + 1 }

theorem step_sound {c : Cfg} {s s' : State} {a : Act} (hs : step c s a = some s') : Step c s a s' := by
  cases a
  case pollRequest => cases hs; exact .pollRequest
  case stopWorld => obtain ⟨hg, ⟨⟩⟩ := Option.ite_none_right_eq_some.1 hs; exact .stopWorld hg.1 hg.2
  case clearFlag => obtain ⟨hg, ⟨⟩⟩ := Option.ite_none_right_eq_some.1 hs; exact .clearFlag hg
  case resumeWorld => obtain ⟨hg, ⟨⟩⟩ := Option.ite_none_right_eq_some.1 hs; exact .resumeWorld hg
  -- a requester's action: a match on its `pc`, then a guard
  all_goals
    dsimp only [step] at hs
    split at hs
    case h_2 => cases hs
    obtain ⟨hg, ⟨⟩⟩ := Option.ite_none_right_eq_some.1 hs
    rename_i hpc
  · exact .request hpc hg.1 hg.2
  · exact .blockEnter hpc hg.1 hg.2.1 hg.2.2
  · exact .skipBlock hpc hg.1 hg.2.1 hg.2.2.1 hg.2.2.2
  · exact .blockLeave hpc hg.1 hg.2.1 hg.2.2
  · exact .again hpc hg.1 hg.2

theorem pc_setPc {s : State} {r x : Nat} {p q : Pc} (h : (setPc s r p).pc x = q) :
    x = r ∧ p = q ∨ s.pc x = q := by
  by_cases e : x = r
  · exact .inl ⟨e, (if_pos e).symm.trans h⟩
  · exact .inr ((if_neg e).symm.trans h)

theorem stopped_of_mutOk {c : Cfg} (hh : c.handshake = true) {s : State} (h : mutOk c s = true) :
    s.stopped = false := by
  simpa [mutOk, hh] using h

theorem Inv.update {c : Cfg} {s : State} (hi : Inv c s) {r : Nat} (hr : r < c.n) {p : Pc}
    (hreq : ∀ d st sent, p = .requested d st sent →
      s.stopped = false ∧ d = s.gcDone ∧ st = s.gcStarted ∧ s.flag = true)
    (hblk : ∀ d st start, p = .blocked d st start →
      d ≤ start ∧ st ≤ start ∧ start ≤ s.gcDone ∧ (start = s.gcDone → s.flag = true ∨ s.stopped = true)) :
    Inv c (setPc s r p) where
  started := hi.started
  outside x hx := (pc_setPc (q := (setPc s r p).pc x) rfl).elim (fun h => absurd hr (h.1 ▸ Nat.not_lt.2 hx))
    (fun h => h ▸ hi.outside x hx)
  requested x d st sent hx := (pc_setPc hx).elim (fun h => hreq d st sent h.2) (hi.requested x d st sent)
  blocked x d st start hx := (pc_setPc hx).elim (fun h => hblk d st start h.2) (hi.blocked x d st start)

theorem Mono.update {s : State} (hm : Mono s) {r : Nat} {p : Pc}
    (hreq : ∀ d st sent, p = .requested d st sent → d ≤ s.gcDone)
    (hblk : ∀ d st start, p = .blocked d st start → d ≤ start ∧ start ≤ s.gcDone)
    (hret : ∀ d st ret rd, p = .returned d st ret rd → ret = true ∧ d < rd ∧ rd ≤ s.gcDone) :
    Mono (setPc s r p) where
  requested x d st sent hx := (pc_setPc hx).elim (fun h => hreq d st sent h.2) (hm.requested x d st sent)
  blocked x d st start hx := (pc_setPc hx).elim (fun h => hblk d st start h.2) (hm.blocked x d st start)
  returned x d st ret rd hx := (pc_setPc hx).elim (fun h => hret d st ret rd h.2) (hm.returned x d st ret rd)

theorem Mono.of_le {s s' : State} (hm : Mono s) (hpc : s'.pc = s.pc) (hd : s.gcDone ≤ s'.gcDone) :
    Mono s' where
  requested x d st sent hx := Nat.le_trans (hm.requested x d st sent (hpc ▸ hx)) hd
  blocked x d st start hx :=
    have := hm.blocked x d st start (hpc ▸ hx); ⟨this.1, Nat.le_trans this.2 hd⟩
  returned x d st ret rd hx :=
    have := hm.returned x d st ret rd (hpc ▸ hx); ⟨this.1, this.2.1, Nat.le_trans this.2.2 hd⟩

theorem init_inv (c : Cfg) : Inv c init := by
  constructor <;> simp [init]

theorem init_mono : Mono init := by
  constructor <;> simp [init]

theorem step_inv {c : Cfg} (hh : c.handshake = true) {s s' : State} {a : Act} (hi : Inv c s)
    (hs : step c s a = some s') : Inv c s' := by
  -- setting the flag can only help
  have hflag : Inv c { s with flag := true } :=
    ⟨hi.started, hi.outside,
     fun x d st sent hx => have := hi.requested x d st sent hx; ⟨this.1, this.2.1, this.2.2.1, rfl⟩,
     fun x d st start hx => have := hi.blocked x d st start hx;
       ⟨this.1, this.2.1, this.2.2.1, fun _ => .inl rfl⟩⟩
  have i1 := hi.started
  cases step_sound hs with
  | request hpc hr hok =>
    exact hflag.update hr (by rintro _ _ _ ⟨⟩; exact ⟨stopped_of_mutOk hh hok, rfl, rfl, rfl⟩) nofun
  | blockEnter hpc hr hok _ =>
    -- the world is running, so every pause begun has ended: `st = gcStarted = gcDone`
    obtain ⟨q1, q2, q3, q4⟩ := hi.requested _ _ _ _ hpc
    rw [q1, if_neg Bool.false_ne_true, Nat.add_zero] at i1
    exact hi.update hr nofun
      (by rintro _ _ _ ⟨⟩; exact ⟨Nat.le_of_eq q2, Nat.le_of_eq (q3.trans i1), Nat.le_refl _, fun _ => .inl q4⟩)
  | skipBlock _ hr _ _ _ => exact hi.update hr nofun nofun
  | blockLeave _ hr _ _ => exact hi.update hr nofun nofun
  | again _ hr _ => exact hi.update hr nofun nofun
  | pollRequest => exact hflag
  | stopWorld hst hg =>
    -- no requester is between `request()` and `block_for_gc`: all are parked or outside
    have hp : allParked c s = true := hg.resolve_left (by rw [hh]; nofun)
    refine ⟨?_, hi.outside, ?_, ?_⟩
    · show s.gcStarted + 1 = s.gcDone + 1
      rw [i1, hst, if_neg Bool.false_ne_true]
    · intro x d st sent hx
      exfalso
      have hx : s.pc x = .requested d st sent := hx
      by_cases hx' : x < c.n
      · have := allParked_spec hp x hx'
        rw [hx] at this; cases this
      · have := hi.outside x (Nat.le_of_not_lt hx')
        rw [hx] at this; cases this
    · intro x d st start hx
      have := hi.blocked x d st start hx
      exact ⟨this.1, this.2.1, this.2.2.1, fun _ => .inr rfl⟩
  | clearFlag hst =>
    refine ⟨i1, hi.outside, ?_, ?_⟩
    · intro x d st sent hx
      have := (hi.requested x d st sent hx).1
      rw [hst] at this; cases this
    · intro x d st start hx
      have := hi.blocked x d st start hx
      exact ⟨this.1, this.2.1, this.2.2.1, fun _ => .inr hst⟩
  | resumeWorld hst =>
    refine ⟨?_, hi.outside, ?_, ?_⟩
    · show s.gcStarted = s.gcDone + 1
      rw [i1, hst, if_pos rfl]
    · intro x d st sent hx
      have := (hi.requested x d st sent hx).1
      rw [hst] at this; cases this
    · intro x d st start hx
      have := hi.blocked x d st start hx
      exact ⟨this.1, this.2.1, Nat.le_succ_of_le this.2.2.1,
        fun (h : start = s.gcDone + 1) => absurd this.2.2.1 (h ▸ Nat.not_succ_le_self _)⟩

theorem step_late {c : Cfg} (hc : c.seeded = false) {s s' : State} {a : Act}
    (hi : Inv c s) (hl : Late s) (hs : step c s a = some s') : Late s' := by
  cases step_sound hs with
  | request | blockEnter | again =>
    exact fun x d st ret rd hx => (pc_setPc hx).elim (fun h => nomatch h.2) (hl x d st ret rd)
  | skipBlock _ _ _ hsd _ => rw [hc] at hsd; cases hsd
  | blockLeave hpc _ hlt _ =>
    intro x d st ret rd hx
    rcases pc_setPc hx with ⟨_, ⟨⟩⟩ | h
    · exact Nat.lt_of_le_of_lt (hi.blocked _ _ _ _ hpc).2.1 hlt
    · exact hl _ _ _ _ _ h
  -- `st < rd` speaks of the requester's own record only
  | pollRequest | stopWorld | clearFlag | resumeWorld => exact hl

theorem step_mono {c : Cfg} (hc : c.seeded = false) {s s' : State} {a : Act}
    (hm : Mono s) (hs : step c s a = some s') : Mono s' := by
  cases step_sound hs with
  | request =>
    have hm' : Mono { s with flag := true } := hm.of_le rfl (Nat.le_refl _)
    exact hm'.update (by rintro _ _ _ ⟨⟩; exact Nat.le_refl _) nofun nofun
  | blockEnter hpc =>
    exact hm.update nofun (by rintro _ _ _ ⟨⟩; exact ⟨hm.requested _ _ _ _ hpc, Nat.le_refl _⟩) nofun
  | skipBlock _ _ _ hsd _ => rw [hc] at hsd; cases hsd
  | blockLeave hpc _ hlt _ =>
    have := hm.blocked _ _ _ _ hpc
    exact hm.update nofun nofun (by rintro _ _ _ _ ⟨⟩; exact ⟨rfl, Nat.lt_of_le_of_lt this.1 hlt, Nat.le_refl _⟩)
  | again => exact hm.update nofun nofun nofun
  | pollRequest | stopWorld | clearFlag => exact hm.of_le rfl (Nat.le_refl _)
  | resumeWorld => exact hm.of_le rfl (Nat.le_succ _)

theorem exec_induct {c : Cfg} {P : State → Prop}
    (hstep : ∀ s s' a, P s → step c s a = some s' → P s') :
    ∀ (run : List Act) (s s' : State), P s → exec c s run = some s' → P s' := by
  intro run
  induction run with
  | nil => intro s s' hp h; cases h; exact hp
  | cons a as ih =>
    intro s s' hp h
    simp only [exec] at h
    cases ht : step c s a with
    | none => rw [ht] at h; cases h
    | some t => rw [ht] at h; exact ih t s' (hstep s t a hp ht) h

theorem reachable_inv {c : Cfg} (hh : c.handshake = true) {s : State} (h : Reachable c s) : Inv c s := by
  obtain ⟨run, h⟩ := h
  exact exec_induct (fun _ _ _ hi hs => step_inv hh hi hs) run init s (init_inv c) h

theorem requester_returns_after_gc_end_mono {c : Cfg} (hc : c.seeded = false) {s : State}
    (h : Reachable c s) (r d st : Nat) (ret : Bool) (rd : Nat) (hp : s.pc r = .returned d st ret rd) :
    ret = true ∧ d < rd ∧ rd ≤ s.gcDone := by
  obtain ⟨run, h⟩ := h
  exact (exec_induct (fun _ _ _ hm hs => step_mono hc hm hs) run init s init_mono h).returned r d st ret rd hp

theorem requester_blocked_until_gc_end {c : Cfg} (hh : c.handshake = true) (hc : c.seeded = false) {s : State}
    (h : Reachable c s) (r d st : Nat) (ret : Bool) (rd : Nat) (hp : s.pc r = .returned d st ret rd) :
    ret = true ∧ st < rd ∧ d < rd ∧ rd ≤ s.gcDone := by
  have m := requester_returns_after_gc_end_mono hc h r d st ret rd hp
  obtain ⟨run, h⟩ := h
  exact ⟨m.1, (exec_induct (P := fun s => Inv c s ∧ Late s)
    (fun _ _ _ hp hs => ⟨step_inv hh hp.1 hs, step_late hc hp.1 hp.2 hs⟩) run init s
    ⟨init_inv c, fun _ _ _ _ _ h => nomatch h⟩ h).2 r d st ret rd hp, m.2⟩

/-- the same, stated on the transition: `blockLeave` is the only way out of the call, and it is enabled only
when a pause that began after the request has ended -/
theorem requester_leaves_only_after_gc_end {c : Cfg} (hh : c.handshake = true) (hc : c.seeded = false)
    {s s' : State} {a : Act} (h : Reachable c s) (hs : step c s a = some s') (r d st : Nat) (ret : Bool) (rd : Nat)
    (hbefore : ∀ d st ret rd, s.pc r ≠ .returned d st ret rd) (hp : s'.pc r = .returned d st ret rd) :
    a = .blockLeave r ∧ ret = true ∧ st < s.gcDone ∧ s.stopped = false ∧ rd = s.gcDone := by
  have hi := reachable_inv hh h
  have old : ∀ {P : Prop}, s.pc r = .returned d st ret rd → P := fun h => absurd h (hbefore d st ret rd)
  cases step_sound hs with
  | request | blockEnter | again => exact (pc_setPc hp).elim (fun h => nomatch h.2) old
  | skipBlock _ _ _ hsd _ => rw [hc] at hsd; cases hsd
  | blockLeave hpc _ hlt hst =>
    rcases pc_setPc hp with ⟨rfl, ⟨⟩⟩ | h
    · obtain ⟨_, q2, _⟩ := hi.blocked _ _ _ _ hpc
      exact ⟨rfl, rfl, Nat.lt_of_le_of_lt q2 hlt, hst, rfl⟩
    · exact old h
  | pollRequest | stopWorld | clearFlag | resumeWorld => exact old hp

theorem blocked_requester_has_pending_gc {c : Cfg} (hh : c.handshake = true) {s : State} (h : Reachable c s)
    (r d st start : Nat) (hp : s.pc r = .blocked d st start) (hneed : ¬ start < s.gcDone) :
    s.flag = true ∨ s.stopped = true := by
  have := (reachable_inv hh h).blocked r d st start hp
  exact this.2.2.2 (Nat.le_antisymm this.2.2.1 (Nat.le_of_not_lt hneed))

/-- a requester between `request()` and `block_for_gc` keeps the world running and its request pending -/
theorem requested_means_flag_set {c : Cfg} (hh : c.handshake = true) {s : State} (h : Reachable c s)
    (r d st : Nat) (sent : Bool) (hp : s.pc r = .requested d st sent) :
    s.flag = true ∧ s.stopped = false ∧ d = s.gcDone ∧ st = s.gcStarted :=
  let q := (reachable_inv hh h).requested r d st sent hp
  ⟨q.2.2.2, q.1, q.2.1, q.2.2.1⟩

/-- the failing run: requester 0 requests (sets the flag), requester 1's request is merged and its call returns -/
def seededRun : List Act := [.request 0, .request 1, .skipBlock 1]

theorem merged_request_not_blocked :
    (exec { n := 2, seeded := true } init seededRun).map (fun s => (s.pc 1, s.gcDone, s.flag)) =
      some (.returned 0 0 false 0, 0, true) := rfl

theorem merged_request_not_blocked_refutes :
    ∃ s, Reachable { n := 2, seeded := true } s ∧ ∃ d st ret rd, s.pc 1 = .returned d st ret rd ∧ ¬ (ret = true ∧ st < rd) := by
  obtain ⟨s, h, hw⟩ := Option.map_eq_some_iff.1 merged_request_not_blocked
  exact ⟨s, ⟨seededRun, h⟩, 0, 0, false, 0, congrArg Prod.fst hw, fun h => nomatch h.1⟩

theorem skipBlock_not_in_code {c : Cfg} (hc : c.seeded = false) (s : State) (r : Nat) : step c s (.skipBlock r) = none := by
  cases h : step c s (.skipBlock r) with
  | none => rfl
  | some s' => cases step_sound h with | skipBlock _ _ _ hsd _ => rw [hc] at hsd; cases hsd

/-! ## the hypotheses are satisfiable: two requesters whose requests are merged, one pause, both return -/

def mergedRun : List Act :=
  [.request 0, .request 1, .blockEnter 1, .blockEnter 0, .stopWorld, .clearFlag, .resumeWorld, .blockLeave 1, .blockLeave 0]

example : (exec { n := 2 } init mergedRun).map (fun s => (s.pc 0, s.pc 1, s.gcDone, s.flag, s.stopped)) =
    some (.returned 0 0 true 1, .returned 0 0 true 1, 1, false, false) := rfl

/-- three requesters: the third requests after the first pause (the world stops only when nobody is mid-call, so it
cannot request during it) and gets a pause of its own -/
example : (exec { n := 3 } init (mergedRun ++ [.request 2, .blockEnter 2, .again 0, .stopWorld, .clearFlag, .resumeWorld, .blockLeave 2])).map
    (fun s => (s.pc 2, s.pc 0, s.gcDone)) = some (.returned 1 1 true 2, .idle, 2) := rfl

/-- `stopWorld` is refused while a requester is between `request()` and `block_for_gc` -/
example : (exec { n := 2 } init [.request 0, .request 1, .blockEnter 0, .stopWorld]).isSome = false := by decide

/-- a second request while the flag is set is accepted (merged): `sent = false` -/
example : (exec { n := 2 } init [.request 0, .request 1]).map (fun s => (s.pc 0, s.pc 1, s.flag)) =
    some (.requested 0 0 true, .requested 0 0 false, true) := rfl

end Mmtk.Req
