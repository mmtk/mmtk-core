import MmtkModel.Model.MsBins
import MmtkModel.Lemmas.CheckRange
import MmtkModel.Props.C33
/-!
# C35 — Mark-sweep size classes fit every request

*Statement (properties.jsonl)*: for every request size up to the largest size class and every
legal alignment, the selected size class's cell can hold the aligned request, size classes are
monotone in size, and a fresh block's free list contains disjoint cells of that size entirely
within the block.

`mi_bin_from_size` is monotone in the word size (above 8 words it is `4·⌊log₂ v⌋` plus the three leading
bits of `v = wsize - 1`, less 7), so the end points of each row of the table decide every word size in
between: the table regenerated from the linked crate (`Generated/Bins.lean`) is checked row by row by
kernel evaluation (`checkRange` of `Lemmas/CheckRange.lean` + `decide +kernel`: `bin_ends_ok` and the four facts after it).

**The full statement is false at the top of the range** (DESIGN §7-F9): `mi_bin` applies
`mi_bin_from_size` to the *worst-case aligned* size `size + align - MIN_ALIGNMENT`, which exceeds
`MAX_BIN_SIZE` for `size` close to `MAX_BIN_SIZE` and `align > MIN_ALIGNMENT`; the result is
`MI_BIN_FULL = 49`, one past the last real bin (debug profile: the `debug_assert!` fires).
`bin_fits_fails_at_top` is the kernel-checked witness, `bin_overflow_region` characterises the
whole failing region, and `bin_fits_partial` is the true part (aligned size ≤ `MAX_BIN_SIZE`).

```
-- FULL STATEMENT (not provable; refuted by `bin_fits_fails_at_top`):
-- theorem bin_fits (debug size align) (hs : size ≤ maxBinSize) (ha : minAlign ≤ align ∧ align ≤ maxAlign)
--     (hd : debug = true → size % minAlign = 0) :
--     ∃ b, miBin debug size align = some b ∧ Fits b (alignedSize size align)
```
-/
namespace Mmtk.MsBins
open Mmtk.Gen.Bins Mmtk.CheckRange Mmtk.Arith

/-- Worst-case size of a request of `size` bytes at alignment `align` when cells are only known to be
`MIN_ALIGNMENT`-aligned (documented contract of `get_maximum_aligned_size`). -/
def alignedSize (size align : Nat) : Nat :=
  if align ≤ minAlign then size else size + align - minAlign

def Fits (b s : Nat) : Prop :=
  1 ≤ b ∧ b ≤ maxBin ∧ s ≤ binSize b ∧ (b = 1 ∨ binSize (b - 1) < s)

/-- Row `b` of the table against `binOfWsize`: the largest word size the cell holds is given bin `b`,
the next word size bin `b + 1` (`MI_BIN_FULL` after the last row). -/
theorem bin_ends_ok :
    checkRange (fun b => decide (binOfWsize (binSize b / intptrSize) = b ∧ binOfWsize (binSize b / intptrSize + 1) = b + 1))
      1 (maxBin + 1) = true := by decide +kernel

theorem largeObjWsizeMax_eq : largeObjWsizeMax * intptrSize = maxBinSize := by decide +kernel

/-- Word sizes just above the maximum map to `MI_BIN_FULL` (checked exhaustively for the
`(MAX_ALIGNMENT - MIN_ALIGNMENT) / 8` word sizes an aligned request can reach). -/
theorem words_above_max :
    checkRange (fun w => decide (binOfWsize w = binFull)) (largeObjWsizeMax + 1)
      (largeObjWsizeMax + (maxAlign - minAlign) / intptrSize + 1) = true := by decide +kernel

theorem table_adjacent :
    checkRange (fun i => decide (binSize i < binSize (i + 1))) 1 maxBin = true := by decide +kernel

theorem bin_cell_size_ok :
    checkRange (fun b => decide (0 < binSize b ∧ binSize b ≤ blockBytes ∧ binSize b % intptrSize = 0)) 0 (maxBin + 1) = true := by
  decide +kernel

/- The constants as regenerated from the linked crate (`Generated/Bins.lean`); the `omega` and `decide` steps
below compute with these values, so the proofs are about this table. -/
theorem minAlign_eq : minAlign = 8 := rfl
theorem maxAlign_eq : maxAlign = 64 := rfl
theorem maxBinSize_eq : maxBinSize = 65536 := rfl
theorem intptrSize_eq : intptrSize = 8 := rfl

theorem alignedSize_cases (size align : Nat) :
    (align ≤ 8 ∧ alignedSize size align = size) ∨ (8 < align ∧ alignedSize size align = size + align - 8) := by
  unfold alignedSize minAlign
  split <;> omega

theorem le_alignedSize (size align : Nat) : size ≤ alignedSize size align := by
  unfold alignedSize; split <;> omega

theorem alignedSize_le (size : Nat) {align : Nat} (ha : align ≤ maxAlign) :
    alignedSize size align ≤ size + (maxAlign - minAlign) := by
  unfold alignedSize; split <;> omega

theorem alignedSize_mono {s t : Nat} (align : Nat) (h : s ≤ t) : alignedSize s align ≤ alignedSize t align := by
  unfold alignedSize; split <;> omega

theorem wsize_eq (size : Nat) : wsizeFromSize size = (size + 7) / 8 := by
  unfold wsizeFromSize intptrSize
  simp only []
  split <;> omega

theorem wsize_bounds (size : Nat) :
    size ≤ intptrSize * wsizeFromSize size ∧ intptrSize * wsizeFromSize size < size + intptrSize := by
  rw [wsize_eq, intptrSize_eq]; omega

theorem wsize_mono {a b : Nat} (h : a ≤ b) : wsizeFromSize a ≤ wsizeFromSize b := by
  rw [wsize_eq, wsize_eq]; exact Nat.div_le_div_right (Nat.add_le_add_right h 7)

theorem wsize_le_max {size : Nat} (h : size ≤ maxBinSize) : wsizeFromSize size ≤ largeObjWsizeMax := by
  have h1 := wsize_bounds size
  have h2 := largeObjWsizeMax_eq
  rw [intptrSize_eq] at h1 h2
  rw [maxBinSize_eq] at h2 h
  omega

theorem bin_cell_size_legal (b : Nat) (hb : b ≤ maxBin) :
    0 < binSize b ∧ binSize b ≤ blockBytes ∧ binSize b % intptrSize = 0 :=
  forall_of_checkRange bin_cell_size_ok b (Nat.zero_le _) (by omega)

theorem bin_ends {b : Nat} (h1 : 1 ≤ b) (h2 : b ≤ maxBin) :
    binOfWsize (binSize b / intptrSize) = b ∧ binOfWsize (binSize b / intptrSize + 1) = b + 1 :=
  forall_of_checkRange bin_ends_ok b h1 (by omega)

theorem binOfWsize_small {w : Nat} (h : w ≤ 8) : binOfWsize w = max 1 w := by
  unfold binOfWsize
  split <;> omega

/-- The `u8` arithmetic of `mi_bin_from_size` does not wrap for `b ≤ 63`, and `& 3` only strips the leading 1
of a value in `[4, 8)`: the `- 3` of the code becomes `- 7` once that 1 (worth 4) is put back. -/
theorem u8_bin (b x : Nat) (hb : b < 64) (h4 : 4 ≤ x) (h7 : x < 8) :
    ((b <<< 2) % 256 + (x &&& 0x03) % 256) % 256 - 3 = 4 * b + x - 7 := by
  have hx : x &&& 0x03 = x - 4 := by
    rw [show x &&& 0x03 = x % 4 from Nat.and_two_pow_sub_one_eq_mod x 2]; omega
  have h1 : b * 4 < 256 := by omega
  have h2 : x - 4 < 4 := by omega
  rw [Nat.shiftLeft_eq, hx, Nat.mod_eq_of_lt h1, Nat.mod_eq_of_lt (Nat.lt_trans h2 (by decide)),
    Nat.mod_eq_of_lt (by omega)]
  omega

theorem binOfWsize_eq {w : Nat} (h8 : 8 < w) (hw : w ≤ 2 ^ 64) :
    binOfWsize w = 4 * (w - 1).log2 + (w - 1) / 2 ^ ((w - 1).log2 - 2) - 7 := by
  have hlog : (w - 1).log2 < 64 := (Nat.log2_lt (by omega)).2 (by omega)
  obtain ⟨h4, h7⟩ := Mmtk.Bits.lead3 (v := w - 1) (by omega)
  unfold binOfWsize
  rw [if_neg (by omega), if_neg (by omega)]
  simp only [intptrSize, Nat.shiftRight_eq_div_pow]
  rw [show (8 * 8 - 1 - (8 * 8 - 1 - (w - 1).log2)) % 256 = (w - 1).log2 by omega]
  exact u8_bin _ _ hlog h4 h7

theorem binOfWsize_mono {a b : Nat} (hab : a ≤ b) (hb : b ≤ 2 ^ 64) : binOfWsize a ≤ binOfWsize b := by
  by_cases hb8 : b ≤ 8
  · rw [binOfWsize_small hb8, binOfWsize_small (Nat.le_trans hab hb8)]; omega
  · rw [binOfWsize_eq (by omega) hb]
    by_cases ha : a ≤ 8
    · have := Mmtk.Bits.quarterLog_mono (u := 8) (v := b - 1) (by omega) (by omega)
      -- `8 ≤ b - 1`, and at 8 the closed form is `4·3 + 4 - 7 = 9`, above every bin of the small range
      rw [show 4 * (8 : Nat).log2 + 8 / 2 ^ ((8 : Nat).log2 - 2) = 16 by decide] at this
      rw [binOfWsize_small ha]; omega
    · have := Mmtk.Bits.quarterLog_mono (u := a - 1) (v := b - 1) (by omega) (by omega)
      rw [binOfWsize_eq (by omega) (by omega)]; omega

theorem largeObjWsizeMax_lt : largeObjWsizeMax + 1 ≤ 2 ^ 64 := by decide

theorem binOfWsize_fits {w : Nat} (hw : w ≤ largeObjWsizeMax) :
    1 ≤ binOfWsize w ∧ binOfWsize w ≤ maxBin ∧ w ≤ binSize (binOfWsize w) / intptrSize ∧
      (binOfWsize w = 1 ∨ binSize (binOfWsize w - 1) / intptrSize < w) := by
  have hmax := largeObjWsizeMax_lt
  have h1 : 1 ≤ binOfWsize w := binOfWsize_mono (Nat.zero_le w) (by omega)
  have h2 : binOfWsize w ≤ maxBin := by
    have := binOfWsize_mono (show w ≤ binSize maxBin / intptrSize from hw) (by decide)
    rwa [(bin_ends (b := maxBin) (by decide) (Nat.le_refl _)).1] at this
  refine ⟨h1, h2, ?_, ?_⟩
  · apply Nat.le_of_not_lt
    intro h
    have := binOfWsize_mono (Nat.succ_le_of_lt h) (by omega)
    rw [(bin_ends h1 h2).2] at this
    omega
  · by_cases hb : binOfWsize w = 1
    · exact Or.inl hb
    · right
      apply Nat.lt_of_not_le
      intro h
      have hblk := (bin_cell_size_legal (binOfWsize w - 1) (by omega)).2.1
      have := binOfWsize_mono h (Nat.le_trans (Nat.div_le_self _ _) (Nat.le_trans hblk (by decide)))
      rw [(bin_ends (b := binOfWsize w - 1) (by omega) (by omega)).1] at this
      omega

theorem miBinFromSize_of_le (debug : Bool) {s : Nat} (hs : s ≤ maxBinSize) :
    miBinFromSize debug s = some (binOfWsize (wsizeFromSize s)) := by
  simp [miBinFromSize, wsize_le_max hs]

/-- **C35 (bin_in_range + bin_fits on aligned sizes)** every size up to `MAX_BIN_SIZE` is given a real
bin whose cell holds it, and the smallest such bin; no assertion fires. -/
theorem fromSize_fits (debug : Bool) (s : Nat) (hs : s ≤ maxBinSize) :
    ∃ b, miBinFromSize debug s = some b ∧ Fits b s := by
  obtain ⟨h1, h2, h3, h4⟩ := binOfWsize_fits (wsize_le_max hs)
  have hb := wsize_bounds s
  refine ⟨_, miBinFromSize_of_le debug hs, h1, h2, ?_, ?_⟩
  · have := Nat.div_mul_le_self (binSize (binOfWsize (wsizeFromSize s))) intptrSize
    rw [intptrSize_eq] at *; omega
  · refine h4.imp id fun h4 => ?_
    have := (bin_cell_size_legal (binOfWsize (wsizeFromSize s) - 1) (by omega)).2.2
    rw [intptrSize_eq] at *; omega

theorem fromSize_monotone (debug : Bool) (s t : Nat) (hst : s ≤ t) (ht : t ≤ maxBinSize) :
    ∃ b c, miBinFromSize debug s = some b ∧ miBinFromSize debug t = some c ∧ b ≤ c :=
  ⟨_, _, miBinFromSize_of_le debug (Nat.le_trans hst ht), miBinFromSize_of_le debug ht,
    binOfWsize_mono (wsize_mono hst) (Nat.le_trans (wsize_le_max ht) (Nat.le_of_succ_le largeObjWsizeMax_lt))⟩

theorem miBin_eq (debug : Bool) (size align : Nat) (ha : align ≤ maxAlign)
    (hlt : size < 2^63) (hd : debug = true → size % minAlign = 0) :
    miBin debug size align = miBinFromSize debug (alignedSize size align) := by
  have c2 := maxAlign_eq
  unfold miBin
  rw [maxAlignedSize_eq vm debug 3 size align vm.minAlign rfl (by omega) (Nat.le_refl _)
    (fun h => Nat.dvd_of_mod_eq_zero (hd h)) (by omega)]
  simp only [alignedSize, show vm.minAlign = minAlign from rfl, show ¬ vm.maxAlign ≤ minAlign by decide,
    false_or]

/-- **C35 (bin_fits, true part)** for every size and legal alignment whose worst-case aligned size is
at most `MAX_BIN_SIZE`, `mi_bin` selects a real bin (`1 … 48`) whose cell holds the aligned request,
and the smallest such bin. -/
theorem bin_fits_partial (debug : Bool) (size align : Nat) (ha : minAlign ≤ align ∧ align ≤ maxAlign)
    (hs : alignedSize size align ≤ maxBinSize) (hd : debug = true → size % minAlign = 0) :
    ∃ b, miBin debug size align = some b ∧ Fits b (alignedSize size align) := by
  have hlt : size < 2^63 := Nat.lt_of_le_of_lt (Nat.le_trans (le_alignedSize size align) hs) (by decide)
  rw [miBin_eq debug size align ha.2 hlt hd]
  exact fromSize_fits debug _ hs

theorem bin_in_range (debug : Bool) (size align : Nat) (ha : minAlign ≤ align ∧ align ≤ maxAlign)
    (hs : alignedSize size align ≤ maxBinSize) (hd : debug = true → size % minAlign = 0) :
    ∃ b, miBin debug size align = some b ∧ 1 ≤ b ∧ b ≤ maxBin ∧ b < binSizes.length := by
  obtain ⟨b, hb, h1, h2, _⟩ := bin_fits_partial debug size align ha hs hd
  exact ⟨b, hb, h1, h2, by simp only [maxBin] at h2; simp only [binSizes, List.length]; omega⟩

/-- With the minimum alignment the full range `0 … MAX_BIN_SIZE` is covered. -/
theorem bin_fits_min_align (debug : Bool) (size : Nat) (hs : size ≤ maxBinSize)
    (hd : debug = true → size % minAlign = 0) :
    ∃ b, miBin debug size minAlign = some b ∧ Fits b size := by
  have e : alignedSize size minAlign = size := if_pos (Nat.le_refl _)
  have := bin_fits_partial debug size minAlign ⟨Nat.le_refl _, by decide⟩ (e.symm ▸ hs) hd
  rwa [e] at this

/-! ## The failing region (genuine defect, key `msbins:aligned-size-exceeds-max-bin`) -/

/-- Witness that the full `bin_fits` is false: `size = MAX_BIN_SIZE`, `align = 16` are legal
(`size ≤ MAX_BIN_SIZE`, `MIN_ALIGNMENT ≤ 16 ≤ MAX_ALIGNMENT`, `size` word aligned) but the release
profile selects bin 49 = `MI_BIN_FULL` (not a real bin: the 49-entry array ends at index 48) and the
debug profile trips `debug_assert!(wsize <= MI_LARGE_OBJ_WSIZE_MAX)`. -/
theorem bin_fits_fails_at_top :
    maxBinSize ≤ maxBinSize ∧ (minAlign ≤ 16 ∧ 16 ≤ maxAlign) ∧ maxBinSize % minAlign = 0 ∧
    miBin false maxBinSize 16 = some binFull ∧ binFull = binSizes.length ∧ binSize binFull = 0 ∧
    miBin true maxBinSize 16 = none := by decide +kernel

/-- The whole failing region: every legal request (`size ≤ MAX_BIN_SIZE`, legal `align`) whose
worst-case aligned size exceeds `MAX_BIN_SIZE` gets `MI_BIN_FULL` in release and an assertion failure
in debug. Together with `bin_fits_partial` this decides the property for every legal input. -/
theorem bin_overflow_region (size align : Nat) (hsz : size ≤ maxBinSize)
    (ha : minAlign ≤ align ∧ align ≤ maxAlign) (hm : size % minAlign = 0)
    (hs : maxBinSize < alignedSize size align) :
    miBin false size align = some binFull ∧ miBin true size align = none := by
  have hlt : size < 2^63 := Nat.lt_of_le_of_lt hsz (by decide)
  -- the word size lies in the few word sizes above the maximum that `words_above_max` covers
  have hw : largeObjWsizeMax + 1 ≤ wsizeFromSize (alignedSize size align) ∧
      wsizeFromSize (alignedSize size align) < largeObjWsizeMax + (maxAlign - minAlign) / intptrSize + 1 := by
    have hb := wsize_bounds (alignedSize size align)
    have hup := alignedSize_le size ha.2
    have hmax := largeObjWsizeMax_eq
    generalize wsizeFromSize (alignedSize size align) = w at *
    generalize alignedSize size align = s at *
    rw [intptrSize_eq, maxAlign_eq, minAlign_eq] at *
    omega
  have hfull := forall_of_checkRange words_above_max _ hw.1 hw.2
  have hnot : ¬ (wsizeFromSize (alignedSize size align) ≤ largeObjWsizeMax) := by omega
  rw [miBin_eq false size align ha.2 hlt nofun, miBin_eq true size align ha.2 hlt fun _ => hm]
  exact ⟨by simp [miBinFromSize, hfull], by simp [miBinFromSize, hnot]⟩

theorem strictMono_of_adjacent {g : Nat → Nat} {lo hi : Nat} (h : ∀ n, lo ≤ n → n < hi → g n < g (n + 1)) :
    ∀ a b, lo ≤ a → a < b → b ≤ hi → g a < g b := by
  intro a b hlo hab
  induction b with
  | zero => omega
  | succ b ih =>
    intro hb
    by_cases hEq : a = b
    · subst hEq; exact h a hlo (by omega)
    · exact Nat.lt_trans (ih (by omega) (by omega)) (h b (by omega) (by omega))

/-- **C35 (bins_monotone)** cell sizes strictly increase with the bin index over the real bins
`1 … MAX_BIN` (bin 0 is the reserved empty bin and equals bin 1). -/
theorem bins_monotone (i j : Nat) (hi : 1 ≤ i) (hij : i < j) (hj : j ≤ maxBin) :
    binSize i < binSize j :=
  strictMono_of_adjacent (g := binSize) (forall_of_checkRange table_adjacent) i j hi hij hj

/-- … and so does the bin selected for a request: larger requests never get a smaller bin. -/
theorem bin_monotone_in_size (debug : Bool) (s t align : Nat) (hst : s ≤ t)
    (ha : minAlign ≤ align ∧ align ≤ maxAlign) (ht : alignedSize t align ≤ maxBinSize)
    (hds : debug = true → s % minAlign = 0) (hdt : debug = true → t % minAlign = 0) :
    ∃ b c, miBin debug s align = some b ∧ miBin debug t align = some c ∧ b ≤ c := by
  have hlt : t < 2^63 := Nat.lt_of_le_of_lt (Nat.le_trans (le_alignedSize t align) ht) (by decide)
  rw [miBin_eq debug s align ha.2 (by omega) hds, miBin_eq debug t align ha.2 hlt hdt]
  exact fromSize_monotone debug _ _ (alignedSize_mono align hst) ht

def cellsOf (start cs n : Nat) : List Nat := (List.range n).map (fun k => start + k * cs)

theorem cellsOf_succ (start cs n : Nat) : cellsOf start cs (n + 1) = start :: cellsOf (start + cs) cs n := by
  simp only [cellsOf, List.range_succ_eq_map, List.map_cons, List.map_map, Nat.zero_mul, Nat.add_zero]
  congr 1
  exact List.map_congr_left fun k _ => by simp only [Function.comp, Nat.succ_mul]; omega

/-- Closed form of `init_block`'s loop started at `new` with exactly `n + 1` cells still fitting: each
further cell is stored with a link to the cell before it. -/
theorem initLoop_eq (cs blockEnd : Nat) (hcs : 0 < cs) :
    ∀ (n old new : Nat), new + n * cs + cs ≤ blockEnd → blockEnd < new + n * cs + cs + cs →
      initLoop cs blockEnd old new =
        ((new, old) :: (cellsOf (new + cs) cs n).zip (cellsOf new cs n), new + n * cs) := by
  intro n
  induction n with
  | zero =>
    intro old new h1 h2
    unfold initLoop
    rw [dif_pos (Or.inr (by omega))]
    simp [cellsOf]
  | succ n ih =>
    intro old new h1 h2
    rw [Nat.succ_mul] at h1 h2
    unfold initLoop
    rw [dif_neg (by omega), ih new (new + cs) (by omega) (by omega), cellsOf_succ, cellsOf_succ, List.zip_cons_cons,
      Nat.succ_mul]
    exact Prod.ext rfl (by simp only; omega)

/-- **C35 (init_block_cells)** for a cell size `0 < cs ≤ Block::BYTES`, `init_block` writes exactly
`n = ⌊BYTES / cs⌋` cells `start + k·cs` (`k < n`); cell `0` is linked to null and cell `k+1` to cell
`k`; the free-list head is the last cell; the cells are pairwise disjoint and lie entirely inside
the block. -/
theorem init_block_cells (start cs : Nat) (hcs : 0 < cs) (hle : cs ≤ blockBytes) :
    let n := blockBytes / cs
    let r := initBlock start cs
    r.1.map Prod.fst = cellsOf start cs n ∧
    r.1.map Prod.snd = 0 :: cellsOf start cs (n - 1) ∧
    r.2 = start + (n - 1) * cs ∧
    1 ≤ n ∧
    (∀ k, k < n → start ≤ start + k * cs ∧ start + k * cs + cs ≤ start + blockBytes) ∧
    (∀ j k, j < k → k < n → start + j * cs + cs ≤ start + k * cs) := by
  intro n r
  have hn1 : 1 ≤ n := (Nat.one_le_div_iff hcs).2 hle
  have hlo : n * cs ≤ blockBytes := Nat.div_mul_le_self _ _
  have hhi : blockBytes < n * cs + cs := Nat.lt_div_mul_add hcs
  obtain ⟨m, hm⟩ : ∃ m, n = m + 1 := ⟨n - 1, by omega⟩
  rw [hm, Nat.succ_mul] at hlo hhi
  have hr : r = _ := initLoop_eq cs (start + blockBytes) hcs m 0 start (by omega) (by omega)
  rw [hr, hm]
  refine ⟨?_, ?_, rfl, Nat.le_add_left 1 m, fun k hk => ⟨Nat.le_add_right _ _, ?_⟩, fun j k hjk _ => ?_⟩
  · rw [List.map_cons, List.map_fst_zip (by simp [cellsOf]), cellsOf_succ]
  · rw [List.map_cons, List.map_snd_zip (by simp [cellsOf]), Nat.add_sub_cancel]
  · have := Nat.mul_le_mul_right cs (Nat.le_of_lt_succ hk)
    omega
  · have := Nat.mul_le_mul_right cs (Nat.succ_le_of_lt hjk)
    rw [Nat.succ_mul] at this
    omega

example : miBin true 24 8 = some 3 ∧ binSize 3 = 24 := by decide +kernel
example : miBin true 24 16 = some 4 ∧ alignedSize 24 16 = 32 := by decide +kernel
example : miBin true 65536 8 = some 48 ∧ binSize 48 = 65536 := by decide +kernel
example : miBin true 65528 16 = some 48 ∧ alignedSize 65528 16 = 65536 := by decide +kernel
example : miBin false 65480 64 = some 48 ∧ miBin false 65488 64 = some 49 := by decide +kernel
example : miBinFromSize false 65537 = some 49 ∧ miBinFromSize true 65537 = none := by decide +kernel
example : (initBlock 65536 24576).1 = [(65536, 0), (90112, 65536)] ∧ (initBlock 65536 24576).2 = 90112 := by
  decide +kernel
example : walk (initBlock 65536 16384).1 10 (initBlock 65536 16384).2 = [114688, 98304, 81920, 65536] := by
  decide +kernel

end Mmtk.MsBins
