import MmtkModel.Model.Arith
import MmtkModel.Lemmas.Bits
/-!
# C33 — Alignment and size arithmetic meet their specifications

For every 64-bit input within the documented preconditions (power-of-two alignments, no
overflow) the transcribed functions compute the arithmetic rounding they document.
Each theorem carries its no-overflow hypothesis explicitly; the `example`s at the end sit on those
boundaries.  Second half: `align_allocation` and `get_maximum_aligned_size` on legal arguments (`LegalAlign`): the value
`alignAllocation_val` in terms of the padding `AllocArith.padSpec` (defined with its laws in `Lemmas/Bits.lean`), from which
leastness and the size bound are read; C03Algo builds on that value.
-/
namespace Mmtk.Arith
open Mmtk.Bits

def LeastMultipleGE (a v r : Nat) : Prop := a ∣ r ∧ v ≤ r ∧ ∀ m, a ∣ m → v ≤ m → r ≤ m
def GreatestMultipleLE (a v r : Nat) : Prop := a ∣ r ∧ r ≤ v ∧ ∀ m, a ∣ m → m ≤ v → m ≤ r

theorem wsub_one {a : Nat} (h0 : 0 < a) (ha : a < 2^64) : wsub a 1 = a - 1 := by
  unfold wsub; omega

theorem and_wnot_mask (x k : Nat) (hk : k < 64) (hx : x < 2^64) :
    x &&& wnot (2^k - 1) = x - x % 2^k := by
  have := two_pow_lt_64 hk
  have := Nat.two_pow_pos k
  rw [show wnot (2^k - 1) = 2^64 - 2^k by unfold wnot; omega, and_not_mask x k (by omega) hx]

theorem rawAlignDown_eq (v k : Nat) (hk : k < 64) (hv : v < 2^64) :
    rawAlignDown v (2^k) = v - v % 2^k := by
  unfold rawAlignDown
  rw [wsub_one (Nat.two_pow_pos k) (two_pow_lt_64 hk), and_wnot_mask v k hk hv]

theorem greatestMultipleLE_sub_mod (a v : Nat) (ha : 0 < a) : GreatestMultipleLE a v (v - v % a) := by
  rw [sub_mod_eq_mul_div]
  refine ⟨Nat.dvd_mul_right _ _, Nat.mul_div_le v a, ?_⟩
  rintro m ⟨c, rfl⟩ hm
  exact Nat.mul_le_mul_left _ ((Nat.le_div_iff_mul_le ha).2 (by rwa [Nat.mul_comm]))

/-- **C33 (align down)** `raw_align_down(v, 2^k)` is the greatest multiple of `2^k` that is `≤ v`. -/
theorem alignDown_spec (v k : Nat) (hk : k < 64) (hv : v < 2^64) :
    GreatestMultipleLE (2^k) v (rawAlignDown v (2^k)) := by
  rw [rawAlignDown_eq v k hk hv]
  exact greatestMultipleLE_sub_mod _ v (Nat.two_pow_pos k)

theorem rawAlignUp_eq (v k : Nat) (hk : k < 64) (hno : v + 2^k - 1 < 2^64) :
    rawAlignUp v (2^k) = (v + 2^k - 1) - (v + 2^k - 1) % 2^k := by
  have hp : 0 < 2^k := Nat.two_pow_pos _
  have h := two_pow_lt_64 hk
  have : wsub (wadd v (2^k)) 1 = v + 2^k - 1 := by unfold wsub wadd; omega
  unfold rawAlignUp
  rw [this, wsub_one hp h, and_wnot_mask _ k hk hno]

theorem ceilDiv_least (n d : Nat) (hd : 0 < d) :
    n ≤ ((n + d - 1) / d) * d ∧ ∀ q, n ≤ q * d → (n + d - 1) / d ≤ q := by
  constructor
  · have := Nat.div_add_mod (n + d - 1) d
    have := Nat.mod_lt (n + d - 1) hd
    rw [Nat.mul_comm]; omega
  · intro q hq
    apply Nat.le_of_lt_succ
    apply (Nat.div_lt_iff_lt_mul hd).2
    rw [Nat.succ_mul]; omega

theorem leastMultipleGE_sub_mod (a v : Nat) (ha : 0 < a) :
    LeastMultipleGE a v (v + a - 1 - (v + a - 1) % a) := by
  obtain ⟨h1, h2⟩ := ceilDiv_least v a ha
  rw [sub_mod_eq_mul_div]
  refine ⟨Nat.dvd_mul_right _ _, by rwa [Nat.mul_comm], ?_⟩
  rintro m ⟨c, rfl⟩ hm
  exact Nat.mul_le_mul_left _ (h2 c (by rwa [Nat.mul_comm]))

/-- **C33 (align up)** `raw_align_up(v, 2^k)` is the least multiple of `2^k` that is `≥ v`,
for every `v` with `v + 2^k - 1 < 2^64` (otherwise the true result does not fit in a word). -/
theorem alignUp_spec (v k : Nat) (hk : k < 64) (hno : v + 2^k - 1 < 2^64) :
    LeastMultipleGE (2^k) v (rawAlignUp v (2^k)) := by
  rw [rawAlignUp_eq v k hk hno]
  exact leastMultipleGE_sub_mod _ v (Nat.two_pow_pos k)

/-- **C33 (is aligned)** `raw_is_aligned(v, 2^k)` iff `2^k ∣ v`. -/
theorem isAligned_iff (v k : Nat) (hk : k < 64) :
    rawIsAligned v (2^k) = true ↔ 2^k ∣ v := by
  unfold rawIsAligned
  rw [wsub_one (Nat.two_pow_pos k) (two_pow_lt_64 hk), Nat.and_two_pow_sub_one_eq_mod]
  simp [Nat.dvd_iff_mod_eq_zero]

/-- **C33 (`rshift_align_up`)** equals `⌈num / 2^bits⌉` whenever `num + 2^bits - 1` fits in a word
(in both build profiles). -/
theorem rshiftAlignUp_eq_ceilDiv (debug : Bool) (num bits : Nat) (hb : bits < 64)
    (hno : num + (2^bits - 1) < 2^64) :
    rshiftAlignUp debug num bits = some ((num + 2^bits - 1) / 2^bits) := by
  have hp : 0 < 2^bits := Nat.two_pow_pos _
  simp only [rshiftAlignUp, cshl1, hb, if_true, cadd, hno, cshr, Nat.shiftRight_eq_div_pow]
  congr 2; omega

/-- **C33 (`bytes_to_pages_up`)** = `⌈bytes / 4096⌉` whenever `bytes + 4095 < 2^64`. -/
theorem pagesUp_eq_ceilDiv (bytes : Nat) (hno : bytes + 4095 < 2^64) :
    bytesToPagesUp bytes = (bytes + 4095) / 4096 := by
  unfold bytesToPagesUp bytesInPage logBytesInPage
  have e : (4096 : Nat) = 2^12 := by decide
  rw [e, rawAlignUp_eq bytes 12 (by omega) (by omega), Nat.shiftRight_eq_div_pow, sub_mod_eq_mul_div,
    Nat.mul_div_cancel_left _ (by decide), ← e]
  rfl

theorem unitsUp_eq_ceilDiv (debug : Bool) (k bytes : Nat) (hno : bytes + 2^k < 2^64) :
    bytesToUnitsUp debug (2^k) k bytes = some ((bytes + 2^k - 1) / 2^k) := by
  unfold bytesToUnitsUp cadd
  rw [if_pos hno]
  show some (wsub (bytes + 2^k) 1 >>> k) = _
  rw [wsub_one (Nat.add_pos_right _ (Nat.two_pow_pos k)) hno, Nat.shiftRight_eq_div_pow]

/-- **C33 (`bytes_to_chunks_up`)** = `⌈bytes / 4 MiB⌉` whenever the sum fits in a word. -/
theorem chunksUp_eq_ceilDiv (debug : Bool) (bytes : Nat) (hno : bytes + 2^22 < 2^64) :
    bytesToChunksUp debug bytes = some ((bytes + 2^22 - 1) / 2^22) := by
  have e : bytesInChunk = 2^22 := by decide
  unfold bytesToChunksUp logBytesInChunk
  rw [e]
  exact unitsUp_eq_ceilDiv debug 22 bytes hno

theorem chunkAlignUp_spec (a : Nat) (hno : a + 2^22 - 1 < 2^64) :
    LeastMultipleGE (2^22) a (chunkAlignUp a) := by
  have e : (4194304 : Nat) = 2^22 := by decide
  unfold chunkAlignUp bytesInChunk; rw [e]; exact alignUp_spec a 22 (by omega) hno

theorem chunkAlignDown_spec (a : Nat) (ha : a < 2^64) :
    GreatestMultipleLE (2^22) a (chunkAlignDown a) := by
  have e : (4194304 : Nat) = 2^22 := by decide
  unfold chunkAlignDown bytesInChunk; rw [e]; exact alignDown_spec a 22 (by omega) ha

/-- The legal-argument predicate of `align_allocation_inner` (its debug assertions):
power-of-two alignment between the VM's minimum and maximum, offset a multiple of the minimum
alignment, known alignment at least the minimum. Two bounds are not assertions of the code: `kx < 63`
and `offset < 2^63` keep `alignment` and `offset as isize` non-negative signed words (at `offset = 2^63`
the negation `-(isize::MIN)` overflows).  The exponents are parameters, not existentials, so that the fields are
equations `… = 2^k` a proof rewrites with (`x &&& (2^k - 1)` becomes `x % 2^k`) without opening an existential at every use. -/
structure LegalAlign (vm : VMConsts) (ka km kx : Nat) (alignment offset known : Nat) : Prop where
  hmin : vm.minAlign = 2^km
  hmax : vm.maxAlign = 2^kx
  halign : alignment = 2^ka
  hka : km ≤ ka ∧ ka ≤ kx ∧ kx < 63
  hoff : 2^km ∣ offset
  hoffw : offset < 2^63
  hknown : vm.minAlign ≤ known

private theorem and_min_mask_zero {km x : Nat} (h : 2^km ∣ x) : (x &&& (2^km - 1) == 0) = true := by
  rw [Nat.and_two_pow_sub_one_eq_mod]
  simp [Nat.mod_eq_zero_of_dvd h]

/-- Two's complement: the model's `delta`, `(-offset - region) mod a`, is the padding of `region + offset`, for `a ∣ 2^64`. -/
theorem delta_eq_padSpec {a region offset : Nat} (ha : a ∣ 2^64) (hr : region < 2^64) (ho : offset < 2^64) :
    wsub (wsub 0 offset) region % a = AllocArith.padSpec region a offset := by
  have hpos : 0 < a := Nat.pos_of_dvd_of_pos ha (Nat.two_pow_pos 64)
  refine AllocArith.padSpec_unique (Nat.mod_lt _ hpos) (Nat.dvd_of_mod_eq_zero ?_)
  rw [Nat.add_mod_mod, Nat.add_comm]
  exact Nat.mod_eq_zero_of_dvd (Nat.dvd_trans ha (by unfold wsub; omega))

/-- in order: `alignment < 2^63`, `0 < MIN`, `MIN ≤ alignment`, `alignment ≤ MAX`, `MIN ∣ alignment`, `MIN ∣ offset`,
`alignment ∣ 2^64` (users take them by position) -/
theorem LegalAlign.facts {vm : VMConsts} {ka km kx alignment offset known : Nat}
    (L : LegalAlign vm ka km kx alignment offset known) :
    alignment < 2^63 ∧ 0 < vm.minAlign ∧ vm.minAlign ≤ alignment ∧ alignment ≤ vm.maxAlign ∧
      vm.minAlign ∣ alignment ∧ vm.minAlign ∣ offset ∧ alignment ∣ 2^64 := by
  obtain ⟨hmin, hmax, halign, ⟨hka1, hka2, hkx⟩, hoff, -, -⟩ := L
  rw [hmin, hmax, halign]
  exact ⟨Nat.pow_lt_pow_right (by decide) (Nat.lt_of_le_of_lt hka2 hkx), Nat.two_pow_pos _,
    Nat.pow_le_pow_right (by decide) hka1, Nat.pow_le_pow_right (by decide) hka2,
    Nat.pow_dvd_pow 2 hka1, hoff, Nat.pow_dvd_pow 2 (by omega)⟩

/-- **What `align_allocation` returns** on legal arguments, in either profile: the region itself when no
alignment is asked for beyond the known one, else the region padded to the least admissible address. -/
theorem alignAllocation_val {vm : VMConsts} (debug : Bool) {ka km kx region alignment offset known : Nat}
    (L : LegalAlign vm ka km kx alignment offset known) (hreg : region + alignment < 2^63) :
    alignAllocation vm debug region alignment offset known =
      some (if alignment ≤ known ∨ vm.maxAlign ≤ vm.minAlign then region
        else region + AllocArith.padSpec region alignment offset) := by
  obtain ⟨-, -, -, hmax, hdvd, -, h64⟩ := L.facts
  have hA1 : (alignment &&& (vm.minAlign - 1) == 0) = true := by
    rw [L.hmin] at hdvd ⊢; exact and_min_mask_zero hdvd
  have hA2 : (offset &&& (vm.minAlign - 1) == 0) = true := by
    rw [L.hmin]; exact and_min_mask_zero L.hoff
  have hw := L.hoffw
  have hlt := (AllocArith.padSpec_spec (Nat.pos_of_dvd_of_pos h64 (Nat.two_pow_pos 64)) region offset).1
  unfold alignAllocation
  simp only [hA1, hA2, L.hknown, hmax, decide_true, Bool.and_self, Bool.not_true, Bool.and_false,
    Bool.false_eq_true, if_false, Bool.or_eq_true, decide_eq_true_eq]
  split
  · rfl
  · rw [if_neg (by simp; omega), show alignment - 1 = 2^ka - 1 by rw [L.halign],
      Nat.and_two_pow_sub_one_eq_mod, ← L.halign, delta_eq_padSpec h64 (by omega) (by omega)]
    unfold caddSigned
    rw [if_neg (by simp; omega), Nat.mod_eq_of_lt (by omega)]

/-- **C33 (`align_allocation`)** For legal arguments and a region with `region + align < 2^63`:
the result `r` satisfies `r ≥ region`, `(r + offset) % align = 0`, and no address in
`[region, r)` has that property — i.e. it is the *least* such address.
(This covers every user-space address; just below `2^63` the signed
`Address + isize` addition of the real code overflows and the debug build panics.) -/
theorem alignAllocation_least (vm : VMConsts) (debug : Bool) (ka km kx region alignment offset known : Nat)
    (L : LegalAlign vm ka km kx alignment offset known)
    (hgt : known < alignment) (hmm : vm.minAlign < vm.maxAlign)
    (hreg : region + alignment < 2^63) :
    ∃ r, alignAllocation vm debug region alignment offset known = some r ∧
      region ≤ r ∧ (r + offset) % alignment = 0 ∧
      ∀ r', region ≤ r' → r' < r → (r' + offset) % alignment ≠ 0 := by
  obtain ⟨hlt, hd⟩ := AllocArith.padSpec_spec (Nat.zero_lt_of_lt hgt) region offset
  refine ⟨region + AllocArith.padSpec region alignment offset,
    (alignAllocation_val debug L hreg).trans (by rw [if_neg (by omega)]), Nat.le_add_right _ _,
    by rw [Nat.add_right_comm]; exact Nat.mod_eq_zero_of_dvd hd, fun r' h1 h2 hmod => ?_⟩
  -- `r' - region` would be a smaller padding
  have := AllocArith.padSpec_unique (align := alignment) (region := region) (offset := offset) (p := r' - region) (by omega)
    (by rw [Nat.add_right_comm, Nat.add_sub_cancel' h1]; exact Nat.dvd_of_mod_eq_zero hmod)
  omega

/-- Release profile: when no alignment is required the region is returned unchanged (the debug profile
checks its assertions first). -/
theorem alignAllocation_noop (vm : VMConsts) (region alignment offset known : Nat)
    (h : alignment ≤ known) :
    alignAllocation vm false region alignment offset known = some region := by
  simp [alignAllocation, h]

theorem maxAlignedSize_eq (vm : VMConsts) (debug : Bool) (kk size alignment known : Nat)
    (hpow : known = 2^kk) (hkk : kk < 64) (hknown : vm.minAlign ≤ known)
    (hszk : debug = true → known ∣ size) (hsz : size + alignment < 2^64) :
    maxAlignedSize vm debug size alignment known =
      some (if vm.maxAlign ≤ vm.minAlign ∨ alignment ≤ known then size else size + alignment - known) := by
  have hassert : (debug && !(size == (size &&& wnot (known - 1)) && decide (known ≥ vm.minAlign))) = false := by
    cases debug with
    | false => rfl
    | true =>
      have := Nat.mod_eq_zero_of_dvd (hszk rfl)
      rw [hpow] at this
      rw [hpow, and_wnot_mask size kk hkk (by omega), this, ← hpow]
      simp [hknown]
  unfold maxAlignedSize
  rw [hassert]
  by_cases hc : vm.maxAlign ≤ vm.minAlign ∨ alignment ≤ known
  · simp [hc]
  · have : known ≤ size + alignment := by omega
    simp [hc, cadd, hsz, this]

/-- **C33 (`get_maximum_aligned_size`)** bounds the padded size: for a region and offset that are
multiples of the known alignment, the padding `align_allocation` inserts is at most
`maxAlignedSize size - size`. -/
theorem maxAlignedSize_bounds (vm : VMConsts) (debug : Bool) (ka km kx kk region alignment offset known size : Nat)
    (L : LegalAlign vm ka km kx alignment offset known)
    (hknownpow : known = 2^kk) (hgt : known < alignment) (hmm : vm.minAlign < vm.maxAlign)
    (hreg : region + alignment < 2^63) (hregk : known ∣ region) (hoffk : known ∣ offset)
    (hsz : size + alignment < 2^64) (hszk : known ∣ size) :
    ∃ r m, alignAllocation vm debug region alignment offset known = some r ∧
      maxAlignedSize vm debug size alignment known = some m ∧
      m = size + alignment - known ∧ (r - region) + size ≤ m := by
  have hkk : kk < ka := (Nat.pow_lt_pow_iff_right (by omega)).1 (L.halign ▸ hknownpow ▸ hgt)
  have hka := L.hka
  have hdk : known ∣ alignment := by rw [hknownpow, L.halign]; exact Nat.pow_dvd_pow 2 (by omega)
  have hbranch : ¬ (alignment ≤ known ∨ vm.maxAlign ≤ vm.minAlign) := by omega
  -- the same condition with the disjuncts swapped: each model keeps the order of its Rust function (allocator.rs:175, 220)
  have hbranch' : ¬ (vm.maxAlign ≤ vm.minAlign ∨ alignment ≤ known) := by omega
  have hle := (AllocArith.padSpec_add_le hdk (Nat.dvd_add hregk hoffk) (Nat.zero_lt_of_lt hgt)).2
  refine ⟨_, _, (alignAllocation_val debug L hreg).trans (by rw [if_neg hbranch]),
    (maxAlignedSize_eq vm debug kk size alignment known hknownpow (by omega) L.hknown (fun _ => hszk) hsz).trans
      (by rw [if_neg hbranch']), rfl, ?_⟩
  omega

def vmDefault : VMConsts := { minAlign := 8, maxAlign := 64 }

example : LegalAlign vmDefault 5 3 6 32 8 8 :=
  ⟨rfl, rfl, rfl, by omega, ⟨1, rfl⟩, by omega, by decide⟩
example : alignAllocation vmDefault true 0x1008 32 8 8 = some 0x1018 := by decide
example : rawAlignUp (2^64 - 4096) 4096 = 2^64 - 4096 := by decide
/-- at the boundary the hypothesis of `alignUp_spec` is tight: one more byte wraps to 0. -/
example : rawAlignUp (2^64 - 4095) 4096 = 0 := by decide
example : rshiftAlignUp true (2^64 - 1) 3 = none := by decide
example : rshiftAlignUp false (2^64 - 1) 3 = some 0 := by decide
example : bytesToPagesUp 4097 = 2 := by decide

end Mmtk.Arith
