import MmtkModel.Model.OOM
/-!
# C10 — Out-of-memory and allocation-option contract

*An allocation that cannot be satisfied calls `out_of_memory` only after at least one collection was
attempted for it (except requests larger than the maximum heap, which fail immediately), never when
`allow_oom_call` is false, and then returns null. An allocation with `at_safepoint = false` never
calls `block_for_gc`, and one with `allow_overcommit` may exceed the heap size without blocking.*

The statements are about `Mmtk.OOM.slowPath` (the retry loop of `Allocator::alloc_slow_inline`,
`Model/OOM.lean`) for **every** request, **every** environment (answers of `poll`, of the
page resource, of the global `emergency_collection` / `allocation_success` atomics, per iteration)
and **every** fuel. `slowPathOld` is the loop before the two `fix:` commits of mmtk-core (there the
emergency branch ignores `allow_oom_call`, and an obviously-too-large request with
`allow_oom_call = false` loops forever).

| clause | `slowPath` | `slowPathOld` (before the `fix:` commits) |
|---|---|---|
| `oom_only_after_gc_or_obvious`  | proved in full | proved in full (`old_…`) |
| `no_oom_call_when_disallowed`   | proved in full | **false** (`F5_witness`), `old_…_partial` proved |
| `oom_returns_null`              | proved in full | proved in full (`old_…`) |
| `obvious_fails_immediately`     | proved in full | **false** (`F6_witness_diverges`), `old_…_partial` proved |
| `no_block_when_not_safepoint`, `not_safepoint_one_attempt` | proved in full | proved in full (`old_…`) |
| `overcommit_gets_pages`         | proved in full | proved in full (`old_…`) |
| termination                     | `terminates` under the GC-progress hypothesis, `terminates_obvious` | under that hypothesis too (`run_done_of_progress false`); obvious requests: false (F6) |
-/
namespace Mmtk.OOM
open Event

theorem acquire_spec (o : Opts) (e : EnvRec) :
    oomCall ∉ (acquire o e).2 ∧
    (blockForGc ∈ (acquire o e).2 ↔ o.atSafepoint = true ∧ (acquire o e).1 = false) ∧
    ((acquire o e).1 = true ↔ e.pagesOk = true ∧ (e.pollGc = false ∨ o.allowOvercommit = true)) := by
  -- `acquire` looks at four flags only: a truth table
  unfold acquire notAcquiring
  generalize o.atSafepoint = sp, e.pagesOk = po, e.pollGc = pg, o.allowOvercommit = oc
  revert sp po pg oc
  decide

/-! ## Both loops as one

The loop before the two `fix:` commits (`fixed = false`) and the loop after them (`fixed = true`)
differ in two places only: whether an obviously-too-large request sets `thrown_oom` although
`allow_oom_call = false`, and whether the emergency exit consults `allow_oom_call`. Everything
below is proved for both values of `fixed` at once; `runOld_eq` and `run_eq` carry the results to
the two loops of `Model/OOM.lean` (`allocOnce`, `iter` are `allocOnceV true`, `iterV true` by unfolding).
`allocOnceV` answers as `alloc_slow_once` does, with (non-null?, `thrown_oom` was set, events); `bodyV` is the loop body
after that answer, `iterV` one iteration, `runWith` the loop over any iteration function, `slowPathV` the loop from `State.init`. -/

def allocOnceV (fixed : Bool) (r : Req) (e : EnvRec) : Bool × Bool × List Event :=
  if r.obvious then
    (false, fixed || r.opts.allowOomCall, if r.opts.allowOomCall then [oomCall] else [])
  else if e.localHit then (true, false, [])
  else ((acquire r.opts e).1, false, (acquire r.opts e).2)

def bodyV (fixed : Bool) (r : Req) (e : EnvRec) (s : State) (a : Bool × Bool × List Event) : Step :=
  if a.1 then .ret .addr (s.trace ++ a.2.2)
  else if !r.opts.atSafepoint then .ret .null (s.trace ++ a.2.2)
  else if s.thrownOom || a.2.1 then .ret .null (s.trace ++ a.2.2)
  else if s.emergLocal && e.emergCheck && !e.succSeen then
    .ret .null (s.trace ++ a.2.2 ++ (if !fixed || r.opts.allowOomCall then [oomCall] else []))
  else .cont { thrownOom := false, emergLocal := e.emergRecord, trace := s.trace ++ a.2.2 }

def iterV (fixed : Bool) (r : Req) (e : EnvRec) (s : State) : Step :=
  bodyV fixed r e s (allocOnceV fixed r e)

def runWith (it : EnvRec → State → Step) : Nat → Env → State → Outcome
  | 0, _, s => .outOfFuel s.trace
  | fuel + 1, env, s =>
    match it (env 0) s with
    | .ret res tr => .done res tr
    | .cont s' => runWith it fuel env.tail s'

def slowPathV (fixed : Bool) (r : Req) (fuel : Nat) (env : Env) : Outcome :=
  runWith (iterV fixed r) fuel env State.init

theorem iterOld_eq (r : Req) (e : EnvRec) (s : State) : iterOld r e s = iterV false r e s := by
  unfold iterOld iterV allocOnceOld allocOnceV; cases r.opts.allowOomCall <;> rfl

theorem runOld_eq (r : Req) : ∀ fuel env s, runOld r fuel env s = runWith (iterV false r) fuel env s
  | 0, _, _ => rfl
  | f + 1, env, s => by
    unfold runOld runWith
    rw [iterOld_eq]
    cases iterV false r (env 0) s with
    | ret => rfl
    | cont s' => exact runOld_eq r f _ s'

theorem run_eq (r : Req) : ∀ fuel env s, run r fuel env s = runWith (iterV true r) fuel env s
  | 0, _, _ => rfl
  | f + 1, env, s => by
    unfold run runWith
    show (match iterV true r (env 0) s with | .ret res tr => _ | .cont s' => _) = _
    cases iterV true r (env 0) s with
    | ret => rfl
    | cont s' => exact run_eq r f _ s'

theorem slowPathOld_eq (r : Req) (fuel : Nat) (env : Env) :
    slowPathOld r fuel env = slowPathV false r fuel env := runOld_eq r fuel env _

theorem slowPath_eq (r : Req) (fuel : Nat) (env : Env) :
    slowPath r fuel env = slowPathV true r fuel env := run_eq r fuel env _

theorem allocOnceV_of_not_obvious (fixed : Bool) (r : Req) (e : EnvRec) (h : r.obvious = false) :
    allocOnceV fixed r e = if e.localHit then (true, false, [])
      else ((acquire r.opts e).1, false, (acquire r.opts e).2) := by
  simp [allocOnceV, h]

theorem allocOnceV_of_obvious (fixed : Bool) (r : Req) (e : EnvRec) (h : r.obvious = true) :
    allocOnceV fixed r e =
      (false, fixed || r.opts.allowOomCall, if r.opts.allowOomCall then [oomCall] else []) := by
  simp [allocOnceV, h]

theorem allocOnceV_nonobvious (fixed : Bool) (r : Req) (e : EnvRec) (h : r.obvious = false) :
    (allocOnceV fixed r e).2.1 = false ∧ oomCall ∉ (allocOnceV fixed r e).2.2 ∧
    (r.opts.atSafepoint = true → (allocOnceV fixed r e).1 = false →
      blockForGc ∈ (allocOnceV fixed r e).2.2) := by
  rw [allocOnceV_of_not_obvious fixed r e h]
  cases e.localHit
  · exact ⟨rfl, (acquire_spec _ _).1, fun hs hn => (acquire_spec _ _).2.1.2 ⟨hs, hn⟩⟩
  · simp

theorem allocOnceV_noblock (fixed : Bool) (r : Req) (e : EnvRec) (h : r.opts.atSafepoint = false) :
    blockForGc ∉ (allocOnceV fixed r e).2.2 := by
  cases ho : r.obvious
  · rw [allocOnceV_of_not_obvious fixed r e ho]
    cases e.localHit
    · exact fun hb => by rw [((acquire_spec _ e).2.1.1 hb).1] at h; cases h
    · simp
  · rw [allocOnceV_of_obvious fixed r e ho]; cases r.opts.allowOomCall <;> simp

theorem allocOnceV_disallowed (fixed : Bool) (r : Req) (e : EnvRec)
    (h : r.opts.allowOomCall = false) : oomCall ∉ (allocOnceV fixed r e).2.2 := by
  cases ho : r.obvious
  · exact (allocOnceV_nonobvious fixed r e ho).2.1
  · rw [allocOnceV_of_obvious fixed r e ho]; simp [h]

theorem allocOnceV_oom_thrown (fixed : Bool) (r : Req) (e : EnvRec) {t : List Event} (ht : oomCall ∉ t)
    (h : oomCall ∈ t ++ (allocOnceV fixed r e).2.2) :
    (allocOnceV fixed r e).1 = false ∧ (allocOnceV fixed r e).2.1 = true := by
  have h := (List.mem_append.1 h).resolve_left ht
  cases ho : r.obvious
  · exact absurd h (allocOnceV_nonobvious fixed r e ho).2.1
  · rw [allocOnceV_of_obvious fixed r e ho] at h ⊢
    cases hc : r.opts.allowOomCall <;> simp [hc] at h ⊢

theorem allocOnceV_overcommit (fixed : Bool) (r : Req) (e : EnvRec) (ho : r.obvious = false)
    (hc : r.opts.allowOvercommit = true) (hp : e.pagesOk = true) :
    (allocOnceV fixed r e).1 = true ∧ blockForGc ∉ (allocOnceV fixed r e).2.2 := by
  rw [allocOnceV_of_not_obvious fixed r e ho]
  cases e.localHit
  · have hok := (acquire_spec r.opts e).2.2.2 ⟨hp, .inr hc⟩
    exact ⟨hok, fun hb => by rw [((acquire_spec _ e).2.1.1 hb).2] at hok; cases hok⟩
  · simp

/-- What one iteration can do once `alloc_slow_once` has answered `a`: the exits of `bodyV` (`null` is both exits that
return zero with the trace as it is).  The clauses take an iteration apart through this (`iterV_sound`); the three lemmas
that compute a first iteration forward (`slowPathV_obvious`, `F6_diverges`, `slowPathV_overcommit`) unfold `bodyV` itself. -/
inductive Body (fixed : Bool) (r : Req) (e : EnvRec) (s : State) (a : Bool × Bool × List Event) : Step → Prop
  | addr : a.1 = true → Body fixed r e s a (.ret .addr (s.trace ++ a.2.2))
  | null : a.1 = false → r.opts.atSafepoint = false ∨ s.thrownOom = true ∨ a.2.1 = true →
      Body fixed r e s a (.ret .null (s.trace ++ a.2.2))
  | emerg : a.1 = false → r.opts.atSafepoint = true → s.emergLocal = true → e.emergCheck = true →
      e.succSeen = false → Body fixed r e s a
        (.ret .null (s.trace ++ a.2.2 ++ (if !fixed || r.opts.allowOomCall then [oomCall] else [])))
  | cont : a.1 = false → r.opts.atSafepoint = true → a.2.1 = false →
      ¬(s.emergLocal = true ∧ e.emergCheck = true ∧ e.succSeen = false) →
      Body fixed r e s a (.cont { thrownOom := false, emergLocal := e.emergRecord, trace := s.trace ++ a.2.2 })

theorem bodyV_sound (fixed : Bool) (r : Req) (e : EnvRec) (s : State) (a : Bool × Bool × List Event) :
    Body fixed r e s a (bodyV fixed r e s a) := by
  unfold bodyV
  cases h1 : a.1
  case true => exact .addr h1
  cases h2 : r.opts.atSafepoint
  case false => exact .null h1 (.inl h2)
  cases h3 : s.thrownOom
  case true => exact .null h1 (.inr (.inl h3))
  cases h4 : a.2.1
  case true => exact .null h1 (.inr (.inr h4))
  have h5' : (s.emergLocal && e.emergCheck && !e.succSeen) = true ↔
      s.emergLocal = true ∧ e.emergCheck = true ∧ e.succSeen = false := by
    rw [Bool.and_eq_true, Bool.and_eq_true, Bool.not_eq_true', and_assoc]
  by_cases h5 : s.emergLocal = true ∧ e.emergCheck = true ∧ e.succSeen = false
  · rw [if_pos (h5'.2 h5)]; exact .emerg h1 h2 h5.1 h5.2.1 h5.2.2
  · rw [if_neg (mt h5'.1 h5)]; exact .cont h1 h2 h4 h5

theorem iterV_sound {fixed : Bool} {r : Req} {e : EnvRec} {s : State} {st : Step} (h : iterV fixed r e s = st) :
    Body fixed r e s (allocOnceV fixed r e) st := h ▸ bodyV_sound ..

/-- `EP` is what each iteration's environment answers satisfy, `Inv` the loop invariant,
`Post` the claim about the outcome, `outOfFuel` included. -/
theorem runWith_induct (it : EnvRec → State → Step) (EP : EnvRec → Prop) (Inv : State → Prop)
    (Post : Outcome → Prop)
    (hfuel : ∀ s, Inv s → Post (.outOfFuel s.trace))
    (hret : ∀ e s res tr, EP e → Inv s → it e s = .ret res tr → Post (.done res tr))
    (hcont : ∀ e s s', EP e → Inv s → it e s = .cont s' → Inv s') :
    ∀ fuel (env : Env) s, (∀ n, EP (env n)) → Inv s → Post (runWith it fuel env s) := by
  intro fuel
  induction fuel with
  | zero => intro env s _ hi; exact hfuel s hi
  | succ n ih =>
    intro env s he hi
    unfold runWith
    cases hs : it (env 0) s with
    | ret res tr => exact hret _ _ _ _ (he 0) hi hs
    | cont s' => exact ih env.tail s' (fun n => he (n + 1)) (hcont _ _ _ (he 0) hi hs)

/-- "`out_of_memory` was called at most once, it is the last event, and `block_for_gc` was called
before it". -/
def OomAfterGc (t : List Event) : Prop :=
  oomCall ∈ t → ∃ pre, t = pre ++ [oomCall] ∧ oomCall ∉ pre ∧ blockForGc ∈ pre

/-- the loop invariant of `slowPathV_oomAfterGc`: no `out_of_memory` yet, and `emergency_collection` is set only after blocking -/
def OomInv (s : State) : Prop := oomCall ∉ s.trace ∧ (s.emergLocal = true → blockForGc ∈ s.trace)

theorem slowPathV_oomAfterGc (fixed : Bool) (r : Req) (fuel : Nat) (env : Env)
    (h : r.obvious = false) : OomAfterGc (slowPathV fixed r fuel env).trace := by
  refine runWith_induct (iterV fixed r) (fun _ => True) OomInv (fun o => OomAfterGc o.trace) ?_ ?_ ?_
    fuel env State.init (fun _ => trivial) ⟨List.not_mem_nil, nofun⟩
  · intro s hi hm; exact absurd hm hi.1
  · intro e s res tr _ hi hs
    obtain ⟨_, hno, _⟩ := allocOnceV_nonobvious fixed r e h
    have hpre : oomCall ∉ s.trace ++ (allocOnceV fixed r e).2.2 := by simp [hi.1, hno]
    cases iterV_sound hs with
    | addr | null => exact fun hm => absurd hm hpre
    | emerg _ _ hl =>
      cases (!fixed || r.opts.allowOomCall)
      · exact fun hm => absurd (by simpa [Outcome.trace] using hm) hpre
      · exact fun _ => ⟨_, rfl, hpre, List.mem_append_left _ (hi.2 hl)⟩
  · intro e s s' _ hi hs
    obtain ⟨_, hno, hb⟩ := allocOnceV_nonobvious fixed r e h
    cases iterV_sound hs with
    | cont ha hsp => exact ⟨by simp [hi.1, hno], fun _ => List.mem_append_right _ (hb hsp ha)⟩

/-- A request that is not obviously too large calls `out_of_memory` only
after this very request blocked for a collection; the call is the last event of the request and
happens at most once. -/
theorem old_oom_only_after_gc_or_obvious (r : Req) (fuel : Nat) (env : Env) (h : r.obvious = false) :
    OomAfterGc (slowPathOld r fuel env).trace := by
  rw [slowPathOld_eq]; exact slowPathV_oomAfterGc false r fuel env h

theorem oom_only_after_gc_or_obvious (r : Req) (fuel : Nat) (env : Env) (h : r.obvious = false) :
    OomAfterGc (slowPath r fuel env).trace := by
  rw [slowPath_eq]; exact slowPathV_oomAfterGc true r fuel env h

theorem slowPathV_oom_null (fixed : Bool) (r : Req) (fuel : Nat) (env : Env) (res : Res)
    (tr : List Event) (h : slowPathV fixed r fuel env = .done res tr) (hm : oomCall ∈ tr) :
    res = .null := by
  -- `out_of_memory` inside `alloc_slow_once` sets `thrown_oom`, so the iteration returns null
  refine runWith_induct (iterV fixed r) (fun _ => True) (fun s => oomCall ∉ s.trace)
    (fun o => o = .done res tr → res = .null) ?_ ?_ ?_ fuel env State.init
    (fun _ => trivial) List.not_mem_nil h
  · intro s _ h; cases h
  · intro e s res' tr' _ hi hs heq
    cases heq
    cases iterV_sound hs with
    | addr ha => rw [(allocOnceV_oom_thrown fixed r e hi hm).1] at ha; cases ha
    | null | emerg => rfl
  · intro e s s' _ hi hs
    cases iterV_sound hs with
    | cont _ _ ht => intro hm; rw [(allocOnceV_oom_thrown fixed r e hi hm).2] at ht; cases ht

/-- If `out_of_memory` was called for the request, the request returns null. -/
theorem old_oom_returns_null (r : Req) (fuel : Nat) (env : Env) (res : Res) (tr : List Event)
    (h : slowPathOld r fuel env = .done res tr) (hm : oomCall ∈ tr) : res = .null :=
  slowPathV_oom_null false r fuel env res tr (slowPathOld_eq r fuel env ▸ h) hm

theorem oom_returns_null (r : Req) (fuel : Nat) (env : Env) (res : Res) (tr : List Event)
    (h : slowPath r fuel env = .done res tr) (hm : oomCall ∈ tr) : res = .null :=
  slowPathV_oom_null true r fuel env res tr (slowPath_eq r fuel env ▸ h) hm

/-! ## Never `out_of_memory` when `allow_oom_call = false`

Full statement (FALSE for `slowPathOld`, see `F5_witness`):
`∀ r fuel env, r.opts.allowOomCall = false → oomCall ∉ (slowPathOld r fuel env).trace`. -/

/-- The environment of the F5 witness: the heap is full of live data, every `poll` asks for a GC,
and from the second GC on the collection is an emergency collection that frees nothing. -/
def envF5 : Env := fun _ =>
  { localHit := false, pollGc := true, pagesOk := false, emergCheck := true, succSeen := false,
    emergRecord := true }

def reqF5 : Req :=
  { opts := { allowOvercommit := false, atSafepoint := true, allowOomCall := false }, obvious := false }

/-- **F5**, before the `fix:` commit: `allow_oom_call = false` (at a safepoint, not obviously too
large), and the loop calls `Collection::out_of_memory` in its second iteration
(allocator.rs, emergency branch: `self.out_of_memory(tls)` is not guarded by the option). -/
theorem F5_witness :
    slowPathOld reqF5 2 envF5
      = .done .null [gcRequested, blockForGc, gcRequested, blockForGc, oomCall] := rfl

theorem old_no_oom_call_when_disallowed_FAILS :
    ¬ (∀ (r : Req) (fuel : Nat) (env : Env), r.opts.allowOomCall = false →
        oomCall ∉ (slowPathOld r fuel env).trace) := by
  intro h
  have := h reqF5 2 envF5 rfl
  rw [F5_witness] at this
  simp [Outcome.trace] at this

/-- With `allow_oom_call = false` the only `out_of_memory` a request can reach is the emergency exit
of the loop before the `fix:` commit: none for `fixed = true`, none if `fail_with_oom` is never true. -/
theorem slowPathV_no_oom_call (fixed : Bool) (r : Req) (fuel : Nat) (env : Env)
    (h : r.opts.allowOomCall = false)
    (hem : fixed = true ∨ ∀ n, (env n).emergCheck = false ∨ (env n).succSeen = true) :
    oomCall ∉ (slowPathV fixed r fuel env).trace := by
  refine runWith_induct (iterV fixed r)
    (fun e => fixed = true ∨ e.emergCheck = false ∨ e.succSeen = true)
    (fun s => oomCall ∉ s.trace) (fun o => oomCall ∉ o.trace) (fun _ hi => hi) ?_ ?_ fuel env
    State.init (fun n => hem.imp_right (· n)) List.not_mem_nil
  · intro e s res tr he hi hs
    have hno := allocOnceV_disallowed fixed r e h
    cases iterV_sound hs with
    | addr | null => simp [Outcome.trace, hi, hno]
    | emerg _ _ _ h1 h2 =>
      rcases he with rfl | he
      · simp [Outcome.trace, hi, hno, h]
      · simp [h1, h2] at he
  · intro e s s' _ hi hs
    have hno := allocOnceV_disallowed fixed r e h
    cases iterV_sound hs with
    | cont => simp [hi, hno]

/-- Partial, for `slowPathOld`; extra hypothesis: the emergency branch never
sees "emergency collection and no allocation success" (`fail_with_oom` is never true). -/
theorem old_no_oom_call_when_disallowed_partial (r : Req) (fuel : Nat) (env : Env)
    (h : r.opts.allowOomCall = false)
    (hem : ∀ n, (env n).emergCheck = false ∨ (env n).succSeen = true) :
    oomCall ∉ (slowPathOld r fuel env).trace := by
  rw [slowPathOld_eq]; exact slowPathV_no_oom_call false r fuel env h (.inr hem)

theorem no_oom_call_when_disallowed (r : Req) (fuel : Nat) (env : Env)
    (h : r.opts.allowOomCall = false) : oomCall ∉ (slowPath r fuel env).trace := by
  rw [slowPath_eq]; exact slowPathV_no_oom_call true r fuel env h (.inl rfl)

/-! ## Requests larger than the maximum heap fail immediately

Full statement (FALSE for `slowPathOld`, see `F6_witness_diverges`):
`∀ r fuel env, r.obvious = true → ∃ tr, slowPathOld r (fuel+1) env = .done .null tr`. -/

theorem slowPathV_obvious (fixed : Bool) (r : Req) (fuel : Nat) (env : Env) (h : r.obvious = true)
    (hc : (fixed || r.opts.allowOomCall) = true ∨ r.opts.atSafepoint = false) :
    slowPathV fixed r (fuel + 1) env
      = .done .null (if r.opts.allowOomCall then [oomCall] else []) := by
  unfold slowPathV runWith iterV
  rw [allocOnceV_of_obvious fixed r _ h]
  unfold bodyV
  rcases hc with hc | hc
  · cases hs : r.opts.atSafepoint <;> simp [hc, State.init]
  · simp [hc, State.init]

/-- Partial, for `slowPathOld`.  With `allow_oom_call` or off a safepoint the request
fails in its first iteration, without any collection, calling `out_of_memory` iff allowed. -/
theorem old_obvious_fails_immediately_partial (r : Req) (fuel : Nat) (env : Env) (h : r.obvious = true)
    (hc : r.opts.allowOomCall = true ∨ r.opts.atSafepoint = false) :
    slowPathOld r (fuel + 1) env = .done .null (if r.opts.allowOomCall then [oomCall] else []) := by
  rw [slowPathOld_eq]; exact slowPathV_obvious false r fuel env h hc

/-- **F6**, before the `fix:` commit, for EVERY environment that does not report an emergency
collection: an obviously-too-large request with `allow_oom_call = false` at a safepoint never
leaves the loop, never blocks and never calls anything. -/
theorem F6_diverges (r : Req) (h : r.obvious = true) (hc : r.opts.allowOomCall = false)
    (hs : r.opts.atSafepoint = true) (env : Env) (he : ∀ n, (env n).emergRecord = false) :
    ∀ fuel, slowPathOld r fuel env = .outOfFuel [] := by
  intro fuel
  have hit : ∀ e, e.emergRecord = false → iterV false r e State.init = .cont State.init := by
    intro e hee
    rw [iterV, allocOnceV_of_obvious false r e h]
    simp [bodyV, hc, hs, State.init, hee]
  rw [slowPathOld_eq]
  refine runWith_induct (iterV false r) (fun e => e.emergRecord = false)
    (fun s => s = State.init) (fun o => o = .outOfFuel []) ?_ ?_ ?_ fuel env State.init he rfl
  · rintro s rfl; rfl
  · rintro e s res tr hee rfl hr
    rw [hit e hee] at hr; cases hr
  · rintro e s s' hee rfl hr
    rw [hit e hee] at hr; cases hr; rfl

/-- The environment of the F6 witness: nothing ever happens (no GC, no emergency). -/
def envQuiet : Env := fun _ =>
  { localHit := false, pollGc := false, pagesOk := true, emergCheck := false, succSeen := true,
    emergRecord := false }

/-- The request of DESIGN §7 F6 / HX_GC.md F-F: size > max heap, `{overcommit=0, safepoint=1,
oomcall=0}`. -/
def reqF6 : Req :=
  { opts := { allowOvercommit := false, atSafepoint := true, allowOomCall := false }, obvious := true }

theorem F6_witness_diverges : ∀ fuel, slowPathOld reqF6 fuel envQuiet = .outOfFuel [] :=
  F6_diverges reqF6 rfl rfl rfl envQuiet (fun _ => rfl)

theorem old_obvious_fails_immediately_FAILS :
    ¬ (∀ (r : Req) (fuel : Nat) (env : Env), r.obvious = true →
        ∃ tr, slowPathOld r (fuel + 1) env = .done .null tr) := by
  intro h
  obtain ⟨tr, ht⟩ := h reqF6 0 envQuiet rfl
  rw [F6_witness_diverges] at ht
  cases ht

/-- Fails in the first iteration, for all options. -/
theorem obvious_fails_immediately (r : Req) (fuel : Nat) (env : Env) (h : r.obvious = true) :
    slowPath r (fuel + 1) env = .done .null (if r.opts.allowOomCall then [oomCall] else []) := by
  rw [slowPath_eq]; exact slowPathV_obvious true r fuel env h (.inl rfl)

theorem slowPathV_no_block (fixed : Bool) (r : Req) (fuel : Nat) (env : Env)
    (h : r.opts.atSafepoint = false) : blockForGc ∉ (slowPathV fixed r fuel env).trace := by
  refine runWith_induct (iterV fixed r) (fun _ => True) (fun s => blockForGc ∉ s.trace)
    (fun o => blockForGc ∉ o.trace) (fun _ hi => hi) ?_ ?_ fuel env State.init (fun _ => trivial)
    List.not_mem_nil
  · intro e s res tr _ hi hs
    have hno := allocOnceV_noblock fixed r e h
    cases iterV_sound hs with
    | addr | null => simp [Outcome.trace, hi, hno]
    | emerg _ hsp => rw [h] at hsp; cases hsp
  · intro e s s' _ hi hs
    cases iterV_sound hs with
    | cont _ hsp => rw [h] at hsp; cases hsp

theorem slowPathV_one_attempt (fixed : Bool) (r : Req) (fuel : Nat) (env : Env)
    (h : r.opts.atSafepoint = false) : (slowPathV fixed r (fuel + 1) env).isDone = true := by
  unfold slowPathV runWith
  cases hs : iterV fixed r (env 0) State.init with
  | ret res tr => rfl
  | cont s' => cases iterV_sound hs with | cont _ hsp => rw [h] at hsp; cases hsp

theorem old_no_block_when_not_safepoint (r : Req) (fuel : Nat) (env : Env)
    (h : r.opts.atSafepoint = false) : blockForGc ∉ (slowPathOld r fuel env).trace := by
  rw [slowPathOld_eq]; exact slowPathV_no_block false r fuel env h

theorem old_not_safepoint_one_attempt (r : Req) (fuel : Nat) (env : Env)
    (h : r.opts.atSafepoint = false) : (slowPathOld r (fuel + 1) env).isDone = true := by
  rw [slowPathOld_eq]; exact slowPathV_one_attempt false r fuel env h

theorem no_block_when_not_safepoint (r : Req) (fuel : Nat) (env : Env)
    (h : r.opts.atSafepoint = false) : blockForGc ∉ (slowPath r fuel env).trace := by
  rw [slowPath_eq]; exact slowPathV_no_block true r fuel env h

theorem not_safepoint_one_attempt (r : Req) (fuel : Nat) (env : Env)
    (h : r.opts.atSafepoint = false) : (slowPath r (fuel + 1) env).isDone = true := by
  rw [slowPath_eq]; exact slowPathV_one_attempt true r fuel env h

/-! ## `allow_overcommit` gets pages without blocking

What the code promises (`Space::acquire`): with `allow_overcommit` the answer of `poll` does not
stop the request from taking pages. It does NOT promise success when the page resource itself
cannot deliver (`get_new_pages_and_initialize` returns `None`: address space of the space
exhausted — then the request behaves like a normal one and may block), nor for a single
request larger than the whole heap (`handle_obvious_oom_request` runs before `acquire`).
Both are explicit hypotheses. -/

theorem slowPathV_overcommit (fixed : Bool) (r : Req) (fuel : Nat) (env : Env)
    (hc : r.opts.allowOvercommit = true) (ho : r.obvious = false) (hp : (env 0).pagesOk = true) :
    ∃ tr, slowPathV fixed r (fuel + 1) env = .done .addr tr ∧ blockForGc ∉ tr ∧ oomCall ∉ tr := by
  obtain ⟨hok, hnb⟩ := allocOnceV_overcommit fixed r (env 0) ho hc hp
  refine ⟨_, ?_, hnb, (allocOnceV_nonobvious fixed r (env 0) ho).2.1⟩
  unfold slowPathV runWith iterV bodyV
  simp [hok, State.init]

theorem old_overcommit_gets_pages (r : Req) (fuel : Nat) (env : Env)
    (hc : r.opts.allowOvercommit = true) (ho : r.obvious = false) (hp : (env 0).pagesOk = true) :
    ∃ tr, slowPathOld r (fuel + 1) env = .done .addr tr ∧ blockForGc ∉ tr ∧ oomCall ∉ tr := by
  rw [slowPathOld_eq]; exact slowPathV_overcommit false r fuel env hc ho hp

theorem overcommit_gets_pages (r : Req) (fuel : Nat) (env : Env)
    (hc : r.opts.allowOvercommit = true) (ho : r.obvious = false) (hp : (env 0).pagesOk = true) :
    ∃ tr, slowPath r (fuel + 1) env = .done .addr tr ∧ blockForGc ∉ tr ∧ oomCall ∉ tr := by
  rw [slowPath_eq]; exact slowPathV_overcommit true r fuel env hc ho hp

/-! ## Termination

Environment assumption ("every blocking GC returns" is built in: `block_for_gc` is an event, the
environment always answers; and) **after finitely many GCs either memory is found or the emergency
flag is raised**: there is an iteration `n` in which `alloc_slow_once` succeeds, or in which the
collection that just ran is reported as an emergency collection and the next iteration sees the
flag still set with no allocation success in between. (`GlobalState::set_collection_kind` raises
the flag at the second consecutive collection without allocation success when the last collection
was exhaustive and the heap cannot grow.)  `Progress r env n` says this of iteration `n`; `Succeeds` is its first disjunct. -/

def Succeeds (r : Req) (e : EnvRec) : Prop := (allocOnce r e).1 = true

def Progress (r : Req) (env : Env) (n : Nat) : Prop :=
  Succeeds r (env n) ∨
  ((env n).emergRecord = true ∧ (env (n + 1)).emergCheck = true ∧ (env (n + 1)).succSeen = false)

theorem allocOnceV_fst (fixed : Bool) (r : Req) (e : EnvRec) :
    (allocOnceV fixed r e).1 = (allocOnce r e).1 := by
  unfold allocOnceV allocOnce; cases r.obvious <;> rfl

theorem run_done_of_progress (fixed : Bool) (r : Req) :
    ∀ (d : Nat) (env : Env) (s : State), Progress r env d →
      ∀ f, (runWith (iterV fixed r) (f + d + 2) env s).isDone = true := by
  intro d
  induction d with
  | zero =>
    intro env s hp f
    unfold runWith
    cases hs : iterV fixed r (env 0) s with
    | ret res tr => rfl
    | cont s' =>
      cases iterV_sound hs with | cont ha =>
      rcases hp with hp | ⟨h1, h2, h3⟩
      · rw [allocOnceV_fst] at ha; exact absurd (hp.symm.trans ha) nofun
      · -- the second iteration sees `emergency_collection` set by the first and leaves
        show (runWith (iterV fixed r) (f + 1) env.tail _).isDone = true
        unfold runWith
        cases hs2 : iterV fixed r (env.tail 0) _ with
        | ret res tr => rfl
        | cont s'' => cases iterV_sound hs2 with | cont _ _ _ hne => exact absurd ⟨h1, h2, h3⟩ hne
  | succ d ih =>
    intro env s hp f
    unfold runWith
    cases hs : iterV fixed r (env 0) s with
    | ret res tr => rfl
    | cont s' => exact ih env.tail s' hp f

/-- Termination of the loop under the GC-progress assumption: with progress at iteration `n` the
request returns within `n + 2` iterations. -/
theorem terminates (r : Req) (env : Env) (n : Nat) (hp : Progress r env n) :
    ∀ fuel, n + 2 ≤ fuel → (slowPath r fuel env).isDone = true := by
  intro fuel hf
  obtain ⟨f, rfl⟩ := Nat.exists_eq_add_of_le' hf
  exact slowPath_eq r _ env ▸ run_done_of_progress true r n env State.init hp f

/-- An obviously-too-large request needs no assumption: it returns in its first iteration. -/
theorem terminates_obvious (r : Req) (env : Env) (h : r.obvious = true) :
    ∀ fuel, 1 ≤ fuel → (slowPath r fuel env).isDone = true := by
  intro fuel hf
  obtain ⟨f, rfl⟩ := Nat.exists_eq_add_of_le' hf
  rw [obvious_fails_immediately r f env h]; rfl

/-! ## The hypotheses are satisfiable; concrete runs

Most of the runs below are runs of `slowPathOld`; none of them reaches one of the two places where the
loops differ (they need `allow_oom_call = false` together with an obvious request or the emergency exit). -/

/-- Default options, heap full: two GCs (the second an emergency collection), then
`out_of_memory` and null — `oom_only_after_gc_or_obvious` is not vacuous. -/
example : slowPathOld { opts := Opts.default, obvious := false } 5 envF5
    = .done .null [gcRequested, blockForGc, gcRequested, blockForGc, oomCall] := rfl

/-- Default options, a GC frees memory: blocked once, then pages are granted. -/
example : slowPathOld { opts := Opts.default, obvious := false } 5
    (Env.ofList [{ localHit := false, pollGc := true, pagesOk := true, emergCheck := false,
                   succSeen := true, emergRecord := false }]
      { localHit := false, pollGc := false, pagesOk := true, emergCheck := false, succSeen := true,
        emergRecord := false })
    = .done .addr [gcRequested, blockForGc, pagesGranted] := rfl

/-- Overcommit does not help when the page resource itself fails: forced GC, blocking, OOM. -/
example : slowPathOld { opts := { allowOvercommit := true, atSafepoint := true, allowOomCall := true }, obvious := false } 2 envF5
    = .done .null [gcRequested, forcedGc, blockForGc, gcRequested, forcedGc, blockForGc, oomCall] := rfl

/-- Overcommit: `poll` asks for a GC, pages are taken anyway, no blocking. -/
example : slowPathOld { opts := { allowOvercommit := true, atSafepoint := false, allowOomCall := false }, obvious := false } 1
    (fun _ => { localHit := false, pollGc := true, pagesOk := true, emergCheck := true,
                succSeen := false, emergRecord := true })
    = .done .addr [gcRequested, pagesGranted] := rfl

/-- Off a safepoint, heap full: null, `poll` requested a GC, nobody blocked. -/
example : slowPathOld { opts := { allowOvercommit := false, atSafepoint := false, allowOomCall := true }, obvious := false } 3 envF5 = .done .null [gcRequested] := rfl

/-- Obviously too large with default options: `out_of_memory`, null, no GC. -/
example : slowPathOld { opts := Opts.default, obvious := true } 1 envQuiet = .done .null [oomCall] := rfl

/-- `slowPath` on the two witnesses. -/
example : slowPath reqF6 1 envQuiet = .done .null [] := rfl
example : slowPath { opts := { allowOvercommit := false, atSafepoint := true, allowOomCall := false }, obvious := false } 2 envF5
    = .done .null [gcRequested, blockForGc, gcRequested, blockForGc] := rfl

/-- `Progress` holds for the F6 request in the F5 environment (emergency flag raised at iteration 0). -/
example : Progress reqF6 envF5 0 := .inr ⟨rfl, rfl, rfl⟩

/-- The hypothesis of `old_no_oom_call_when_disallowed_partial` is satisfiable by an environment in
which GCs do happen (and the loop then blocks forever: the GC-progress assumption fails). -/
def envNoFail : Env := fun _ =>
  { localHit := false, pollGc := true, pagesOk := false, emergCheck := true, succSeen := true,
    emergRecord := true }
example : ∀ n, (envNoFail n).emergCheck = false ∨ (envNoFail n).succSeen = true := fun _ => .inr rfl
example : slowPathOld reqF5 2 envNoFail = .outOfFuel [gcRequested, blockForGc, gcRequested, blockForGc] := rfl

end Mmtk.OOM
