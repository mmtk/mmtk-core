import MmtkModel.Props.C29
/-!
# C29 (page-resource layer) — `head_is_list_head` as a history invariant

Every discontiguous space has a `CommonPageResource` with its own `head_discontiguous_region`
(`PR.heads sp`); all of them share the VM map (`PR.st`).  `PG` = the oracle's bookkeeping at this level:
C29's `G` plus, per space, the list of the region starts it owns, most recently acquired first.

`PInv lo hi pg p`: C29's `Inv` for the shared map, the owned lists are exactly the non-empty lists of
`Map32`'s bookkeeping, no region is owned twice, and **the page resource's own head of every space is
the head of the list of the regions that space owns** (`head_is_list_head`).

It is preserved by `grow_discontiguous_space`, `release_discontiguous_chunks` and `release_all_chunks`,
none of which panics under it; hence after every history (`POp`, `pstep`, `prun`) from the finalised
state: `head_is_list_head`, `pr_history_walk` (walking `get_next_contiguous_region` from the REAL head
visits exactly the regions the space owns), `pr_history_owned_regions`.
`POp`/`pstep`/`prun` are C29's `Op`/`step`/`run` one level up: an operation names the space, and the head
handed to the map is the one the page resource keeps.  Each case of a step rests on C29's lemma for the
map operation it calls; no theorem turns a `prun` history into a `run` history.

That the head passed to `allocate_contiguous_chunks` is a list head (a hypothesis in C29) is here a
consequence of the invariant.

A `decide`-checked witness: the swapped order of `release_discontiguous_chunks` (`PR.releaseSwapped`: free
first, read the successor afterwards) loses the list.
-/
namespace Mmtk.Map32

/-- What each space owns: its region starts, most recently acquired first (the Python oracle's
bookkeeping), on top of the bookkeeping `g` of the shared `Map32`. -/
structure PG where
  g : G := {}
  owned : Nat → List Nat := fun _ => []

/-- `grow_discontiguous_space` of space `sp` returned `c`; `head` = the space's head before the call. -/
def PG.grow (pg : PG) (sp d k head c : Nat) : PG :=
  if c = 0 then pg else
    { g := pg.g.alloc d k head c, owned := fun s => if s = sp then c :: pg.owned sp else pg.owned s }

/-- `release_discontiguous_chunks(c)`. -/
def PG.release (pg : PG) (c : Nat) : PG :=
  { g := pg.g.free c, owned := fun s => (pg.owned s).filter (· != c) }

/-- `release_all_chunks()` of space `sp`; `head` = the space's head before the call. -/
def PG.releaseAll (pg : PG) (sp head : Nat) : PG :=
  { g := pg.g.freeAll head, owned := fun s => if s = sp then [] else pg.owned s }

theorem PG.grow_zero (pg : PG) (sp d k head : Nat) : pg.grow sp d k head 0 = pg := if_pos rfl

theorem PG.grow_of_ne_zero (pg : PG) (sp d k head : Nat) {c : Nat} (hc : c ≠ 0) :
    pg.grow sp d k head c =
      { g := pg.g.alloc d k head c, owned := fun s => if s = sp then c :: pg.owned sp else pg.owned s } :=
  if_neg hc

/-- `owned_mem` / `lists_owned`: what the spaces own are exactly the NON-EMPTY lists of the shared map's
bookkeeping (`G.free` filters a list and leaves an emptied one behind as `[]`, and a space that owns
nothing has no list).  `head_is_list_head` is the claim; the other fields are what its preservation needs. -/
structure PInv (lo hi : Nat) (pg : PG) (p : PR) : Prop where
  inv : Inv lo hi pg.g p.st
  owned_mem : ∀ sp, pg.owned sp ≠ [] → pg.owned sp ∈ pg.g.lists
  lists_owned : ∀ l ∈ pg.g.lists, l ≠ [] → ∃ sp, pg.owned sp = l
  owned_disj : ∀ sp sp' x, x ∈ pg.owned sp → x ∈ pg.owned sp' → sp = sp'
  head_is_list_head : ∀ sp, p.heads sp = (pg.owned sp).headD 0

theorem PInv.owned_flat {lo hi : Nat} {pg : PG} {p : PR} (hP : PInv lo hi pg p) {sp x : Nat}
    (hx : x ∈ pg.owned sp) : x ∈ pg.g.lists.flatten :=
  List.mem_flatten.2 ⟨_, hP.owned_mem sp (List.ne_nil_of_mem hx), hx⟩

theorem PInv.owned_cases {lo hi : Nat} {pg : PG} {p : PR} (hP : PInv lo hi pg p) (sp : Nat) :
    (pg.owned sp = [] ∧ p.heads sp = 0) ∨
      ∃ a t, pg.owned sp = a :: t ∧ p.heads sp = a ∧ a :: t ∈ pg.g.lists := by
  have hhd := hP.head_is_list_head sp
  cases h : pg.owned sp with
  | nil => rw [h] at hhd; exact Or.inl ⟨rfl, hhd⟩
  | cons a t =>
    rw [h] at hhd
    exact Or.inr ⟨a, t, rfl, hhd, h ▸ hP.owned_mem sp (h ▸ List.cons_ne_nil a t)⟩

/-- The head a page resource passes to `allocate_contiguous_chunks` is `0` or the head of a list: the
protocol hypothesis of C29's `inv_allocate` is a consequence of the invariant. -/
theorem PInv.head_ok {lo hi : Nat} {pg : PG} {p : PR} (hP : PInv lo hi pg p) (sp : Nat) :
    p.heads sp = 0 ∨ ∃ l ∈ pg.g.lists, l.head? = some (p.heads sp) := by
  rcases hP.owned_cases sp with ⟨-, h0⟩ | ⟨a, t, -, ha, hm⟩
  · exact Or.inl h0
  · exact Or.inr ⟨_, hm, by rw [ha]; rfl⟩

theorem PInv.releaseAll_pre {lo hi : Nat} {pg : PG} {p : PR} (hP : PInv lo hi pg p) {sp : Nat}
    (hlen : (pg.owned sp).length ≤ 4096 + 1) :
    p.heads sp = 0 ∨ ∃ l ∈ pg.g.lists, p.heads sp ∈ l ∧ l.length ≤ 4096 + 1 := by
  rcases hP.owned_cases sp with ⟨-, h0⟩ | ⟨a, t, e, ha, hm⟩
  · exact Or.inl h0
  · rw [e] at hlen
    exact Or.inr ⟨_, hm, ha ▸ List.mem_cons_self .., hlen⟩

theorem PInv.freeAll_head {lo hi : Nat} {pg : PG} {p : PR} (hP : PInv lo hi pg p) (sp : Nat) :
    pg.g.freeAll (p.heads sp) = pg.g.freeSet (pg.owned sp) := by
  rcases hP.owned_cases sp with ⟨e, h0⟩ | ⟨a, t, e, ha, hm⟩
  · rw [e, h0, G.freeSet_nil]; exact G.freeAll_zero hP.inv
  · rw [e, ha]; exact G.freeAll_eq hP.inv hm (List.mem_cons_self ..)

/-- `release_discontiguous_chunks` filters one chunk out of every list, `release_all_chunks` the chunks of one
space: the owned lists stay the non-empty lists of the map. -/
theorem PInv.filter {lo hi : Nat} {pg : PG} {p : PR} (hP : PInv lo hi pg p) (q : Nat → Bool) {pg' : PG}
    (hl : pg'.g.lists = pg.g.lists.map (·.filter q)) (ho : ∀ s, pg'.owned s = (pg.owned s).filter q) :
    (∀ sp, pg'.owned sp ≠ [] → pg'.owned sp ∈ pg'.g.lists) ∧
    (∀ l ∈ pg'.g.lists, l ≠ [] → ∃ sp, pg'.owned sp = l) ∧
    (∀ sp sp' x, x ∈ pg'.owned sp → x ∈ pg'.owned sp' → sp = sp') := by
  refine ⟨fun s hs => ?_, fun l' hl' hne => ?_, fun s s' x hx hx' => ?_⟩
  · rw [ho] at hs ⊢
    rw [hl, List.mem_map]
    exact ⟨_, hP.owned_mem s fun e => hs (by rw [e]; rfl), rfl⟩
  · rw [hl, List.mem_map] at hl'
    obtain ⟨l, hlm, rfl⟩ := hl'
    obtain ⟨s, hs⟩ := hP.lists_owned l hlm (by rintro rfl; exact hne rfl)
    exact ⟨s, by rw [ho, hs]⟩
  · rw [ho] at hx hx'
    exact hP.owned_disj s s' x (List.mem_filter.1 hx).1 (List.mem_filter.1 hx').1

theorem pinv_init {M first last : Nat} (h1 : 0 < first) (h2 : first ≤ last) (h3 : last < M) :
    PInv first (last + 1) {} { st := finalize M first last } :=
  ⟨inv_init h1 h2 h3, fun _ h => absurd rfl h, fun _ hl => (by cases hl),
   fun _ _ _ hx => (by cases hx), fun _ => rfl⟩

/-- `grow_discontiguous_space` of `sp` returned `c` (`0` = exhausted, nothing changes): `c` goes in front
of what `sp` owns.  `allocate` pushes `c` on the list headed by `p.heads sp`; by `head_is_list_head` that
is `sp`'s own list, or no list at all when `sp` owns nothing (no list has head `0`). -/
theorem pinv_grow {lo hi : Nat} {pg : PG} {p p' : PR} {debug : Bool} {sp d k c : Nat}
    (hP : PInv lo hi pg p) (hk : 1 ≤ k) (h : p.grow debug sp d k = (p', .val c)) :
    PInv lo hi (pg.grow sp d k (p.heads sp) c) p' := by
  obtain ⟨hal, hheads⟩ := PR.grow_val h
  have hI' := inv_allocate hP.inv hk (hP.head_ok sp) hal
  by_cases hc : c = 0
  · subst hc
    rw [PG.grow_zero]
    rw [G.alloc_zero] at hI'
    rw [if_pos rfl] at hheads
    exact ⟨hI', hP.owned_mem, hP.lists_owned, hP.owned_disj,
      fun s => by rw [hheads]; exact hP.head_is_list_head s⟩
  · have hga := pg.g.alloc_of_ne_zero d k (p.heads sp) hc
    rw [PG.grow_of_ne_zero _ _ _ _ _ hc]
    rw [if_neg hc] at hheads
    have hnd := hP.inv.links_exact.1
    have hnd' : (pushList c (p.heads sp) pg.g.lists).flatten.Nodup := by
      have := hI'.links_exact.1; rw [hga] at this; exact this
    have hcnot : c ∉ pg.g.lists.flatten := by
      rw [(pushList_perm c (p.heads sp) pg.g.lists).nodup_iff, List.nodup_cons] at hnd'; exact hnd'.1
    have hcown : ∀ s, c ∉ pg.owned s := fun s m => hcnot (hP.owned_flat m)
    have hlists : ∀ l', l' ≠ [] → (l' ∈ pushList c (p.heads sp) pg.g.lists ↔
        l' = c :: pg.owned sp ∨ (l' ∈ pg.g.lists ∧ l' ≠ pg.owned sp)) := by
      intro l' hne
      rcases hP.owned_cases sp with ⟨e, h0⟩ | ⟨a, t, e, ha, hm⟩
      · rw [e, pushList_nohead fun l hl => by rw [h0]; exact hP.inv.head?_ne_zero hl, List.mem_append,
          List.mem_singleton, or_comm]
        exact or_congr_right ⟨fun m => ⟨m, hne⟩, fun m => m.1⟩
      · rw [e]
        exact mem_pushList_of_head hnd hm (by rw [ha]; rfl)
    refine ⟨hI', ?_, ?_, ?_, ?_⟩
    · intro s hs
      dsimp only at hs ⊢
      rw [hga]
      by_cases hs' : s = sp
      · rw [if_pos hs']; exact (hlists _ (List.cons_ne_nil _ _)).2 (Or.inl rfl)
      · rw [if_neg hs'] at hs ⊢
        refine (hlists _ hs).2 (Or.inr ⟨hP.owned_mem s hs, fun e => ?_⟩)
        obtain ⟨x, hx⟩ := List.exists_mem_of_ne_nil _ hs
        exact hs' (hP.owned_disj s sp x hx (e ▸ hx))
    · intro l' hl' hne
      dsimp only at hl' ⊢
      rw [hga] at hl'
      rcases (hlists l' hne).1 hl' with e | ⟨hl, hne2⟩
      · exact ⟨sp, by rw [if_pos rfl, e]⟩
      · obtain ⟨s, hs⟩ := hP.lists_owned l' hl hne
        refine ⟨s, ?_⟩
        rw [if_neg]
        · exact hs
        · intro e; rw [e] at hs; exact hne2 hs.symm
    · intro s s' x hx hx'
      dsimp only at hx hx'
      by_cases h1 : s = sp <;> by_cases h2 : s' = sp
      · rw [h1, h2]
      · rw [if_pos h1] at hx; rw [if_neg h2] at hx'
        rcases List.mem_cons.1 hx with e | m
        · exact absurd (e ▸ hx') (hcown s')
        · rw [h1]; exact hP.owned_disj sp s' x m hx'
      · rw [if_neg h1] at hx; rw [if_pos h2] at hx'
        rcases List.mem_cons.1 hx' with e | m
        · exact absurd (e ▸ hx) (hcown s)
        · rw [h2]; exact hP.owned_disj s sp x hx m
      · rw [if_neg h1] at hx; rw [if_neg h2] at hx'
        exact hP.owned_disj s s' x hx hx'
    · intro s
      rw [hheads]
      dsimp only
      by_cases hs : s = sp
      · rw [if_pos hs]; simp [upd, hs]
      · rw [if_neg hs]; simp only [upd, if_neg hs]; exact hP.head_is_list_head s

/-- Under the invariant `grow_discontiguous_space` (with `chunks ≥ 1`) hits no assertion. -/
theorem grow_ok {lo hi : Nat} {pg : PG} {p : PR} (hP : PInv lo hi pg p) (debug : Bool) (sp d : Nat) {k : Nat}
    (hk : 1 ≤ k) : ∃ p' c, p.grow debug sp d k = (p', .val c) := by
  obtain ⟨st', c, hal⟩ := allocate_ok hP.inv debug d hk (hP.head_ok sp)
  unfold PR.grow
  rw [hal]
  dsimp only
  split <;> exact ⟨_, _, rfl⟩

/-- `release_discontiguous_chunks(c)` by the owner of `c`.  The lists lose `c` (`PInv.filter`); for the head
field the one case with content is `c` = the head of `sp`: the code reads the successor of `c` before the
free, and in a linked list that is the second element of what `sp` owns. -/
theorem pinv_release {lo hi : Nat} {pg : PG} {p p' : PR} {debug : Bool} {sp c : Nat}
    (hP : PInv lo hi pg p) (hc : c ∈ pg.owned sp) (h : p.release debug sp c = some p') :
    PInv lo hi (pg.release c) p' := by
  obtain ⟨n, hfree, hheads⟩ := PR.release_spec h
  obtain ⟨r, hr, rfl⟩ := (hP.inv.links_exact.2.1 c).1 (hP.owned_flat hc)
  obtain ⟨f1, f2, f3⟩ := hP.filter (· != r.start) (pg' := pg.release r.start) (G.free_lists pg.g r.start)
    fun _ => rfl
  refine ⟨(inv_free hP.inv hr hfree).2, f1, f2, f3, fun s => ?_⟩
  show p'.heads s = ((pg.owned s).filter (· != r.start)).headD 0
  rw [hheads]
  by_cases hs : s = sp
  · subst hs
    rcases hP.owned_cases s with ⟨e, -⟩ | ⟨a, t, e, hha, hm⟩
    · rw [e] at hc; cases hc
    · have hlk := hP.inv.links_exact.2.2.1 _ hm
      have ha0 : a ≠ 0 := fun e0 =>
        hP.inv.zero_not_mem (List.mem_flatten.2 ⟨_, hm, e0 ▸ List.mem_cons_self ..⟩)
      have hat : a ∉ t := (List.nodup_cons.1 (nodup_of_mem_flatten hP.inv.links_exact.1 hm)).1
      rw [e, hha]
      by_cases hca : r.start = a
      · -- the head is released: the new head is its successor, read before the free
        rw [if_pos hca, hca]
        simp only [upd, if_true, filter_ne_cons_self, filter_ne_of_not_mem hat, nextRegion_of_linked hlk ha0]
      · rw [if_neg hca]
        rw [filter_ne_cons_of_ne (Ne.symm hca), List.headD_cons]
        exact hha
  · rw [filter_ne_of_not_mem fun m => hs (hP.owned_disj s sp _ m hc)]
    split
    · simp only [upd, if_neg hs]; exact hP.head_is_list_head s
    · exact hP.head_is_list_head s

/-- Releasing an owned region never panics (`debug_assert!(!get_free(unit))` does not fire). -/
theorem release_isSome {lo hi : Nat} {pg : PG} {p : PR} (hP : PInv lo hi pg p) (debug : Bool) {sp c : Nat}
    (hc : c ∈ pg.owned sp) : ∃ p', p.release debug sp c = some p' := by
  obtain ⟨r, hr, hrs⟩ := (hP.inv.links_exact.2.1 c).1 (hP.owned_flat hc)
  subst hrs
  obtain ⟨st', n, hf⟩ := freeNoLock_isSome hP.inv hr debug
  unfold PR.release
  simp only [hf]
  exact ⟨_, rfl⟩

/-- `release_all_chunks()` of a space with at most 4097 regions frees exactly the regions of that space. -/
theorem pinv_releaseAll {lo hi : Nat} {pg : PG} {p p' : PR} {debug : Bool} {sp : Nat}
    (hP : PInv lo hi pg p) (hlen : (pg.owned sp).length ≤ 4096 + 1)
    (h : p.releaseAll debug sp = some p') : PInv lo hi (pg.releaseAll sp (p.heads sp)) p' := by
  obtain ⟨hfa, hheads⟩ := PR.releaseAll_spec h
  -- `pg.releaseAll` in the form of a filter: the chunks of `sp` go, from the map's lists and from `sp`'s own
  have hlists : (pg.g.freeAll (p.heads sp)).lists =
      pg.g.lists.map (·.filter fun x => !(pg.owned sp).contains x) := by rw [hP.freeAll_head sp]; rfl
  have hown : ∀ s, (if s = sp then [] else pg.owned s) =
      (pg.owned s).filter fun x => !(pg.owned sp).contains x := by
    intro s
    by_cases hs : s = sp
    · rw [if_pos hs, hs, eq_comm, List.filter_eq_nil_iff]
      intro x hx; simp [hx]
    · rw [if_neg hs, eq_comm, List.filter_eq_self]
      intro x hx; simpa using fun m => hs (hP.owned_disj s sp x hx m)
  obtain ⟨f1, f2, f3⟩ := hP.filter _ (pg' := pg.releaseAll sp (p.heads sp)) hlists hown
  refine ⟨inv_freeAll hP.inv (hP.releaseAll_pre hlen) hfa, f1, f2, f3, fun s => ?_⟩
  show p'.heads s = (if s = sp then [] else pg.owned s).headD 0
  rw [hheads]
  by_cases hs : s = sp
  · rw [if_pos hs]; simp [upd, hs]
  · rw [if_neg hs]; simp only [upd, if_neg hs]; exact hP.head_is_list_head s

theorem releaseAll_isSome {lo hi : Nat} {pg : PG} {p : PR} (hP : PInv lo hi pg p) (debug : Bool) {sp : Nat}
    (hlen : (pg.owned sp).length ≤ 4096 + 1) : ∃ p', p.releaseAll debug sp = some p' := by
  obtain ⟨st', hf, _⟩ := freeAll_spec hP.inv (debug := debug) (hP.releaseAll_pre hlen)
  unfold PR.releaseAll
  simp only [hf]
  exact ⟨_, rfl⟩

inductive POp
  /-- `grow_discontiguous_space(descriptor, chunks)` of space `sp` -/
  | grow (sp d k : Nat)
  /-- `release_discontiguous_chunks(chunk)` of space `sp` -/
  | release (sp c : Nat)
  /-- `release_all_chunks()` of space `sp` -/
  | releaseAll (sp : Nat)
deriving Repr, DecidableEq

/-- The callers' protocol: at least one chunk is requested; a space releases a region it owns;
`release_all_chunks` on a space with at most 4097 regions (the fuel of the model's loops). -/
def PPre (pg : PG) : POp → Prop
  | .grow _ _ k => 1 ≤ k
  | .release sp c => c ∈ pg.owned sp
  | .releaseAll sp => (pg.owned sp).length ≤ 4096 + 1

/-- One operation on the model together with the bookkeeping; `none` = panic. -/
def pstep (debug : Bool) (pg : PG) (p : PR) : POp → Option (PG × PR)
  | .grow sp d k =>
    match p.grow debug sp d k with
    | (p', .val c) => some (pg.grow sp d k (p.heads sp) c, p')
    | _ => none
  | .release sp c =>
    match p.release debug sp c with
    | some p' => some (pg.release c, p')
    | none => none
  | .releaseAll sp =>
    match p.releaseAll debug sp with
    | some p' => some (pg.releaseAll sp (p.heads sp), p')
    | none => none

def prun (debug : Bool) : PG → PR → List POp → Option (PG × PR)
  | pg, p, [] => some (pg, p)
  | pg, p, op :: ops =>
    match pstep debug pg p op with
    | none => none
    | some (pg', p') => prun debug pg' p' ops

def PValid (debug : Bool) : PG → PR → List POp → Prop
  | _, _, [] => True
  | pg, p, op :: ops =>
    PPre pg op ∧ match pstep debug pg p op with
      | none => True
      | some (pg', p') => PValid debug pg' p' ops

theorem pstep_spec {lo hi : Nat} {pg : PG} {p : PR} (hP : PInv lo hi pg p) (debug : Bool) {op : POp}
    (hpre : PPre pg op) : ∃ pg' p', pstep debug pg p op = some (pg', p') ∧ PInv lo hi pg' p' := by
  cases op with
  | grow sp d k =>
    obtain ⟨p1, c, hg⟩ := grow_ok hP debug sp d (k := k) hpre
    exact ⟨_, p1, by simp only [pstep, hg], pinv_grow hP hpre hg⟩
  | release sp c =>
    obtain ⟨p1, h⟩ := release_isSome hP debug (sp := sp) (c := c) hpre
    exact ⟨_, p1, by simp only [pstep, h], pinv_release hP hpre h⟩
  | releaseAll sp =>
    obtain ⟨p1, h⟩ := releaseAll_isSome hP debug (sp := sp) hpre
    exact ⟨_, p1, by simp only [pstep, h], pinv_releaseAll hP hpre h⟩

theorem pr_history {lo hi : Nat} {debug : Bool} : ∀ (ops : List POp) {pg : PG} {p : PR},
    PInv lo hi pg p → PValid debug pg p ops →
    ∃ pg' p', prun debug pg p ops = some (pg', p') ∧ PInv lo hi pg' p' := by
  intro ops
  induction ops with
  | nil => exact fun hP _ => ⟨_, _, rfl, hP⟩
  | cons op ops ih =>
    intro pg p hP hv
    obtain ⟨pg1, p1, hs, hP1⟩ := pstep_spec hP debug hv.1
    have hrest := hv.2
    rw [hs] at hrest
    rw [prun, hs]
    exact ih hP1 hrest

theorem pr_history_inv {lo hi : Nat} {debug : Bool} : ∀ (ops : List POp) {pg : PG} {p : PR}, PInv lo hi pg p →
    PValid debug pg p ops → ∀ {pg' : PG} {p' : PR}, prun debug pg p ops = some (pg', p') → PInv lo hi pg' p' := by
  intro ops pg p hP hv pg' p' h
  exact of_eq_some₂ (pr_history ops hP hv) h

theorem pr_history_no_panic {lo hi : Nat} {debug : Bool} : ∀ (ops : List POp) {pg : PG} {p : PR},
    PInv lo hi pg p → PValid debug pg p ops → ∃ pg' p', prun debug pg p ops = some (pg', p') := by
  intro ops pg p hP hv
  obtain ⟨pg1, p1, h1, -⟩ := pr_history ops hP hv
  exact ⟨pg1, p1, h1⟩

theorem pr_history_inv_init {M first last : Nat} (h1 : 0 < first) (h2 : first ≤ last) (h3 : last < M)
    {debug : Bool} {ops : List POp} (hv : PValid debug {} { st := finalize M first last } ops)
    {pg : PG} {p : PR} (hr : prun debug {} { st := finalize M first last } ops = some (pg, p)) :
    PInv first (last + 1) pg p :=
  pr_history_inv ops (pinv_init h1 h2 h3) hv hr

/-- **`head_is_list_head`**: after any protocol-respecting history from the finalised state, the page
resource's own head of every space is the head of the list of the regions that space owns (`0` when it
owns none). -/
theorem head_is_list_head {M first last : Nat} (h1 : 0 < first) (h2 : first ≤ last) (h3 : last < M)
    {debug : Bool} {ops : List POp} (hv : PValid debug {} { st := finalize M first last } ops)
    {pg : PG} {p : PR} (hr : prun debug {} { st := finalize M first last } ops = some (pg, p)) :
    ∀ sp, p.heads sp = (pg.owned sp).headD 0 :=
  (pr_history_inv_init h1 h2 h3 hv hr).head_is_list_head

theorem PInv.walk {lo hi : Nat} {pg : PG} {p : PR} (hP : PInv lo hi pg p) (sp fuel : Nat)
    (hf : (pg.owned sp).length ≤ fuel) : walk p.st fuel (p.heads sp) = pg.owned sp := by
  rw [hP.head_is_list_head sp]
  refine walk_linked (pg.owned sp) 0 fuel ?_ (fun m => hP.inv.zero_not_mem (hP.owned_flat m)) hf
  rcases hP.owned_cases sp with ⟨e, -⟩ | ⟨a, t, e, -, hm⟩
  · rw [e]; trivial
  · rw [e]; exact hP.inv.links_exact.2.2.1 _ hm

/-- Walking `get_next_contiguous_region` from the REAL head of a space visits exactly the regions the
space owns, most recent first, once. -/
theorem pr_history_walk {M first last : Nat} (h1 : 0 < first) (h2 : first ≤ last) (h3 : last < M)
    {debug : Bool} {ops : List POp} (hv : PValid debug {} { st := finalize M first last } ops)
    {pg : PG} {p : PR} (hr : prun debug {} { st := finalize M first last } ops = some (pg, p)) :
    ∀ sp fuel, (pg.owned sp).length ≤ fuel → walk p.st fuel (p.heads sp) = pg.owned sp :=
  (pr_history_inv_init h1 h2 h3 hv hr).walk

theorem PInv.owned_regions {lo hi : Nat} {pg : PG} {p : PR} (hP : PInv lo hi pg p) :
    (∀ sp c, c ∈ pg.owned sp → ∃ r ∈ pg.g.regions, r.start = c) ∧
    (∀ r ∈ pg.g.regions, ∃ sp, r.start ∈ pg.owned sp ∧ ∀ sp', r.start ∈ pg.owned sp' → sp' = sp) := by
  refine ⟨fun sp c hc => (hP.inv.links_exact.2.1 c).1 (hP.owned_flat hc), ?_⟩
  intro r hr
  obtain ⟨l, hl, hrl⟩ := List.mem_flatten.1 ((hP.inv.links_exact.2.1 r.start).2 ⟨r, hr, rfl⟩)
  obtain ⟨sp, hsp⟩ := hP.lists_owned l hl (List.ne_nil_of_mem hrl)
  exact ⟨sp, hsp ▸ hrl, fun sp' h' => hP.owned_disj sp' sp _ h' (hsp ▸ hrl)⟩

/-- Every region a space owns is an allocated region of the shared map, and every allocated region is
owned by exactly one space. -/
theorem pr_history_owned_regions {M first last : Nat} (h1 : 0 < first) (h2 : first ≤ last) (h3 : last < M)
    {debug : Bool} {ops : List POp} (hv : PValid debug {} { st := finalize M first last } ops)
    {pg : PG} {p : PR} (hr : prun debug {} { st := finalize M first last } ops = some (pg, p)) :
    (∀ sp c, c ∈ pg.owned sp → ∃ r ∈ pg.g.regions, r.start = c) ∧
    (∀ r ∈ pg.g.regions, ∃ sp, r.start ∈ pg.owned sp ∧ ∀ sp', r.start ∈ pg.owned sp' → sp' = sp) :=
  (pr_history_inv_init h1 h2 h3 hv hr).owned_regions

instance instDecidablePPre (pg : PG) : (op : POp) → Decidable (PPre pg op)
  | .grow _ _ k => inferInstanceAs (Decidable (1 ≤ k))
  | .release sp c => inferInstanceAs (Decidable (c ∈ pg.owned sp))
  | .releaseAll sp => inferInstanceAs (Decidable ((pg.owned sp).length ≤ 4096 + 1))

def pvalidB (debug : Bool) : PG → PR → List POp → Bool
  | _, _, [] => true
  | pg, p, op :: ops =>
    decide (PPre pg op) && match pstep debug pg p op with
      | none => true
      | some (pg', p') => pvalidB debug pg' p' ops

theorem pvalid_of_pvalidB {debug : Bool} : ∀ (ops : List POp) {pg : PG} {p : PR},
    pvalidB debug pg p ops = true → PValid debug pg p ops := by
  intro ops
  induction ops with
  | nil => exact fun _ => trivial
  | cons op ops ih =>
    intro pg p h
    simp only [pvalidB, Bool.and_eq_true, decide_eq_true_eq] at h
    refine ⟨h.1, ?_⟩
    cases hs : pstep debug pg p op with
    | none => trivial
    | some q =>
      obtain ⟨pg', p'⟩ := q
      rw [hs] at h
      exact ih h.2

/-- A history on the range `[2, 10)` of a 12-chunk map, two spaces (0 with descriptor 4, 1 with
descriptor 8): grows of both, release of a head region, re-grow, release of a middle region,
`release_all_chunks`, an exhausted grow, `release_all_chunks` of the other space and of an empty one. -/
def exPOps : List POp :=
  [.grow 0 4 3, .grow 0 4 2, .grow 1 8 1, .grow 0 4 1, .release 0 8, .grow 0 4 1, .release 0 5,
   .grow 1 8 1, .releaseAll 0, .grow 0 4 9, .releaseAll 1, .releaseAll 0]

structure PView where
  head0 : Nat
  head1 : Nat
  owned0 : List Nat
  owned1 : List Nat
  walk0 : List Nat
  walk1 : List Nat
  lists : List (List Nat)
deriving Repr, DecidableEq

def pview (q : Option (PG × PR)) : Option PView :=
  q.map fun (pg, p) => ⟨p.heads 0, p.heads 1, pg.owned 0, pg.owned 1, walk p.st 8 (p.heads 0),
    walk p.st 8 (p.heads 1), pg.g.lists⟩

example : PValid true {} { st := finalize 12 2 9 } exPOps := pvalid_of_pvalidB _ (by decide +kernel)
example : PValid false {} { st := finalize 12 2 9 } exPOps := pvalid_of_pvalidB _ (by decide +kernel)

example : pview (prun true {} { st := finalize 12 2 9 } (exPOps.take 4)) =
    some ⟨8, 7, [8, 5, 2], [7], [8, 5, 2], [7], [[8, 5, 2], [7]]⟩ := by decide +kernel

/-- Releasing the HEAD region 8 of space 0: the real head moves to its successor 5 and the walk from
the real head returns the remaining regions. -/
example : pview (prun true {} { st := finalize 12 2 9 } (exPOps.take 5)) =
    some ⟨5, 7, [5, 2], [7], [5, 2], [7], [[5, 2], [7]]⟩ := by decide +kernel
example : pview (prun false {} { st := finalize 12 2 9 } (exPOps.take 5)) =
    some ⟨5, 7, [5, 2], [7], [5, 2], [7], [[5, 2], [7]]⟩ := by decide +kernel

/-- Releasing a MIDDLE region (5 of `8, 5, 2`): the head stays, the walk skips it. -/
example : pview (prun true {} { st := finalize 12 2 9 } (exPOps.take 7)) =
    some ⟨8, 7, [8, 2], [7], [8, 2], [7], [[8, 2], [7]]⟩ := by decide +kernel

/-- `release_all_chunks` of space 0 leaves space 1 (which re-used chunk 5) untouched. -/
example : pview (prun true {} { st := finalize 12 2 9 } (exPOps.take 9)) =
    some ⟨0, 5, [], [5, 7], [], [5, 7], [[], [5, 7]]⟩ := by decide +kernel

/-- So `PInv` holds for a non-trivial state (`pr_history_inv_init` applied to a concrete history). -/
example : ∃ pg p, prun true {} { st := finalize 12 2 9 } (exPOps.take 8) = some (pg, p) ∧ PInv 2 10 pg p ∧
    pg.owned 0 = [8, 2] ∧ pg.owned 1 = [5, 7] := by
  have hv : PValid true {} { st := finalize 12 2 9 } (exPOps.take 8) := pvalid_of_pvalidB _ (by decide +kernel)
  obtain ⟨pg, p, h⟩ := pr_history_no_panic (debug := true) (exPOps.take 8)
    (pinv_init (M := 12) (first := 2) (last := 9) (by decide) (by decide) (by decide)) hv
  refine ⟨pg, p, h, pr_history_inv_init (by decide) (by decide) (by decide) hv h, ?_⟩
  have : (prun true {} { st := finalize 12 2 9 } (exPOps.take 8)).map (fun q => (q.1.owned 0, q.1.owned 1)) =
      some ([8, 2], [5, 7]) := by decide +kernel
  rw [h] at this
  simpa using this

/-- The seeded regression: `free_contiguous_chunks(chunk)` FIRST, then
`if chunk == *head { *head = get_next_contiguous_region(chunk) }` — on the map after the free, where the
links of `chunk` are already zeroed. -/
def PR.releaseSwapped (debug : Bool) (p : PR) (sp chunk : Nat) : Option PR :=
  match freeNoLock debug p.st chunk with
  | some (st', _) =>
    some { st := st',
           heads := if chunk == p.heads sp then upd p.heads sp (nextRegion st' chunk) else p.heads }
  | none => none

/-- Two grows of space 0 on `finalize 12 2 9` (regions 2 then 5, head 5), then the release of the head
region 5 with both versions: (head after `releaseSwapped`, its walk, head after `release`, its walk,
what the space owns). -/
def swappedWitness : Option (Nat × List Nat × Nat × List Nat × List Nat) :=
  match prun true {} { st := finalize 12 2 9 } [.grow 0 4 3, .grow 0 4 2] with
  | some (pg, p) =>
    match p.releaseSwapped true 0 5, p.release true 0 5 with
    | some p1, some p2 =>
      some (p1.heads 0, walk p1.st 8 (p1.heads 0), p2.heads 0, walk p2.st 8 (p2.heads 0), (pg.release 5).owned 0)
    | _, _ => none
  | none => none

/-- `releaseSwapped` leaves `heads 0 = 0` although the space still owns region 2 (the list is lost:
`head_is_list_head` is violated); `release` gives the older region 2 and the walk finds it. -/
example : swappedWitness = some (0, [], 2, [2], [2]) := by decide +kernel

/-- The same statement against the invariant: the state after `releaseSwapped` does not satisfy `PInv`
for the bookkeeping of the release. -/
example : ∀ pg p p1, prun true {} { st := finalize 12 2 9 } [.grow 0 4 3, .grow 0 4 2] = some (pg, p) →
    p.releaseSwapped true 0 5 = some p1 → ¬ PInv 2 10 (pg.release 5) p1 := by
  intro pg p p1 h1 h2 hP
  have hw : swappedWitness = some (0, [], 2, [2], [2]) := by decide +kernel
  unfold swappedWitness at hw
  rw [h1] at hw
  dsimp only at hw
  rw [h2] at hw
  cases h3 : p.release true 0 5 with
  | none => rw [h3] at hw; cases hw
  | some p2 =>
    rw [h3] at hw
    simp only [Option.some.injEq, Prod.mk.injEq] at hw
    have := hP.head_is_list_head 0
    rw [hw.1, hw.2.2.2.2] at this
    cases this

end Mmtk.Map32
