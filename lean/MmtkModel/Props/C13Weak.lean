import MmtkModel.Model.WeakRounds
/-!
# C13 (part `weak rounds`) — the sentinel protocol of the `VMRefClosure` bucket

(the scheduler-ordering theorems of C13 are in `Props/C13.lean`)

For every interleaving of any number of workers (`exec (init n) acts`, `acts` arbitrary):
* `round_starts_drained`: every call of `process_weak_refs` begins with the bucket drained — nothing queued,
  nothing running: the closure of everything traced so far is complete;
* `sentinel_reinstalled_iff`: the packet is re-installed as the sentinel iff the call returned `true`;
* `rounds_until_false`: all calls but the last returned `true`; the next bucket opens only after a call returned
  `false`; after a `false` no sentinel is left anywhere, so no further call happens;
* `rounds_bound`: #calls ≤ #`true` answers + 1.
The scheduler-wide facts (the guard of `lastParked` is what `on_last_parked` sees, buckets open in order) are
package `sched`'s theorems.
-/
namespace Mmtk.WeakRounds

structure Inv (s : St) : Prop where
  /-- a scheduled sentinel packet is alone in the bucket -/
  sq_alone : s.sq = true → s.queue = 0 ∧ s.running = 0
  /-- at most one incarnation of the packet exists -/
  one : (s.sq = true → s.sr = false ∧ s.sentinel = false) ∧ (s.sr = true → s.sentinel = false)
  drained : ∀ b ∈ s.drained, b = true
  prefix_true : ∀ b ∈ s.rets.dropLast, b = true
  /-- a sentinel exists somewhere iff no call has answered `false` yet -/
  alive : (s.sentinel = true ∨ s.sq = true ∨ s.sr = true) ↔ (s.rets.getLast? ≠ some false)
  done_after_false : s.done = true → s.rets.getLast? = some false

theorem init_inv (n : Nat) : Inv (init n) where
  sq_alone := by intro h; cases h
  one := ⟨(by intro h; cases h), (by intro h; cases h)⟩
  drained := by intro b h; cases h
  prefix_true := by intro b h; cases h
  alive := by simp [init]
  done_after_false := by intro h; cases h

theorem mem_of_mem_dropLast {l : List Bool} {b : Bool} (h : b ∈ l.dropLast) : b ∈ l :=
  List.dropLast_subset l h

/-- so a replay of a real event log may insist on `enabled` -/
theorem step_of_not_enabled (s : St) (a : Act) (h : enabled s a = false) : step s a = s := by
  cases a with
  | start | finish => exact if_neg (of_decide_eq_false h)
  | spawn =>
    obtain ⟨h1, h2⟩ := Bool.or_eq_false_iff.1 h
    exact if_neg fun hg => hg.elim (of_decide_eq_false h1) (Bool.eq_false_iff.1 h2)
  | lastParked =>
    refine if_neg fun ⟨g1, g2, g3, g4, g5⟩ => ?_
    simp [enabled, g1, g2, g3, g4, g5] at h
  | callBegin | callEnd => exact if_neg (Bool.eq_false_iff.1 h)

/-- the actions that only count packets never meet a scheduled sentinel -/
theorem Inv.sq_false {s : St} (h : Inv s) (hb : 0 < s.queue ∨ 0 < s.running ∨ s.sr = true) : s.sq = false := by
  cases hq : s.sq with
  | false => rfl
  | true =>
    have := h.sq_alone hq
    rcases hb with hb | hb | hb
    · exact absurd (this.1 ▸ hb) (Nat.lt_irrefl 0)
    · exact absurd (this.2 ▸ hb) (Nat.lt_irrefl 0)
    · rw [(h.one.1 hq).1] at hb; cases hb

theorem Inv.counts {s : St} (h : Inv s) (hsq : s.sq = false) (q r : Nat) :
    Inv { s with queue := q, running := r } :=
  { h with sq_alone := fun hq => by rw [hsq] at hq; cases hq }

theorem step_inv (s : St) (a : Act) (h : Inv s) : Inv (step s a) := by
  cases he : enabled s a
  · rw [step_of_not_enabled s a he]; exact h
  cases a with
  | start =>
    have hq : 0 < s.queue := of_decide_eq_true he
    rw [show step s .start = _ from if_pos hq]
    exact h.counts (h.sq_false (.inl hq)) _ _
  | spawn =>
    have hq : 0 < s.running ∨ s.sr = true := (Bool.or_eq_true _ _ ▸ he).imp_left of_decide_eq_true
    rw [show step s .spawn = _ from if_pos hq]
    exact h.counts (h.sq_false (.inr hq)) _ _
  | finish =>
    have hq : 0 < s.running := of_decide_eq_true he
    rw [show step s .finish = _ from if_pos hq]
    exact h.counts (h.sq_false (.inr (.inl hq))) _ _
  | lastParked =>
    obtain ⟨h1, ⟨h2a, h2b⟩, h3, h4, h5, h6⟩ := h
    have hg : s.queue = 0 ∧ s.running = 0 ∧ s.sq = false ∧ s.sr = false ∧ s.done = false := by
      simpa [enabled, and_assoc] using he
    rw [show step s .lastParked = _ from if_pos hg]
    obtain ⟨g1, g2, g3, g4, g5⟩ := hg
    split
    · -- `schedule_sentinels`: the sentinel leaves its slot for the (empty) bucket
      rename_i hs
      refine ⟨fun _ => ⟨g1, g2⟩, ⟨fun _ => ⟨g4, rfl⟩, fun hsr => by rw [g4] at hsr⟩, h3, h4, ?_, h6⟩
      exact ⟨fun _ => h5.1 (.inl hs), fun _ => .inr (.inl rfl)⟩
    · -- no sentinel anywhere: the last answer was `false`, the next bucket opens
      rename_i hs
      refine ⟨h1, ⟨h2a, h2b⟩, h3, h4, h5, fun _ => ?_⟩
      have : ¬ (s.sentinel = true ∨ s.sq = true ∨ s.sr = true) := by simp [hs, g3, g4]
      exact Decidable.not_not.1 ((not_congr h5).1 this)
  | callBegin =>
    have hs : s.sq = true := he
    obtain ⟨h1, ⟨h2a, h2b⟩, h3, h4, h5, h6⟩ := h
    rw [show step s .callBegin = _ from if_pos hs]
    have ⟨hq, hr⟩ := h1 hs
    refine ⟨nofun, ⟨nofun, fun _ => (h2a hs).2⟩, ?_, h4, ⟨fun _ => h5.1 (.inr (.inl hs)), fun _ => .inr (.inr rfl)⟩, h6⟩
    intro b hb
    rcases List.mem_append.1 hb with hb | hb
    · exact h3 b hb
    · rw [List.mem_singleton.1 hb]; exact decide_eq_true ⟨hq, hr⟩
  | callEnd ret =>
    have hs : s.sr = true := he
    have hsq := h.sq_false (.inr (.inr hs))
    obtain ⟨h1, ⟨h2a, h2b⟩, h3, h4, h5, h6⟩ := h
    rw [show step s (.callEnd ret) = _ from if_pos hs]
    have hlast : s.rets.getLast? ≠ some false := h5.1 (.inr (.inr hs))
    refine ⟨fun hq => absurd hq (Bool.eq_false_iff.1 hsq), ⟨fun hq => absurd hq (Bool.eq_false_iff.1 hsq), nofun⟩,
      h3, ?_, ?_, fun hd => absurd (h6 hd) hlast⟩
    · rw [List.dropLast_concat]
      intro b hb
      -- every earlier answer is `true`: the prefix by `h4`, the last one because a sentinel was alive
      rcases List.eq_nil_or_concat s.rets with hnil | ⟨l, x, hl⟩
      · rw [hnil] at hb; cases hb
      · rw [hl, List.concat_eq_append] at hb h4 hlast
        rw [List.dropLast_concat] at h4
        rw [List.getLast?_concat] at hlast
        rcases List.mem_append.1 hb with hb | hb
        · exact h4 b hb
        · rw [List.mem_singleton.1 hb]
          cases x with
          | true => rfl
          | false => exact absurd rfl hlast
    · rw [List.getLast?_concat]
      cases ret with
      | true => simp
      | false => simp [h2b hs, hsq]

theorem exec_inv (s : St) (acts : List Act) (h : Inv s) : Inv (exec s acts) := by
  induction acts generalizing s with
  | nil => exact h
  | cons a rest ih => exact ih _ (step_inv s a h)

/-- reachable from the moment the bucket opens with `n` packets in it -/
def Reachable (s : St) : Prop := ∃ n acts, s = exec (init n) acts

theorem reachable_inv {s : St} (h : Reachable s) : Inv s := by
  obtain ⟨n, acts, rfl⟩ := h
  exact exec_inv _ _ (init_inv n)

theorem round_starts_drained {s : St} (h : Reachable s) : ∀ b ∈ s.drained, b = true :=
  (reachable_inv h).drained

/-- the same at the moment of the call: when a worker can take the sentinel packet, it is alone -/
theorem call_enabled_drained {s : St} (h : Reachable s) (hq : s.sq = true) : s.queue = 0 ∧ s.running = 0 :=
  (reachable_inv h).sq_alone hq

theorem sentinel_reinstalled_iff {s : St} (h : Reachable s) (hs : s.sr = true) (ret : Bool) :
    (step s (.callEnd ret)).sentinel = ret ∧ (step s (.callEnd ret)).sq = false ∧ (step s (.callEnd ret)).sr = false := by
  have hi := reachable_inv h
  have hsen := hi.one.2 hs
  have hsq := hi.sq_false (.inr (.inr hs))
  simp only [step, hs, if_true]
  cases ret <;> simp [hsen, hsq]

theorem rounds_until_false {s : St} (h : Reachable s) :
    (∀ b ∈ s.rets.dropLast, b = true) ∧
    (s.rets.getLast? = some false → s.sentinel = false ∧ s.sq = false ∧ s.sr = false) ∧
    (s.done = true → s.rets.getLast? = some false) := by
  have hi := reachable_inv h
  refine ⟨hi.prefix_true, ?_, hi.done_after_false⟩
  intro hl
  have : ¬ (s.sentinel = true ∨ s.sq = true ∨ s.sr = true) := fun hx => hi.alive.1 hx hl
  simp only [not_or, Bool.not_eq_true] at this
  exact this

/-- after a `false` answer no further answer is recorded: no call ends.  (That none begins, `sq = false`, is the second
conjunct of `rounds_until_false`; `callBegin` never touches `rets`.) -/
theorem no_call_after_false {s : St} (h : Reachable s) (hl : s.rets.getLast? = some false) (a : Act) :
    (step s a).rets = s.rets := by
  cases a with
  | callEnd ret => rw [step_of_not_enabled s (.callEnd ret) ((rounds_until_false h).2.1 hl).2.2]
  | lastParked =>
    show (if _ then if _ then _ else _ else _ : St).rets = _
    split
    · split <;> rfl
    · rfl
  | start | spawn | finish | callBegin => exact (apply_ite St.rets ..).trans (ite_self _)

theorem rounds_bound {s : St} (h : Reachable s) : s.rets.length ≤ (s.rets.filter id).length + 1 := by
  have hp := (rounds_until_false h).1
  rcases List.eq_nil_or_concat s.rets with hnil | ⟨l, x, hl⟩
  · rw [hnil]; simp
  · rw [hl] at hp ⊢
    simp only [List.concat_eq_append] at hp ⊢
    rw [List.dropLast_concat] at hp
    have hall : l.filter id = l := List.filter_eq_self.2 (fun b hb => by simp [hp b hb])
    rw [List.filter_append, List.length_append, List.length_append, hall]
    exact Nat.succ_le_succ (Nat.le_add_right _ _)

/-! ## a concrete run: two extra rounds (answers true, true, false), closure packets in between -/

def demoRun : List Act :=
  [.lastParked, .callBegin, .spawn, .spawn, .start, .callEnd true, .start, .spawn, .finish, .finish, .start, .finish,
   .lastParked, .callBegin, .spawn, .callEnd true, .start, .finish,
   .lastParked, .callBegin, .callEnd false, .lastParked]

example : (exec (init 0) demoRun).rets = [true, true, false] ∧ (exec (init 0) demoRun).done = true ∧
    (exec (init 0) demoRun).drained = [true, true, true] := by decide

/-- `lastParked` does nothing while a closure packet is still queued or running -/
example : step { (init 0) with queue := 1, sentinel := true } .lastParked = { (init 0) with queue := 1, sentinel := true } := rfl

end Mmtk.WeakRounds
