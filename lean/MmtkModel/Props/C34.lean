import MmtkModel.Model.ImmixLines
/-!
# C34 — Immix never hands out a line that holds a live object

Statement (properties.jsonl): across any history of nursery, full-heap and defragmenting Immix
collections (including more than 127 GCs, where the line mark state wraps), hole search only returns
lines not marked live in the current or the last full collection, every line spanned by a live
object is marked, and block states round-trip through their byte encoding.

The transition system `Step` below runs the transcribed functions of `Model/ImmixLines.lean` on one
`ImmixSpace` and carries the ghost flag `inMajor` (a major GC is running) and three ghost sets of
(block, line) pairs:

* `marked` — lines marked (`mark_lines`, eager marking) since the last major `prepare`;
* `old`   — during a major GC: the `marked` of the previous cycle (objects that were live when the GC
            started and may or may not have been re-marked yet);
* `fresh` — lines handed to an allocator since the last `release`.

A line "holds a live object" iff it is in one of the three sets: an object is only ever marked where
it was allocated (`Step.markObject` demands that the object's lines are protected), and every line
an allocator may bump into is recorded in `fresh`; liveness itself is not modelled, and which lines an
object spans (`objLines`) is evaluated by the monitor and the differential only: `Step.markObject` takes
the line range as given.  The theorems about `Reachable` states hold for histories of any length, in
particular across the wrap of the mark state; the others are facts about the transcribed functions,
most of them steps of the invariant proof (the byte round trip `blockState_roundtrip` and
`holeSearch_none` stand for themselves: `Inv` has no clause about block states).  The last section
records what `Step.release` assumes — every allocator is reset at release — by a state in which one is not.
-/
namespace Mmtk.Immix
open Consts

-- Bounds on the generated constants, quoted to `omega`: the mark-state cycle has at least 3 states
-- (`stale_ne_next`, `stale_sweep`) and `cur + 1` stays a byte (`nextMarkState_eq`); a count of marked
-- lines, at most `LINES`, fits `Reusable(n)` with 1 ≤ n ≤ 253 (`sweepBlock_state`); line 0, where a popped
-- block's cursor starts, is inside the block (`OwnerOk.pop`; `0 < LINES` is all that is used of `2 ≤ LINES`).
theorem maxMark_facts : resetMarkState = 1 ∧ 3 ≤ maxMarkState ∧ maxMarkState ≤ 253 := by decide

theorem LINES_facts : 2 ≤ LINES ∧ LINES ≤ 253 := by decide

/-- States that survive the byte encoding: `Reusable(n)` only for 1 ≤ n ≤ 253 (0, 254, 255 encode the
other three).  `Block::sweep` stores 1 ≤ n < `LINES` (`sweepBlock_state`). -/
def BlockState.WF : BlockState → Prop
  | .reusable n => 1 ≤ n ∧ n ≤ 253
  | _ => True

theorem ofByte_toByte (b : Nat) : (BlockState.ofByte b).toByte = b := by
  unfold BlockState.ofByte
  split
  · next h => exact h.symm
  · split
    · next h => exact h.symm
    · split
      · next h => exact h.symm
      · rfl

theorem ofByte_reusable {n : Nat} (h : 1 ≤ n ∧ n ≤ 253) : BlockState.ofByte n = .reusable n := by
  have : markUnallocated = 0 ∧ markUnmarked = 255 ∧ markMarked = 254 := ⟨rfl, rfl, rfl⟩
  unfold BlockState.ofByte
  rw [if_neg (by omega), if_neg (by omega), if_neg (by omega)]

theorem toByte_ofByte (st : BlockState) (h : st.WF) : BlockState.ofByte st.toByte = st := by
  cases st with
  | unallocated => rfl
  | unmarked => rfl
  | marked => rfl
  | reusable n => exact ofByte_reusable h

/-- The hypothesis `WF` is needed: 0, 254 and 255 are reserved bytes (Unallocated, Marked, Unmarked), so
e.g. `reusable 0` and `reusable 255` do not round-trip. -/
example : BlockState.ofByte (BlockState.reusable 0).toByte ≠ .reusable 0 := by decide
example : BlockState.ofByte (BlockState.reusable 255).toByte ≠ .reusable 255 := by decide
example : (BlockState.reusable 127).WF := by simp [BlockState.WF]

theorem blockState_roundtrip :
    (∀ b : Nat, (BlockState.ofByte b).toByte = b) ∧
    (∀ st : BlockState, st.WF → BlockState.ofByte st.toByte = st) ∧
    (∀ b : Nat, b < 256 → (BlockState.ofByte b).WF ∨ b = markUnallocated ∨ b = markUnmarked ∨ b = markMarked) := by
  refine ⟨ofByte_toByte, toByte_ofByte, fun b hb => ?_⟩
  by_cases h : 1 ≤ b ∧ b ≤ 253
  · exact Or.inl (ofByte_reusable h ▸ h)
  · right
    unfold markUnallocated markUnmarked markMarked
    omega

theorem markLinesFrom_eq (v s e : Nat) (ms : List Nat) (i : Nat) :
    markLinesFrom v s e i ms = ms.mapIdx fun j m => if s ≤ i + j ∧ i + j < e then v else m := by
  induction ms generalizing i with
  | nil => rfl
  | cons m ms ih =>
    rw [markLinesFrom, ih, List.mapIdx_cons]
    simp only [Nat.add_zero, Nat.add_assoc, Nat.add_comm 1]

theorem markLines_length (v s e : Nat) (ms : List Nat) : (markLines v s e ms).length = ms.length := by
  rw [markLines, markLinesFrom_eq, List.length_mapIdx]

theorem markLines_getD (v s e : Nat) (ms : List Nat) (j : Nat) (hj : j < ms.length) :
    (markLines v s e ms).getD j 0 = if s ≤ j ∧ j < e then v else ms.getD j 0 := by
  rw [markLines, markLinesFrom_eq, List.getD_eq_getElem?_getD, List.getElem?_mapIdx, List.getD_eq_getElem?_getD,
    List.getElem?_eq_getElem hj]
  simp

theorem replicate_getD (n j : Nat) : (List.replicate n 0).getD j 0 = 0 := by
  simp [List.getD_eq_getElem?_getD, List.getElem?_replicate]
  split <;> simp

/-- What `Block::sweep` does to one line mark. -/
def sweepMark (c m : Nat) : Nat := if m = c then m else if c > maxMarkState - 2 then 0 else m

theorem sweepMark_zero (c : Nat) : sweepMark c 0 = 0 := by
  unfold sweepMark
  split
  · rfl
  · split <;> rfl

/-- A cleared line carries 0, which is no mark state. -/
theorem sweepMark_eq_cur {c m : Nat} (h1 : 1 ≤ c) : sweepMark c m = c ↔ m = c := by
  unfold sweepMark
  split
  · rfl
  · next hm =>
    split
    · exact iff_of_false (by omega) hm
    · rfl

theorem sweepLines_eq (c : Nat) (ms : List Nat) (p : Bool) :
    (sweepLines c ms p).1 = ms.map (sweepMark c) ∧ (sweepLines c ms p).2.1 = ms.count c := by
  induction ms generalizing p with
  | nil => exact ⟨rfl, rfl⟩
  | cons m ms ih =>
    unfold sweepLines
    split
    · next h => simp [ih true, sweepMark, h]
    · next h => simp [ih false, sweepMark, h]

theorem getD_map_sweepMark (c : Nat) (ms : List Nat) (j : Nat) :
    (ms.map (sweepMark c)).getD j 0 = sweepMark c (ms.getD j 0) := by
  rw [List.getD_eq_getElem?_getD, List.getD_eq_getElem?_getD, List.getElem?_map]
  cases ms[j]? with
  | none => exact (sweepMark_zero c).symm
  | some m => rfl

theorem sweepBlock_marks (c : Nat) (b : Block) : (sweepBlock c b).1.marks = b.marks.map (sweepMark c) := by
  rw [← (sweepLines_eq c b.marks true).1]
  unfold sweepBlock
  simp only
  split
  · rfl
  · split <;> rfl

theorem sweepBlock_keeps (c : Nat) (b : Block) (j : Nat) (hj : j < b.marks.length) (hm : b.marks.getD j 0 = c) :
    (sweepBlock c b).1.state ≠ .unallocated := by
  unfold sweepBlock
  simp only
  split
  · next h0 =>
    rw [(sweepLines_eq c b.marks true).2, List.count_eq_zero] at h0
    rw [← List.getElem_eq_getD 0 (h := hj)] at hm
    exact absurd (hm ▸ List.getElem_mem hj) h0
  · split <;> exact nofun

/-- The state `Block::sweep` stores survives the byte encoding (`toByte_ofByte`), and a block is
pushed to the reusable list exactly when it is stored as `Reusable` and reported swept exactly when it
is stored as `Unallocated`. -/
theorem sweepBlock_state (c : Nat) (b : Block) (hlen : b.marks.length = LINES) :
    (sweepBlock c b).1.state.WF ∧
    ((sweepBlock c b).2 = .reused ↔ (sweepBlock c b).1.state.isReusable = true) ∧
    ((sweepBlock c b).2 = .swept ↔ (sweepBlock c b).1.state = .unallocated) := by
  have hle : (sweepLines c b.marks true).2.1 ≤ LINES := by
    rw [(sweepLines_eq c b.marks true).2, ← hlen]; exact List.count_le_length
  obtain ⟨l2, l253⟩ := LINES_facts
  unfold sweepBlock
  simp only
  split
  · simp [BlockState.WF, BlockState.isReusable]
  · split
    · next h0 h1 =>
      have : (sweepLines c b.marks true).2.1 % 256 = (sweepLines c b.marks true).2.1 := Nat.mod_eq_of_lt (by omega)
      simp only [BlockState.WF, BlockState.isReusable, this]
      refine ⟨by omega, by simp, by simp⟩
    · simp [BlockState.WF, BlockState.isReusable]

/-- Both loops of `get_next_available_lines` are `while cursor < len { if stop(mark) { break }; cursor += 1 }`:
the number of lines skipped is `List.findIdx stop` on the rest of the table. -/
theorem skipUnavail_eq (u c : Nat) (l : List Nat) :
    skipUnavail u c l = l.findIdx fun m => decide (m ≠ u ∧ m ≠ c) := by
  induction l with
  | nil => rfl
  | cons m l ih => rw [skipUnavail, List.findIdx_cons, ih, Nat.add_comm]; split <;> simp [*]

theorem skipAvail_eq (u c : Nat) (l : List Nat) :
    skipAvail u c l = l.findIdx fun m => decide (m = u ∨ m = c) := by
  induction l with
  | nil => rfl
  | cons m l ih => rw [skipAvail, List.findIdx_cons, ih, Nat.add_comm]; split <;> simp [*]

theorem findIdx_drop (q : Nat → Prop) [DecidablePred q] (ms : List Nat) (i : Nat) (hi : i ≤ ms.length) {k : Nat}
    (hk : i + (ms.drop i).findIdx (fun m => decide (q m)) = k) :
    k ≤ ms.length ∧ (∀ j, i ≤ j → j < k → ¬ q (ms.getD j 0)) ∧ (k < ms.length → q (ms.getD k 0)) := by
  subst hk
  have hle := List.findIdx_le_length (p := fun m => decide (q m)) (xs := ms.drop i)
  rw [List.length_drop] at hle
  refine ⟨by omega, fun j h1 h2 => ?_, fun h => ?_⟩
  · have := List.not_of_lt_findIdx (p := fun m => decide (q m)) (xs := ms.drop i) (i := j - i) (by omega)
    rw [List.getElem_drop, List.getElem_eq_getD 0, show i + (j - i) = j by omega] at this
    exact of_decide_eq_false this
  · have := List.findIdx_getElem (p := fun m => decide (q m)) (xs := ms.drop i) (w := by rw [List.length_drop]; omega)
    rw [List.getElem_drop, List.getElem_eq_getD 0] at this
    exact of_decide_eq_true this

theorem holeSearch_some (ms : List Nat) (u c start s e : Nat) (hstart : start ≤ ms.length)
    (h : holeSearch ms u c start = some (s, e)) :
    start ≤ s ∧ s < e ∧ e ≤ ms.length ∧
    (∀ j, s ≤ j → j < e → ms.getD j 0 ≠ u ∧ ms.getD j 0 ≠ c) ∧
    (∀ j, start ≤ j → j < s → ms.getD j 0 = u ∨ ms.getD j 0 = c) ∧
    (e < ms.length → ms.getD e 0 = u ∨ ms.getD e 0 = c) := by
  unfold holeSearch at h
  simp only [skipUnavail_eq, skipAvail_eq] at h
  obtain ⟨a1, a2, a3⟩ := findIdx_drop (fun m => m ≠ u ∧ m ≠ c) ms start hstart rfl
  split at h
  · cases h
  · next hne =>
    obtain ⟨rfl, rfl⟩ := Prod.mk.inj (Option.some.inj h)
    obtain ⟨b1, b2, b3⟩ := findIdx_drop (fun m => m = u ∨ m = c) ms _ a1 rfl
    have hs := a3 (Nat.lt_of_le_of_ne a1 hne)
    refine ⟨Nat.le_add_right _ _, ?_, b1, fun j h1 h2 => not_or.mp (b2 j h1 h2),
      fun j h1 h2 => Decidable.or_iff_not_not_and_not.mpr (a2 j h1 h2), b3⟩
    -- the hole is not empty: the line the first loop stopped at does not stop the second
    refine Nat.lt_add_of_pos_right (Nat.pos_of_ne_zero fun h0 => ?_)
    rw [h0] at b3
    exact (b3 (Nat.lt_of_le_of_ne a1 hne)).elim hs.1 hs.2

theorem holeSearch_none (ms : List Nat) (u c start : Nat) (_hstart : start ≤ ms.length)
    (h : holeSearch ms u c start = none) :
    ∀ j, start ≤ j → j < ms.length → ms.getD j 0 = u ∨ ms.getD j 0 = c := by
  unfold holeSearch at h
  simp only [skipUnavail_eq] at h
  obtain ⟨-, a2, -⟩ := findIdx_drop (fun m => m ≠ u ∧ m ≠ c) ms start _hstart rfl
  split at h
  · next heq => exact fun j h1 h2 => Decidable.or_iff_not_not_and_not.mpr (a2 j h1 (heq ▸ h2))
  · cases h

theorem nextMarkState_eq (c : Nat) (h : c ≤ maxMarkState) :
    c < maxMarkState ∧ nextMarkState c = c + 1 ∨ c = maxMarkState ∧ nextMarkState c = 1 := by
  obtain ⟨r, _, m253⟩ := maxMark_facts
  unfold nextMarkState
  simp only [r]
  rw [Nat.mod_eq_of_lt (by omega)]
  split <;> omega

theorem nextMarkState_range (c : Nat) (h : c ≤ maxMarkState) :
    1 ≤ nextMarkState c ∧ nextMarkState c ≤ maxMarkState ∧ nextMarkState c ≠ c := by
  have m3 := maxMark_facts.2.1
  have := nextMarkState_eq c h
  omega

/-- Values a line mark may have in an allocated block right after the sweep of a GC whose state
was `c`: zero, `c` itself, or — while `c ≤ MAX-2`, i.e. since the last two clearing sweeps — `MAX`
or a state used since the wrap. -/
def staleIdle (c m : Nat) : Prop :=
  m = 0 ∨ m = c ∨ (c + 2 ≤ maxMarkState ∧ (m = maxMarkState ∨ (1 ≤ m ∧ m < c)))

/-- A mark value left over from an earlier GC can never be equal to the state the next major GC is
going to use. -/
theorem stale_ne_next (u m : Nat) (h2 : u ≤ maxMarkState) (h : staleIdle u m) :
    m ≠ nextMarkState u := by
  have m3 := maxMark_facts.2.1
  have := nextMarkState_eq u h2
  unfold staleIdle at h
  omega

/-- `hn`: the sweep at the next state is not one of the two clearing ones. -/
theorem staleIdle_next (u m : Nat) (h2 : u ≤ maxMarkState) (hn : nextMarkState u + 2 ≤ maxMarkState)
    (h : staleIdle u m) : staleIdle (nextMarkState u) m := by
  have := nextMarkState_eq u h2
  unfold staleIdle at h ⊢
  omega

/-- The sweep of a GC with state `c` (a major one: `c = next u`; a nursery one: `c = u`) re-establishes
`staleIdle c` from `mark = c ∨ staleIdle u mark`. -/
theorem stale_sweep (u c m : Nat) (h2 : u ≤ maxMarkState)
    (hc : c = u ∨ c = nextMarkState u) (h : m = c ∨ staleIdle u m) : staleIdle c (sweepMark c m) := by
  unfold sweepMark
  split
  · next hm => exact Or.inr (Or.inl hm)
  · next hm =>
    split
    · exact Or.inl rfl
    · next hth =>
      have hs := h.resolve_left hm
      have m3 := maxMark_facts.2.1
      rcases hc with rfl | rfl
      · exact hs
      · exact staleIdle_next u m h2 (by omega) hs

/-! ## The transition system

`G` is the space `s` plus the ghost state described in the header.  `G.init` takes the defaults of
`Space`: `cur = unavail = resetMarkState`, every block unallocated, no cursor, empty reusable list.
`Step.prepareMajor` keeps `fresh` and the cursors: what was allocated since the last release is not
marked yet and stays protected until `release`.  A nursery GC has no `prepare` step
(`Space.prepare false` is the identity): it is `markObject` steps and then `Step.release` with
`major = false`, which asks for `inMajor = false`. -/

structure G where
  s : Space
  /-- between `prepare(true)` and `release(true)` -/
  inMajor : Bool
  marked : Nat → Nat → Prop
  old : Nat → Nat → Prop
  fresh : Nat → Nat → Prop

def allocd (s : Space) (b : Nat) : Prop := (s.blk b).state ≠ .unallocated
def markOf (s : Space) (b l : Nat) : Nat := (s.blk b).marks.getD l 0

/-- "(block `b`, line `l`) may hold a live object". -/
def G.protected (g : G) (b l : Nat) : Prop := g.marked b l ∨ g.old b l ∨ g.fresh b l

def G.init : G := { s := {}, inMajor := false, marked := fun _ _ => False, old := fun _ _ => False, fresh := fun _ _ => False }

inductive Step : G → G → Prop
  /-- `ImmixSpace::prepare(true, ..)` of a full-heap / defrag / concurrent-initial-mark GC -/
  | prepareMajor (g : G) (sel : Nat → Bool) (h : g.inMajor = false) :
      Step g { g with s := g.s.prepare true sel, inMajor := true, marked := fun _ _ => False, old := g.marked }
  /-- marking the lines `[lo, hi)` of block `b` for a live object, which can only reside in lines
  that are protected -/
  | markObject (g : G) (b lo hi : Nat) (hlt : lo < hi) (hhi : hi ≤ LINES)
      (hres : ∀ l, lo ≤ l → l < hi → g.protected b l) :
      Step g { g with s := g.s.markObject b lo hi, marked := fun b' l => g.marked b' l ∨ (b' = b ∧ lo ≤ l ∧ l < hi) }
  /-- `ImmixSpace::release(major, ..)` + sweep; `major` must match the `prepare` -/
  | release (g : G) (major : Bool) (h : g.inMajor = major) :
      Step g { g with s := g.s.release major, inMajor := false, old := fun _ _ => False, fresh := fun _ _ => False }
  /-- an allocator pops block `b` from the reusable list -/
  | pop (g : G) (b : Nat) (copy : Bool) (s' : Space) (hr : g.s.reusable b = true)
      (h : g.s.popReusable b copy = some s') : Step g { g with s := s' }
  /-- the allocator owning block `b` (cursor `l`) searches for its next hole; the hole (if any) is
  handed to its bump pointer -/
  | hole (g : G) (b l : Nat) (hc : g.s.cursor b = some l) :
      Step g { g with
        s := (g.s.holeStep b l).1
        fresh := fun b' l' => g.fresh b' l' ∨ (b' = b ∧ ∃ st en, (g.s.holeStep b l).2 = some (st, en) ∧ st ≤ l' ∧ l' < en)
        marked := fun b' l' => g.marked b' l' ∨ (g.s.asLive = true ∧ b' = b ∧ ∃ st en, (g.s.holeStep b l).2 = some (st, en) ∧ st ≤ l' ∧ l' < en) }
  /-- the page resource grants the unallocated block `b` as a clean block -/
  | clean (g : G) (b : Nat) (copy : Bool) (hu : ¬ allocd g.s b) :
      Step g { g with
        s := g.s.acquireClean b copy
        fresh := fun b' l' => g.fresh b' l' ∨ (b' = b ∧ l' < LINES)
        marked := fun b' l' => g.marked b' l' ∨ (g.s.asLive = true ∧ b' = b ∧ l' < LINES) }
  /-- concurrent marking switches allocate-as-live on or off -/
  | setAsLive (g : G) (v : Bool) : Step g { g with s := { g.s with asLive := v } }
  /-- an allocator is reset (`ImmixAllocator::reset`) and forgets its cursor -/
  | dropCursor (g : G) (b : Nat) : Step g { g with s := { g.s with cursor := upd g.s.cursor b none } }

inductive Reachable : G → Prop
  | init : Reachable G.init
  | step {g g' : G} : Reachable g → Step g g' → Reachable g'

/-! ## The invariant

`Inv` says three independent things: where the mark state is in its cycle (`cur1` … `major`) and, for
every block, how its line table relates to the ghost sets `marked`/`old` (`len`, `mkI`, `oldI`, `stale`,
`exact`) and how its place in the reusable list and the cursor of the allocator owning it relate to
`fresh` (`freshI` … `curI`).  Every step other than `prepare`/`release` touches one block, so the proof
of `inv_step` works with these three aspects as records of their own, one per block: `CycleOk` and
`OwnerOk` keep the field names of `Inv`; `LinesOk` regroups the line clauses as `len`, `dom` (a ghost line
lies in an allocated block, below `LINES`) and `line` (per line a `LineOk`, whose `exact` is `Inv.exact`
and the mark half of `Inv.mkI` as one iff).  `Inv.cycle`/`lines`/`owner` take `Inv` apart, `Inv.of_blocks`
puts it together again. -/

structure Inv (g : G) : Prop where
  cur1 : 1 ≤ g.s.cur
  curM : g.s.cur ≤ maxMarkState
  un1 : 1 ≤ g.s.unavail
  unM : g.s.unavail ≤ maxMarkState
  idle : g.inMajor = false → g.s.cur = g.s.unavail ∧ ∀ b l, ¬ g.old b l
  major : g.inMajor = true → g.s.cur = nextMarkState g.s.unavail
  len : ∀ b, allocd g.s b → (g.s.blk b).marks.length = LINES
  mkI : ∀ b l, g.marked b l → allocd g.s b ∧ l < LINES ∧ markOf g.s b l = g.s.cur
  oldI : ∀ b l, g.old b l → allocd g.s b ∧ l < LINES ∧ (markOf g.s b l = g.s.unavail ∨ markOf g.s b l = g.s.cur)
  freshI : ∀ b l, g.fresh b l → allocd g.s b ∧ g.s.reusable b = false ∧ l < LINES ∧ ∀ c, g.s.cursor b = some c → l < c
  reuI : ∀ b, g.s.reusable b = true → allocd g.s b ∧ g.s.cursor b = none
  unI : ∀ b, ¬ allocd g.s b → g.s.cursor b = none ∧ g.s.reusable b = false
  curI : ∀ b c, g.s.cursor b = some c → allocd g.s b ∧ c < LINES ∧ g.s.reusable b = false
  -- a mark other than `cur` is one the sweep of the GC with state `unavail` (`staleIdle`'s first argument) leaves
  stale : ∀ b l, allocd g.s b → l < LINES → markOf g.s b l = g.s.cur ∨ staleIdle g.s.unavail (markOf g.s b l)
  -- converse of `mkI`: no stale mark equals `cur`
  exact : ∀ b l, allocd g.s b → l < LINES → markOf g.s b l = g.s.cur → g.marked b l

theorem upd_same {α} (f : Nat → α) (i : Nat) (v : α) : upd f i v i = v := if_pos rfl
theorem upd_other {α} (f : Nat → α) (i j : Nat) (v : α) (h : j ≠ i) : upd f i v j = f j := if_neg h

theorem prepare_state (b : Block) (d : Bool) : (b.prepare d).state = .unallocated ↔ b.state = .unallocated := by
  unfold Block.prepare
  split <;> simp_all

theorem prepare_marks (b : Block) (d : Bool) : (b.prepare d).marks = b.marks := by
  unfold Block.prepare
  split <;> rfl

theorem init_state (b : Block) (copy : Bool) : (b.init copy).state ≠ .unallocated := by
  cases copy <;> exact nofun

theorem prepare_cur (s : Space) (sel : Nat → Bool) : (s.prepare true sel).cur = nextMarkState s.cur := rfl
theorem prepare_unavail (s : Space) (sel : Nat → Bool) : (s.prepare true sel).unavail = s.unavail := rfl
theorem prepare_cursor (s : Space) (sel : Nat → Bool) : (s.prepare true sel).cursor = s.cursor := rfl
theorem prepare_reusable (s : Space) (sel : Nat → Bool) : (s.prepare true sel).reusable = s.reusable := rfl
theorem prepare_blk (s : Space) (sel : Nat → Bool) (i : Nat) : (s.prepare true sel).blk i = (s.blk i).prepare (sel i) := rfl

theorem popReusable_some {s s' : Space} {b : Nat} {copy : Bool} (h : s.popReusable b copy = some s') :
    s' = s.popDrop b ∨ s' = s.popInit b copy := by
  unfold Space.popReusable at h
  split at h
  · exact Or.inl (Option.some.inj h).symm
  · split at h
    · exact Or.inr (Option.some.inj h).symm
    · exact Or.inr (Option.some.inj h).symm
    · cases h

theorem holeStep_snd (s : Space) (b l : Nat) :
    (s.holeStep b l).2 = holeSearch (s.blk b).marks s.unavail s.cur l := by
  unfold Space.holeStep
  split
  · next h => exact h.symm
  · next h => exact h.symm

/-- The shape in which `Step.hole` speaks of the hole that was found. -/
theorem exists_hole_iff {a b : Nat} {P : Nat → Nat → Prop} :
    (∃ st en, some (a, b) = some (st, en) ∧ P st en) ↔ P a b :=
  ⟨fun ⟨_, _, h, hp⟩ => by cases h; exact hp, fun h => ⟨a, b, rfl, h⟩⟩

structure CycleOk (cur un : Nat) (inMajor : Bool) (old : Nat → Nat → Prop) : Prop where
  cur1 : 1 ≤ cur
  curM : cur ≤ maxMarkState
  un1 : 1 ≤ un
  unM : un ≤ maxMarkState
  idle : inMajor = false → cur = un ∧ ∀ b l, ¬ old b l
  major : inMajor = true → cur = nextMarkState un

/-- One line of an allocated block, with mark `m`; `k`, `o`: the line is in `marked`, `old`. -/
structure LineOk (cur un m : Nat) (k o : Prop) : Prop where
  exact : m = cur ↔ k
  oldI : o → m = un ∨ m = cur
  stale : m = cur ∨ staleIdle un m

/-- `al`: the block is allocated; `ms`: its line marks; `mk`, `od`: its lines in `marked`, `old`. -/
structure LinesOk (cur un : Nat) (al : Prop) (ms : List Nat) (mk od : Nat → Prop) : Prop where
  len : al → ms.length = LINES
  dom : ∀ l, mk l ∨ od l → al ∧ l < LINES
  line : ∀ l, al → l < LINES → LineOk cur un (ms.getD l 0) (mk l) (od l)

/-- `cu`: the cursor of the allocator owning the block, if any; `re`: the block is in the reusable
list; `fr`: its lines in `fresh`. -/
structure OwnerOk (al : Prop) (cu : Option Nat) (re : Bool) (fr : Nat → Prop) : Prop where
  freshI : ∀ l, fr l → al ∧ re = false ∧ l < LINES ∧ ∀ c, cu = some c → l < c
  reuI : re = true → al ∧ cu = none
  unI : ¬ al → cu = none ∧ re = false
  curI : ∀ c, cu = some c → al ∧ c < LINES ∧ re = false

section
variable {cur un un' m l en : Nat} {inMajor re : Bool} {old old' : Nat → Nat → Prop} {k o al al' : Prop}
  {ms : List Nat} {mk od fr : Nat → Prop} {cu : Option Nat}

theorem LinesOk.mkI (h : LinesOk cur un al ms mk od) (hm : mk l) : al ∧ l < LINES ∧ ms.getD l 0 = cur :=
  let ⟨a, hl⟩ := h.dom l (Or.inl hm)
  ⟨a, hl, (h.line l a hl).exact.2 hm⟩

theorem LinesOk.oldI (h : LinesOk cur un al ms mk od) (ho : od l) :
    al ∧ l < LINES ∧ (ms.getD l 0 = un ∨ ms.getD l 0 = cur) :=
  let ⟨a, hl⟩ := h.dom l (Or.inr ho)
  ⟨a, hl, (h.line l a hl).oldI ho⟩

theorem Inv.cycle {g : G} (hi : Inv g) : CycleOk g.s.cur g.s.unavail g.inMajor g.old :=
  ⟨hi.cur1, hi.curM, hi.un1, hi.unM, hi.idle, hi.major⟩

theorem Inv.lines {g : G} (hi : Inv g) (b : Nat) :
    LinesOk g.s.cur g.s.unavail (allocd g.s b) (g.s.blk b).marks (g.marked b) (g.old b) :=
  ⟨hi.len b, fun l h => h.elim (fun m => ⟨(hi.mkI b l m).1, (hi.mkI b l m).2.1⟩)
      fun o => ⟨(hi.oldI b l o).1, (hi.oldI b l o).2.1⟩,
    fun l a hl => ⟨⟨hi.exact b l a hl, fun m => (hi.mkI b l m).2.2⟩, fun o => (hi.oldI b l o).2.2,
      hi.stale b l a hl⟩⟩

theorem Inv.owner {g : G} (hi : Inv g) (b : Nat) :
    OwnerOk (allocd g.s b) (g.s.cursor b) (g.s.reusable b) (g.fresh b) :=
  ⟨hi.freshI b, hi.reuI b, hi.unI b, hi.curI b⟩

theorem Inv.of_blocks {g : G} (hc : CycleOk g.s.cur g.s.unavail g.inMajor g.old)
    (hb : ∀ b, LinesOk g.s.cur g.s.unavail (allocd g.s b) (g.s.blk b).marks (g.marked b) (g.old b) ∧
      OwnerOk (allocd g.s b) (g.s.cursor b) (g.s.reusable b) (g.fresh b)) : Inv g :=
  ⟨hc.cur1, hc.curM, hc.un1, hc.unM, hc.idle, hc.major, fun b => (hb b).1.len, fun b _ => (hb b).1.mkI,
    fun b _ => (hb b).1.oldI, fun b => (hb b).2.freshI, fun b => (hb b).2.reuI, fun b => (hb b).2.unI,
    fun b => (hb b).2.curI, fun b l a hl => ((hb b).1.line l a hl).stale,
    fun b l a hl => ((hb b).1.line l a hl).exact.1⟩

theorem CycleOk.cur_eq (h : CycleOk cur un inMajor old) : cur = un ∨ cur = nextMarkState un := by
  cases hm : inMajor
  · exact Or.inl (h.idle hm).1
  · exact Or.inr (h.major hm)

theorem CycleOk.prepare (h : CycleOk cur un inMajor old) (hm : inMajor = false) :
    CycleOk (nextMarkState cur) un true old' :=
  have hn := nextMarkState_range cur h.curM
  ⟨hn.1, hn.2.1, h.un1, h.unM, nofun, fun _ => (h.idle hm).1 ▸ rfl⟩

/-- `release(major)` sets the unavailable state to the current one; after a nursery GC it already was. -/
theorem CycleOk.release (h : CycleOk cur un inMajor old) (hu : un' = cur) :
    CycleOk cur un' false (fun _ _ => False) := by
  subst hu
  exact ⟨h.cur1, h.curM, h.cur1, h.curM, fun _ => ⟨rfl, fun _ _ => id⟩, nofun⟩

theorem LineOk.markIf (h : LineOk cur un m k o) (P : Prop) [Decidable P] :
    LineOk cur un (if P then cur else m) (k ∨ P) o := by
  by_cases hp : P
  · rw [if_pos hp]
    exact ⟨iff_of_true rfl (Or.inr hp), fun _ => Or.inr rfl, Or.inl rfl⟩
  · rw [if_neg hp]
    exact ⟨h.exact.trans (or_iff_left hp).symm, h.oldI, h.stale⟩

theorem LineOk.zero (h1 : 1 ≤ cur) (hk : ¬ k) (ho : ¬ o) : LineOk cur un 0 k o where
  exact := iff_of_false (by omega) hk
  oldI h := absurd h ho
  stale := Or.inr (Or.inl rfl)

/-- `prepare` of a major GC: what was marked is now `old` and carries the unavailable state; the line
does not carry the new state, because a stale mark never equals it. -/
theorem LineOk.prepare (h : LineOk cur cur m k o) (hM : cur ≤ maxMarkState) :
    LineOk (nextMarkState cur) cur m False k :=
  have hs : staleIdle cur m := h.stale.elim (fun e => Or.inr (Or.inl e)) id
  { exact := iff_of_false (stale_ne_next cur m hM hs) id
    oldI := fun hk => Or.inl (h.exact.2 hk)
    stale := Or.inr hs }

theorem LineOk.sweep (h : LineOk cur un m k o) (hc : CycleOk cur un inMajor old) :
    LineOk cur cur (sweepMark cur m) k False where
  exact := (sweepMark_eq_cur hc.cur1).trans h.exact
  oldI := False.elim
  stale := Or.inr (stale_sweep un cur m hc.unM hc.cur_eq h.stale)

theorem LinesOk.of_unallocated (hu : ¬ al) (hd : ∀ l, mk l ∨ od l → al) : LinesOk cur un al ms mk od where
  len a := absurd a hu
  dom l h := absurd (hd l h) hu
  line _ a := absurd a hu

theorem LinesOk.congr_alloc (h : LinesOk cur un al ms mk od) (hal : al' ↔ al) :
    LinesOk cur un al' ms mk od :=
  propext hal ▸ h

theorem LinesOk.prepare (h : LinesOk cur un al ms mk od) (hcu : cur = un) (hM : cur ≤ maxMarkState) :
    LinesOk (nextMarkState cur) un al ms (fun _ => False) mk := by
  subst hcu
  exact { len := h.len
          dom := fun l hk => h.dom l (hk.elim False.elim Or.inl)
          line := fun l a hl => (h.line l a hl).prepare hM }

theorem LinesOk.markIf (h : LinesOk cur un al ms mk od) (hal : al) {lo hi : Nat} (hhi : hi ≤ LINES) :
    LinesOk cur un al (markLines cur lo hi ms) (fun l => mk l ∨ (lo ≤ l ∧ l < hi)) od where
  len _ := (markLines_length ..).trans (h.len hal)
  dom _ hk := ⟨hal, hk.elim (fun hk => hk.elim (fun m => (h.mkI m).2.1) fun r => Nat.lt_of_lt_of_le r.2 hhi)
    fun o => (h.oldI o).2.1⟩
  line l a hl := (markLines_getD cur lo hi ms l (h.len hal ▸ hl)).symm ▸ (h.line l a hl).markIf _

/-- Eager marking: `Space.takeHole` and `Space.acquireClean` mark the range only when allocating as live. -/
theorem LinesOk.markIfLive (h : LinesOk cur un al ms mk od) (hal : al) {lo hi : Nat} (hhi : hi ≤ LINES) (live : Bool) :
    LinesOk cur un al (if live = true then markLines cur lo hi ms else ms)
      (fun l => mk l ∨ (live = true ∧ lo ≤ l ∧ l < hi)) od := by
  cases live
  · simpa using h
  · simpa using h.markIf hal hhi

theorem LinesOk.clean (h1 : 1 ≤ cur) (hal : al) (hmk : ∀ l, ¬ mk l) (hod : ∀ l, ¬ od l) (live : Bool) :
    LinesOk cur un al
      (if live = true then markLines cur 0 LINES (List.replicate LINES 0) else List.replicate LINES 0)
      (fun l => mk l ∨ (live = true ∧ l < LINES)) od := by
  have hz : LinesOk cur un al (List.replicate LINES 0) mk od :=
    { len := fun _ => List.length_replicate
      dom := fun l h => (h.elim (hmk l) (hod l)).elim
      line := fun l _ _ => (replicate_getD LINES l).symm ▸ LineOk.zero h1 (hmk l) (hod l) }
  simpa only [Nat.zero_le, true_and] using hz.markIfLive (lo := 0) hal (Nat.le_refl _) live

/-- `Block::sweep`: a block that is allocated afterwards (`al'`) was so before (`hal`), and a block with
a line marked `cur` stays allocated (`hkeep`). -/
theorem LinesOk.sweep (h : LinesOk cur un al ms mk od) (hc : CycleOk cur un inMajor old) (hal : al' → al)
    (hkeep : ∀ l, l < ms.length → ms.getD l 0 = cur → al') :
    LinesOk cur cur al' (ms.map (sweepMark cur)) mk (fun _ => False) where
  len a := (List.length_map _).trans (h.len (hal a))
  dom l hk := hk.elim (fun m => let ⟨a, hl, e⟩ := h.mkI m; ⟨hkeep l (h.len a ▸ hl) e, hl⟩) False.elim
  line l a hl := (getD_map_sweepMark cur ms l).symm ▸ (h.line l (hal a) hl).sweep hc

theorem OwnerOk.reset (h : re = true → al) : OwnerOk al none re (fun _ => False) where
  freshI _ := False.elim
  reuI r := ⟨h r, rfl⟩
  unI n := ⟨rfl, Bool.eq_false_iff.2 fun r => n (h r)⟩
  curI := nofun

theorem OwnerOk.unlist (h : OwnerOk al cu re fr) : OwnerOk al cu false fr where
  freshI l f := let ⟨a, _, r⟩ := h.freshI l f; ⟨a, rfl, r⟩
  reuI := nofun
  unI n := ⟨(h.unI n).1, rfl⟩
  curI c e := let ⟨a, l, _⟩ := h.curI c e; ⟨a, l, rfl⟩

/-- An allocated block outside the reusable list: all that is asked is a line `k` below which the lines
handed out lie and which is the cursor of its allocator, if it has one. -/
theorem OwnerOk.owned (hal : al) {k : Nat} (hk : k ≤ LINES) (hfr : ∀ l, fr l → l < k)
    (hcu : ∀ c, cu = some c → c = k ∧ k < LINES) : OwnerOk al cu false fr where
  freshI l f := ⟨hal, rfl, Nat.lt_of_lt_of_le (hfr l f) hk, fun c e => (hcu c e).1 ▸ hfr l f⟩
  reuI := nofun
  unI n := absurd hal n
  curI c e := ⟨hal, (hcu c e).1 ▸ (hcu c e).2, rfl⟩

/-- A block popped from the reusable list gets an allocator with cursor 0: no line of a listed block
has been handed out. -/
theorem OwnerOk.pop (h : OwnerOk al cu true fr) (hal : al') : OwnerOk al' (some 0) false fr :=
  .owned hal (Nat.zero_le _) (fun l f => nomatch (h.freshI l f).2.1)
    fun _ e => ⟨(Option.some.inj e).symm, Nat.lt_of_lt_of_le (by decide) LINES_facts.1⟩

theorem OwnerOk.dropCursor (h : OwnerOk al cu re fr) : OwnerOk al none re fr where
  freshI l f := let ⟨a, r, hl, _⟩ := h.freshI l f; ⟨a, r, hl, nofun⟩
  reuI r := ⟨(h.reuI r).1, rfl⟩
  unI n := ⟨rfl, (h.unI n).2⟩
  curI := nofun

/-- The allocator with cursor `l` takes lines up to `en`: the cursor moves there (or is dropped at
the end of the block), so every line handed out stays below it. -/
theorem OwnerOk.take (h : OwnerOk al (some l) re fr) (st : Nat) (h1 : l ≤ en) (h2 : en ≤ LINES) :
    OwnerOk al (if en = LINES then none else some en) re (fun j => fr j ∨ (st ≤ j ∧ j < en)) := by
  obtain ⟨a, _, rfl⟩ := h.curI l rfl
  refine .owned a h2 (fun j f => f.elim (fun f => Nat.lt_of_lt_of_le ((h.freshI j f).2.2.2 l rfl) h1) (·.2))
    fun c e => ?_
  split at e
  · cases e
  · next hne => exact ⟨(Option.some.inj e).symm, Nat.lt_of_le_of_ne h2 hne⟩

theorem OwnerOk.clean (h : OwnerOk al cu re fr) (hu : ¬ al) (hal : al') :
    OwnerOk al' cu re (fun l => fr l ∨ l < LINES) := by
  obtain ⟨rfl, rfl⟩ := h.unI hu
  exact .owned hal (Nat.le_refl _) (fun l f => f.elim (fun f => absurd (h.freshI l f).1 hu) id) nofun

end

theorem inv_init : Inv G.init :=
  .of_blocks ⟨by decide, by decide, by decide, by decide, fun _ => ⟨rfl, fun _ _ => id⟩, nofun⟩
    fun _ => ⟨.of_unallocated (fun a => a rfl) (fun _ h => (h.elim id id).elim), .reset nofun⟩

theorem Inv.allocd_of_protected {g : G} (hi : Inv g) {b l : Nat} (hp : g.protected b l) : allocd g.s b :=
  hp.elim (fun h => (hi.mkI b l h).1) fun hp =>
    hp.elim (fun h => (hi.oldI b l h).1) fun h => (hi.freshI b l h).1

theorem Inv.dropCursor {g : G} (hi : Inv g) (b : Nat) :
    Inv { g with s := { g.s with cursor := upd g.s.cursor b none } } := by
  refine .of_blocks hi.cycle fun b' => ⟨hi.lines b', ?_⟩
  by_cases hb : b' = b
  · subst hb
    simp only [upd_same]
    exact (hi.owner b').dropCursor
  · simp only [upd_other _ _ _ _ hb]
    exact hi.owner b'

theorem inv_step {g g' : G} (hi : Inv g) (hs : Step g g') : Inv g' := by
  cases hs with
  | prepareMajor sel h =>
    refine .of_blocks (hi.cycle.prepare h) fun b => ?_
    simp only [allocd, ne_eq, prepare_blk, prepare_state, prepare_marks]
    exact ⟨(hi.lines b).prepare (hi.idle h).1 hi.curM, hi.owner b⟩
  | markObject b lo hi' hlt hhi hres =>
    have hab := hi.allocd_of_protected (hres lo (Nat.le_refl _) hlt)
    refine .of_blocks hi.cycle fun b' => ?_
    by_cases hb : b' = b
    · subst hb
      simp only [allocd, Space.markObject, upd_same, true_and]
      exact ⟨(hi.lines b').markIf hab hhi, hi.owner b'⟩
    · simp only [allocd, Space.markObject, upd_other _ _ _ _ hb, hb, false_and, or_false]
      exact ⟨hi.lines b', hi.owner b'⟩
  | release major h =>
    have hnu : (if major = true then g.s.cur else g.s.unavail) = g.s.cur := by
      cases major
      · exact (hi.idle h).1.symm
      · rfl
    refine .of_blocks (hi.cycle.release hnu) fun b => ?_
    by_cases ha : allocd g.s b
    · have hlen := hi.len b ha
      simp only [allocd, Space.release, hnu, if_neg ha, sweepBlock_marks]
      refine ⟨(hi.lines b).sweep hi.cycle (fun _ => ha) (sweepBlock_keeps _ _), .reset fun r e => ?_⟩
      -- a block pushed to the reusable list (reported `Reused`) is not stored as `Unallocated`, which is reported `Swept`
      simp only [Bool.and_eq_true, decide_eq_true_eq] at r
      have := (sweepBlock_state g.s.cur (g.s.blk b) hlen).2.2.2 e
      rw [r.2] at this
      cases this
    · simp only [allocd, Space.release, hnu, if_pos (Decidable.not_not.1 ha)]
      exact ⟨.of_unallocated ha fun l h => h.elim (fun m => (hi.mkI b l m).1) False.elim,
        .reset fun r => of_decide_eq_true (Bool.and_eq_true_iff.1 r).1⟩
  | pop b copy s' hr h =>
    rcases popReusable_some h with rfl | rfl
    · refine .of_blocks hi.cycle fun b' => ⟨hi.lines b', ?_⟩
      by_cases hb : b' = b
      · subst hb
        simp only [Space.popDrop, upd_same]
        exact (hi.owner b').unlist
      · simp only [Space.popDrop, upd_other _ _ _ _ hb]
        exact hi.owner b'
    · refine .of_blocks hi.cycle fun b' => ?_
      by_cases hb : b' = b
      · subst hb
        have hal := init_state (g.s.blk b') copy
        simp only [allocd, Space.popInit, upd_same]
        exact ⟨(hi.lines b').congr_alloc ⟨fun _ => (hi.reuI b' hr).1, fun _ => hal⟩,
          (hr ▸ hi.owner b').pop hal⟩
      · simp only [allocd, Space.popInit, upd_other _ _ _ _ hb]
        exact ⟨hi.lines b', hi.owner b'⟩
  | hole b l hc =>
    obtain ⟨hab, hlL, _⟩ := hi.curI b l hc
    have hlen := hi.len b hab
    cases hh : holeSearch (g.s.blk b).marks g.s.unavail g.s.cur l with
    | none =>
      -- no hole: the `∃ st en, none = some _ ∧ _` disjuncts of the ghost updates vanish and the space is
      -- `Space.noHole`, so what is left is the statement of `Inv.dropCursor`
      simp only [Space.holeStep, hh, reduceCtorEq, false_and, exists_false, and_false, or_false]
      exact hi.dropCursor b
    | some p =>
      obtain ⟨st, en⟩ := p
      obtain ⟨s1, s2, s3, _⟩ := holeSearch_some _ _ _ _ _ _ (hlen ▸ Nat.le_of_lt hlL) hh
      rw [hlen] at s3
      simp only [Space.holeStep, hh, exists_hole_iff]
      refine .of_blocks hi.cycle fun b' => ?_
      by_cases hb : b' = b
      · subst hb
        simp only [allocd, Space.takeHole, upd_same, true_and]
        exact ⟨(hi.lines b').markIfLive hab s3 g.s.asLive,
          (hc ▸ hi.owner b').take st (Nat.le_trans s1 (Nat.le_of_lt s2)) s3⟩
      · simp only [allocd, Space.takeHole, upd_other _ _ _ _ hb, hb, false_and, and_false, or_false]
        exact ⟨hi.lines b', hi.owner b'⟩
  | clean b copy hu =>
    refine .of_blocks hi.cycle fun b' => ?_
    by_cases hb : b' = b
    · subst hb
      have hal := init_state (g.s.blk b') copy
      simp only [allocd, Space.acquireClean, upd_same, true_and]
      exact ⟨.clean hi.cur1 hal (fun l m => hu (hi.mkI b' l m).1) (fun l o => hu (hi.oldI b' l o).1) g.s.asLive,
        (hi.owner b').clean hu hal⟩
    · simp only [allocd, Space.acquireClean, upd_other _ _ _ _ hb, hb, false_and, and_false, or_false]
      exact ⟨hi.lines b', hi.owner b'⟩
  | setAsLive v => exact .of_blocks hi.cycle fun b => ⟨hi.lines b, hi.owner b⟩
  | dropCursor b => exact hi.dropCursor b

theorem Reachable.inv {g : G} (h : Reachable g) : Inv g := by
  induction h with
  | init => exact inv_init
  | step _ hs ih => exact inv_step ih hs

/-- In every reachable state a line in the ghost set `marked` (passed to
`Step.markObject` or marked eagerly since the last major `prepare`) belongs to an allocated block and
carries the current mark state; a line in `old` (marked in the previous cycle, during a major GC)
belongs to an allocated block and carries the unavailable or the current state.  Liveness is not
modelled: `marked` stands for "spanned by an object the GC found live". -/
theorem live_lines_marked {g : G} (h : Reachable g) (b l : Nat) :
    (g.marked b l → allocd g.s b ∧ l < LINES ∧ markOf g.s b l = g.s.cur) ∧
    (g.old b l → allocd g.s b ∧ l < LINES ∧ (markOf g.s b l = g.s.unavail ∨ markOf g.s b l = g.s.cur)) :=
  ⟨h.inv.mkI b l, h.inv.oldI b l⟩

/-- Hole search never returns a line that may hold a live object: in any reachable state, the
range an allocator gets from `get_next_available_lines` on the block it owns is non-empty, inside the
block, carries neither the unavailable nor the current mark state, and is disjoint from the lines of
objects marked in this cycle, of objects live at the last full collection, and from every line
already handed to an allocator since the last GC. -/
theorem hole_avoids_live {g : G} (h : Reachable g) (b l st en : Nat) (hc : g.s.cursor b = some l)
    (hh : (g.s.holeStep b l).2 = some (st, en)) :
    l ≤ st ∧ st < en ∧ en ≤ LINES ∧
    ∀ j, st ≤ j → j < en →
      markOf g.s b j ≠ g.s.unavail ∧ markOf g.s b j ≠ g.s.cur ∧ ¬ g.protected b j := by
  have hi := h.inv
  obtain ⟨hab, hlL, _⟩ := hi.curI b l hc
  have hlen := hi.len b hab
  rw [holeStep_snd] at hh
  obtain ⟨s1, s2, s3, s4, _⟩ := holeSearch_some _ _ _ _ _ _ (hlen ▸ Nat.le_of_lt hlL) hh
  refine ⟨s1, s2, hlen ▸ s3, fun j hj1 hj2 => ?_⟩
  obtain ⟨m1, m2⟩ := s4 j hj1 hj2
  refine ⟨m1, m2, fun hp => ?_⟩
  rcases hp with hp | hp | hp
  · exact m2 (hi.mkI b j hp).2.2
  · exact (hi.oldI b j hp).2.2.elim m1 m2
  · exact Nat.lt_irrefl j (Nat.lt_of_lt_of_le ((hi.freshI b j hp).2.2.2 l hc) (Nat.le_trans s1 hj1))

/-- A clean block granted by the page resource holds no live object (no line of an unallocated block
is protected): an allocator that bumps into it overwrites no protected line. -/
theorem clean_block_avoids_live {g : G} (h : Reachable g) (b : Nat) (hu : ¬ allocd g.s b) (l : Nat) :
    ¬ g.protected b l :=
  fun hp => hu (h.inv.allocd_of_protected hp)

/-- Stale marks are cleared before the state wraps: in every reachable state — after any number of
collections, in particular more than 127 — a line of an allocated block carries the current mark
state iff it was marked since the last major `prepare`. A mark left over from 127 collections ago
is never mistaken for a current one (the sweeps at states `MAX-1` and `MAX` zero every unmarked line). -/
theorem stale_cleared {g : G} (h : Reachable g) (b l : Nat) (ha : allocd g.s b) (hl : l < LINES) :
    markOf g.s b l = g.s.cur ↔ g.marked b l :=
  ⟨h.inv.exact b l ha hl, fun hm => (h.inv.mkI b l hm).2.2⟩

theorem mark_state_range {g : G} (h : Reachable g) :
    1 ≤ g.s.cur ∧ g.s.cur ≤ maxMarkState ∧ 1 ≤ g.s.unavail ∧ g.s.unavail ≤ maxMarkState ∧
    (g.inMajor = false → g.s.cur = g.s.unavail) :=
  ⟨h.inv.cur1, h.inv.curM, h.inv.un1, h.inv.unM, fun hm => (h.inv.idle hm).1⟩

example : nextMarkState 1 = 2 ∧ nextMarkState 126 = 127 ∧ nextMarkState 127 = 1 := by decide

/-! ## ConcurrentImmix's `NonMoving` allocator before mmtk-core commit 0ea5616

`Step.release` clears every allocator cursor and `fresh`: this transcribes `Mutator::release` →
`immix_mutator_release` / `common_release_func` (`ImmixAllocator::reset`) and `CopyContext::release`.
Before the commit "fix: ConcurrentImmix resets the non-moving space's allocator at prepare/release"
(0ea5616), `concurrent_immix_mutator_release` / `concurent_immix_mutator_prepare`
(src/plan/concurrent/immix/mutator.rs:25, :56) reset only the `Default` allocator and did not call
`common_release_func` / `common_prepare_func` (the commit added the calls, :43 and :73), so the
ImmixAllocator of the `NonMoving` semantics kept its bump pointer, large bump pointer and hole cursor
across collections.  `hole_avoids_live` is a statement about spaces all of whose allocators are reset at
release (`Step.release` is the only release of the model): it covers every ImmixSpace of every plan
since that commit, and did not cover the `nonmoving` space of ConcurrentImmix before it.
`G.releaseKeepingAllocators` is a release without the reset;
`conc_nonmoving_allocator_not_reset_witness` applies it to one hand-built state (not to that program's
history) and gets a state that violates `Inv`. -/

/-- `ImmixSpace::release` + sweep WITHOUT the allocator reset (what ConcurrentImmix did for its
NonMoving allocator before 0ea5616): the allocator keeps its bump region, i.e. `fresh` and the cursors survive. -/
def G.releaseKeepingAllocators (g : G) (major : Bool) : G :=
  { g with s := { g.s.release major with cursor := g.s.cursor }, inMajor := false, old := fun _ _ => False }

/-- A state written out by hand (not derived through `Step`): block 0 has been granted as a clean block,
all its lines are in `fresh` (the allocator's bump region is the whole block), nothing is marked. -/
def witnessBefore : G :=
  { G.init with s := G.init.s.acquireClean 0 false, fresh := fun b l => b = 0 ∧ l < LINES }

/-- `witnessBefore` after a major `prepare` and a release without the allocator reset, with no
`markObject` in between. -/
def witnessAfter : G :=
  ({ witnessBefore with s := witnessBefore.s.prepare true (fun _ => false), inMajor := true,
                         marked := fun _ _ => False, old := witnessBefore.marked }).releaseKeepingAllocators true

/-- In `witnessAfter`, line 0 of block 0 is in `fresh` (part of an allocator's bump region) although the
block is unallocated, so the page resource may grant it again (`Step.clean` is enabled).  Hence
`Inv.freshI` fails — the third conjunct follows from the first two — and no `Reachable` state, whose
releases are all `Step.release`, looks like this. -/
theorem conc_nonmoving_allocator_not_reset_witness :
    witnessAfter.fresh 0 0 ∧ ¬ allocd witnessAfter.s 0 ∧ ¬ Inv witnessAfter := by
  have h1 : witnessAfter.fresh 0 0 := ⟨rfl, by decide⟩
  have h2 : ¬ allocd witnessAfter.s 0 := by
    simp only [allocd, witnessAfter, witnessBefore, G.releaseKeepingAllocators]
    decide
  exact ⟨h1, h2, fun hi => h2 (hi.freshI 0 0 h1).1⟩

/-- Corollary: `hole_avoids_live` again, named for what it is with respect to mmtk-core before 0ea5616 —
the part of the property that held there, for spaces whose allocators are reset at release. -/
theorem hole_avoids_live_partial {g : G} (h : Reachable g) (b l st en : Nat) (hc : g.s.cursor b = some l)
    (hh : (g.s.holeStep b l).2 = some (st, en)) :
    l ≤ st ∧ st < en ∧ en ≤ LINES ∧
    ∀ j, st ≤ j → j < en →
      markOf g.s b j ≠ g.s.unavail ∧ markOf g.s b j ≠ g.s.cur ∧ ¬ g.protected b j :=
  hole_avoids_live h b l st en hc hh

example : holeSearch [1, 1, 0, 0, 2, 0, 7, 1] 1 2 0 = some (2, 4) := by decide
example : holeSearch [1, 1, 0, 0, 2, 0, 7, 1] 1 2 4 = some (5, 7) := by decide
example : holeSearch [1, 1, 0, 0, 2, 0, 7, 1] 1 2 7 = none := by decide
example : (sweepLines 127 [127, 5, 126, 127] true).1 = [127, 0, 0, 127] := by decide
example : (sweepLines 5 [127, 5, 4, 5] true) = ([127, 5, 4, 5], 2, 2) := by decide
example : objLines 0x20000400f8 16 = (0x20000400, 0x20000402) := by decide

end Mmtk.Immix
