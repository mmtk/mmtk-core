import MmtkModel.Props.C15Stages
import MmtkModel.Props.C11Req  -- not used here: `checks/C11.py` builds this module alone and audits `Mmtk.Req.*` too
/-!
# C11 — Stop-the-world bracket: stop once, scan each mutator once, resume once

Model: `Model/Sched.lean`.  `stopAll` = the running packet calls `Collection::stop_all_mutators`
(`StopMutators::do_work`), `openFirst` = `notify_mutators_paused` opens the first stop-the-world
bucket, `resume` = `Collection::resume_mutators` inside `on_gc_finished`.  All theorems: every
reachable state / transition, all interleavings, all `n ≥ 1`, every stage table with `Cfg.WF2`
(the generated one has it: `generated_wf2`).

* `stop_before_trace` — a packet can be taken out of a stop-the-world bucket (`pollBucket`,
  `batchMove`), and a packet can be added to a local deque for a stop-the-world stage (`pushLocal`),
  only while the mutators are stopped: every open stop-the-world bucket implies `stopped`
  (`stw_open_means_stopped`): the first one is opened after `stop_all_mutators`, the later ones need the
  first one open and drained.
* `stopped_only_in_gc`, `one_stop_per_gc` — `stop_all_mutators` is called only while a Gc goal is
  current and at most once per bracket (`stops ≤ resumes + [stopped]`).  At most: `stopAll` is an action a packet
  may take, not one it must, so a GC of the model can complete with the mutators never stopped.
* `resume_once_after_all` — `resume_mutators` is called exactly in the transition that completes the
  Gc goal (`resumes = gcDone` always): it is a `park`, no worker runs a packet, and afterwards every stop-the-world
  bucket is closed and empty and every local deque is empty.  (That the other workers are parked is C14
  `gc_completes_under_fairness` / `others_parked_when_last`, not a conjunct here.)
* `no_stw_after_resume` — while the mutators are not stopped every stop-the-world bucket is closed, so
  no stop-the-world packet can be polled after `resume_mutators` until the next `stop_all_mutators`.
* "every mutator's roots are scanned exactly once" is an instance of packet conservation for the
  per-mutator `ScanMutatorRoots` packets, which the abstract-packet model cannot name; it is checked on
  every replayed GC by the monitor (`gc:scan-twice`, `gc:scan-count`).  Exemption that is part of the
  statement: plans with `needs_forward_after_liveness` (MarkCompact) scan every mutator a second time
  in the `SecondRoots` stage — once per root-scanning pass.
* "a mutator that requested a GC is blocked until that GC has ended": the mutator side of the protocol
  (`MMTK::handle_user_collection_request`, `GCTrigger::request`, `block_for_gc`) is the model
  `Model/Requesters.lean`; theorems in `Props/C11Req.lean` (`Mmtk.Req.requester_blocked_until_gc_end` for any number
  of requesters and every interleaving, `requester_returns_after_gc_end_mono` under nothing but the monotonicity of
  `gcDone`, `blocked_requester_has_pending_gc`, and the `decide`d witness `merged_request_not_blocked` for the
  variant that blocks only if the call itself set the flag).  The facts about the scheduler model that this
  relies on are proved here: `sched_gcDone_mono` (`gcDone = resumes` only grows, by one, and only in the completing
  park), `sched_request_merges` (a request while the flag is set changes nothing: it is merged), and
  `sched_request_sets_flag`.  Tie to the code: the `reqm` monitor replays the requester events of every run against
  `Mmtk.Req.step`, and the oracle `gc:requester-not-blocked` evaluates the statement on hx_gc's `gc2` answers.
-/
namespace Mmtk.Sched

open Mmtk.Generated.Stages in
theorem generated_wf2 (n : Nat) (hn : 0 < n) (m : Bool) : (cfg n m).WF2 := by
  refine { toWF := generated_wf n hn m, first_exists := ⟨firstStwIdx, (by show firstStwIdx < stages.length; decide), (by show (stages.getD firstStwIdx default).isFirstStw = true; decide)⟩, first_enabled := ?_, stw_closed := ?_ }
  · intro b
    show (stages.getD b default).isFirstStw = true → (stages.getD b default).enabledByDefault = true
    exact getD_all stages default (fun x => x.isFirstStw = true → x.enabledByDefault = true) (by decide) (by decide) b
  · intro b
    show (stages.getD b default).isStw = true → (stages.getD b default).openByDefault = false
    exact getD_all stages default (fun x => x.isStw = true → x.openByDefault = false) (by decide) (by decide) b

theorem stw_open_means_stopped {c : Cfg} (hwf : c.WF2) {s : State} (h : Reachable c s) (b : Nat) (hb : b < c.L)
    (hs : (c.info b).isStw = true) (ho : (s.bkt b).isOpen = true) : s.stopped = true :=
  (reachable_invS hwf h).openStopped b hb hs ho

theorem stop_before_trace {c : Cfg} (hwf : c.WF2) {s s' : State} (h : Reachable c s) (w b : Nat)
    (hs : (c.info b).isStw = true) :
    (∀ p, step c s (.pollBucket w b p) = some s' → s.stopped = true) ∧
    (∀ p, step c s (.batchMove w b p) = some s' → s.stopped = true) ∧
    (∀ tag, step c s (.pushLocal w b tag) = some s' → s.stopped = true) := by
  have open_ : b < c.L → (s.bkt b).isOpen = true → s.stopped = true := fun hb ho => stw_open_means_stopped hwf h b hb hs ho
  refine ⟨fun p hp => ?_, fun p hp => ?_, fun tag hp => ?_⟩
  · obtain ⟨_, _, h⟩ := match_polling hp
    obtain ⟨hg, _⟩ := Option.ite_none_right_eq_some.1 h
    exact open_ hg.2.1 hg.2.2.2.1
  · rcases match_exec_polling hp with ⟨_, h⟩ | ⟨_, _, h⟩ <;>
      (obtain ⟨hg, _⟩ := Option.ite_none_right_eq_some.1 h; exact open_ hg.2.1 hg.2.2.2.1)
  · obtain ⟨hg, _⟩ := Option.ite_none_right_eq_some.1 hp
    exact open_ hg.2.2.1 hg.2.2.2

theorem stopped_only_in_gc {c : Cfg} (hwf : c.WF2) {s : State} (h : Reachable c s) (hs : s.stopped = true) :
    s.current = some .gc :=
  (reachable_invS hwf h).stoppedGc hs

theorem one_stop_per_gc {c : Cfg} (hwf : c.WF2) {s : State} (h : Reachable c s) :
    s.stops ≤ s.resumes + (if s.stopped then 1 else 0) ∧ s.resumes = s.gcDone ∧
    ∀ w s', step c s (.stopAll w) = some s' → s.stopped = false ∧ s.current = some .gc ∧ s'.stopped = true := by
  have inv := reachable_invS hwf h
  refine ⟨inv.stopsLe, inv.resumesEq, fun w s' hs => ?_⟩
  obtain ⟨hg, e⟩ := Option.ite_none_right_eq_some.1 hs; cases e
  exact ⟨by simpa using hg.2.2.2, hg.2.2.1, rfl⟩

theorem resume_once_after_all {c : Cfg} (hwf : c.WF2) (hmut : c.mutAddOpen = false) {s s' : State} {a : Act}
    (hr : Reachable c s) (hs : step c s a = some s') (hres : s'.resumes ≠ s.resumes) :
    (∃ w tag, a = .park w tag) ∧ s'.resumes = s.resumes + 1 ∧ s'.gcDone = s.gcDone + 1 ∧ s'.stopped = false ∧
    (∀ b, b < c.L → (c.info b).isStw = true → (s'.bkt b).isOpen = false ∧ (s'.bkt b).q = []) ∧
    (∀ x, x < c.n → (s.pc x).isExec = false) ∧ (∀ v, v < c.n → s'.buf v = []) := by
  have i1 := reachable_invS hwf hr
  have hr' : Reachable c s' := reachable_step hr hs
  have i2 := reachable_invS hwf hr'
  have hg : s'.gcDone ≠ s.gcDone := by rw [← i1.resumesEq, ← i2.resumesEq]; exact hres
  obtain ⟨hp, g1, _, g3⟩ := all_closed_at_end hwf.toWF hs hg
  obtain ⟨q1, q2⟩ := quiescent_at_end hwf.toWF hmut hr hs hg
  refine ⟨hp, by rw [i2.resumesEq, i1.resumesEq]; exact g1, g1, ?_, g3, q1, q2⟩
  cases hst : s'.stopped with
  | false => rfl
  | true =>
    exfalso
    obtain ⟨w, tag, s1, r, pcs, k, rfl, _, _, _, hl, rfl⟩ := gc_end_step hs hg
    rcases onLastParked_stopped c hwf.toWF _ s1 tag r hl with ⟨_, a2, _, _⟩ | ⟨a1, _, _, _, _, _⟩
    · exact hres a2
    · exact nomatch a1.symm.trans hst

theorem no_stw_after_resume {c : Cfg} (hwf : c.WF2) {s : State} (h : Reachable c s) (hs : s.stopped = false)
    (b : Nat) (hb : b < c.L) (hstw : (c.info b).isStw = true) : (s.bkt b).isOpen = false := by
  cases ho : (s.bkt b).isOpen with
  | false => rfl
  | true => rw [stw_open_means_stopped hwf h b hb hstw ho] at hs; cases hs

/-- `gcDone` (= `resumes`, `one_stop_per_gc`) only grows, and by at most one per transition: the monotonicity the
requester model's environment (`resumeWorld`) assumes. -/
theorem sched_gcDone_mono {c : Cfg} (hwf : c.WF2) {s s' : State} {a : Act} (hs : step c s a = some s') :
    s.gcDone ≤ s'.gcDone ∧ s'.gcDone ≤ s.gcDone + 1 := by
  by_cases hg : s'.gcDone = s.gcDone
  · omega
  · have := (all_closed_at_end hwf.toWF hs hg).2.1
    omega

theorem sched_gcDone_mono_run {c : Cfg} (hwf : c.WF2) : ∀ (run : List Act) (s s' : State), exec c s run = some s' →
    s.gcDone ≤ s'.gcDone :=
  fun run s s' h => exec_some_induct c (fun t => s.gcDone ≤ t.gcDone)
    (fun _ _ _ ht hs => Nat.le_trans ht (sched_gcDone_mono hwf hs).1) run s s' (Nat.le_refl _) h

theorem sched_request_merges (c : Cfg) (s : State) (h : s.requestFlag = true) : step c s .requestFlag = some s := by
  simp [step, h]

/-- `GCTrigger::request` with the flag clear sets it and owes exactly one `make_request` -/
theorem sched_request_sets_flag (c : Cfg) (s : State) (h : s.requestFlag = false) :
    ∃ s', step c s .requestFlag = some s' ∧ s'.requestFlag = true ∧ s'.pendingMake = s.pendingMake + 1 ∧
      s'.gcDone = s.gcDone := by
  refine ⟨{ s with requestFlag := true, pendingMake := s.pendingMake + 1 }, ?_, rfl, rfl, rfl⟩
  simp [step, h]

open Mmtk.Generated.Stages in
example : (cfg 8).WF2 := generated_wf2 8 (by decide) false

end Mmtk.Sched
