import MmtkModel.Lemmas.FreeListAlloc
import MmtkModel.Lemmas.FreeListFree
import MmtkModel.Lemmas.FreeListNew
/-!
# C26 — Free lists allocate disjoint runs and coalesce back completely

Two layers (DESIGN §4.4).

**Abstract** (`Mmtk.Runs`, complete): over every history of `alloc / alloc_from_unit / free /
set_uncoalescable / clear_uncoalescable` that respects the callers' protocol (`Runs.Pre`), on any
number of heads: runs are pairwise disjoint and inside the list (`runs_disjoint`), a unit's owner is
constant over its run (`wf_reach`), the runs `alloc` may answer with are exactly the fitting runs
the head owns (`alloc_fails_only_if_no_run`), and `free_all_coalesces`: whenever every unit is free again, every
remaining boundary carries an uncoalescable mark or is a pristine initial grain boundary — with no
marks and `grain = units` the single initial run is restored exactly (`free_all_restores_single_run`).

**Concrete** (`Mmtk.FreeList`, the table with its masks; exact differential against both
implementations): the refinement to `Mmtk.Runs` is **proved** (second half of this file; lemmas in
`Lemmas/FreeList*.lean` and `Lemmas/RunsChar.lean`).  `Rel t a L` (`Lemmas/FreeListRel.lean`)
is the table invariant + abstraction relation, with one ghost list per head;
`Abs H t a := t.heads = H ∧ ∃ L, Rel t a L`, `WF H t := ∃ a, Abs H t a`.  For every operation the protocol `Runs.Pre` allows, in both `debug`
settings: the method returns `.ok`, the answer is allowed by the abstract spec, the new table
represents `Runs.apply a op` — `alloc_refines` (the start of a free run of the head that fits; `FAILURE` only if
none fits, table unchanged; that it is the *first* fitting member of the list is used in the proof but cannot
be stated: `Abs` hides the ghost list), `allocFromUnit_refines`, `free_refines` (coalesces exactly with the neighbours
`mergeL` / `mergeR` name; returned size), `setUnc_refines`, `clrUnc_refines`.  `step_refines`,
`history_refines`: every protocol-respecting concrete history (`CReach`) is an abstract history
(`Runs.Reach`) and keeps `Abs`; corollaries `concrete_history_no_overlap`,
`concrete_history_conservation`; `abs_reads`: `get_size` / `get_free` of the table are the abstract
run length / ownership.  A concrete instance (`IntArrayFreeList::new(6, 3, 2)`, `exRel`) shows the
hypotheses satisfiable.

`new_refines_single`: `IntArrayFreeList::new(N, N, heads)` (a single initial run) establishes `Abs` with a
`Fresh` abstract state, for all `1 ≤ N ≤ MAX_UNITS`, `1 ≤ heads ≤ 128`.

Not proved (what is left): (i) that `IntArrayFreeList::new(units, grain, heads)` with `grain < units`
(several initial runs: the fill loop) establishes `Abs` with a `Fresh` abstract state for all parameters
(only the instance `new(6, 3, 2)` is checked; the constructors are covered by the differential).  A grown
`RawMemoryFreeList` is outside these theorems altogether: `Rel` fixes the array length at
`2 * (units + 1 + heads)` (`RelX.size_eq`), and the mapped slice of a raw-memory list is whole pages; (ii) `Abs` is a
relation, not a function — the ghost `touched` and the owner of a free run (= the head whose list
reaches it) are not fields of the table; (iii) unit numbers are unbounded `Int` in the model: the
`i32` wrap is excluded by `units ≤ MAX_UNITS` in `Rel`, not modelled; (iv) `alloc_from_unit` on a
run that is free on *another* head's list and on a non-run-start unit is outside the protocol
(`cross_head_coalesce_double_allocates` shows what happens when heads are mixed).
-/
namespace Mmtk.Runs

/-- Two different runs of the partition do not overlap, and every run lies in
`[0, units)`. -/
theorem runs_disjoint (a : AS) {s e s' e' : Nat} (h : IsRun a s e) (h' : IsRun a s' e') (hlt : s < s') :
    e ≤ s' ∧ e ≤ a.units ∧ e' ≤ a.units := by
  have := h'.1
  exact ⟨by rcases run_eq_or_disjoint a h h' with g | g | g <;> omega, h.2.1, h'.2.1⟩

theorem run_end_unique (a : AS) {s e e' : Nat} (h : IsRun a s e) (h' : IsRun a s e') : e = e' := by
  have := h.1
  have := h'.1
  rcases run_eq_or_disjoint a h h' with g | g | g <;> omega

/-- A unit's owner is constant inside a run. -/
def WF (a : AS) : Prop := ∀ b, 0 < b → b < a.units → a.cut b = false → a.own b = a.own (b - 1)

/-- The invariant at one boundary position `b`: the owner does not change where there is no boundary
(`WF`), the edges of allocated runs are touched, and two free runs that still meet at `b` cannot be
merged (a mark) or never were apart from initial grains (`b` untouched).  It reads `cut b`, `own b`,
`own (b - 1)`, `touched b`, `unc b` only, so an operation has to be followed at the positions it
writes and nowhere else.  `touched` is why "freeing everything restores the initial runs" needs care:
allocating a whole grain touches its two boundaries, and freeing it then merges across them. -/
structure At (a : AS) (b : Nat) : Prop where
  wf : a.cut b = false → a.own b = a.own (b - 1)
  edge : a.cut b = true → (a.own b = none ∨ a.own (b - 1) = none) → a.touched b = true
  co : a.cut b = true → a.own (b - 1) ≠ none → a.own b ≠ none → a.unc b = true ∨ a.touched b = false

theorem At.congr {a a' : AS} {b : Nat} (h : At a b) (hc : a'.cut b = a.cut b) (ho : a'.own b = a.own b)
    (ho' : a'.own (b - 1) = a.own (b - 1)) (ht : a'.touched b = a.touched b) (hu : a'.unc b = a.unc b) : At a' b :=
  ⟨by rw [hc, ho, ho']; exact h.wf, by rw [hc, ho, ho', ht]; exact h.edge, by rw [hc, ho, ho', ht, hu]; exact h.co⟩

theorem At.of_not_cut {a : AS} {b : Nat} (hc : a.cut b = false) (ho : a.own b = a.own (b - 1)) : At a b :=
  ⟨fun _ => ho, fun c => (Bool.false_ne_true (hc.symm.trans c)).elim, fun c => (Bool.false_ne_true (hc.symm.trans c)).elim⟩

/-- `pr`: pristine (untouched) boundaries are exactly the initial ones. -/
structure Inv (a0 a : AS) : Prop where
  units : a.units = a0.units
  at_ : ∀ b, 0 < b → b < a.units → At a b
  pr : ∀ b, a.touched b = false → a.cut b = a0.cut b

theorem own_run {a : AS} (hat : ∀ b, 0 < b → b < a.units → At a b) {s e : Nat} (hr : IsRun a s e) :
    ∀ u, s ≤ u → u < e → a.own u = a.own s := by
  intro u
  induction u with
  | zero => intro h0 _; rw [Nat.le_zero.mp h0]
  | succ m ih =>
    intro h1 h2
    rcases Nat.lt_or_ge s (m + 1) with h | h
    · rw [(hat (m + 1) (by omega) (by have := hr.2.1; omega)).wf (hr.2.2.2.2 (m + 1) h h2)]
      exact ih (by omega) (by omega)
    · rw [Nat.le_antisymm h h1]

theorem inv_step {a0 a : AS} (op : Op) (hi : Inv a0 a) (hp : Pre a op) : Inv a0 (apply a op) := by
  obtain ⟨hu, hat, hpr⟩ := hi
  cases op with
  | alloc k s n e =>
    obtain ⟨hr, hown, hn, hfit⟩ := hp
    have hse := hr.1
    have hc := alloc_cut a k s n e
    have ho := alloc_own a k s n e
    have ht := alloc_touched a k s n e
    refine ⟨hu, fun b hb0 hbu => ?_, fun b hb => ?_⟩
    · by_cases hout : b < s ∨ s + n < b
      · exact (hat b hb0 hbu).congr (by rw [hc, if_neg (by omega)]) (by rw [ho, if_neg (by omega)])
          (by rw [ho, if_neg (by omega)]) (by rw [ht, if_neg (by omega)]) rfl
      · -- `s ≤ b ≤ s + n`: the unit before `b` (if `b ≠ s`) and the unit `b` (if `b ≠ s + n`) are allocated now
        have ho1 : b ≠ s → (apply a (.alloc k s n e)).own (b - 1) = none := fun _ => by rw [ho, if_pos (by omega)]
        have ho2 : b ≠ s + n → (apply a (.alloc k s n e)).own b = none := fun _ => by rw [ho, if_pos (by omega)]
        by_cases hbe : b = s + n
        · refine ⟨fun c => ?_, fun _ _ => by rw [ht, if_pos (Or.inr hbe)], fun _ c _ => absurd (ho1 (by omega)) c⟩
          rw [hc, if_pos hbe] at c; cases c
        · by_cases hbs : b = s
          · refine ⟨fun c => ?_, fun _ _ => by rw [ht, if_pos (Or.inl hbs)], fun _ _ c => absurd (ho2 hbe) c⟩
            rw [hc, if_neg hbe, hbs, hr.2.2.1.resolve_left (by omega)] at c; cases c
          · have hcb : (apply a (.alloc k s n e)).cut b = false := by
              rw [hc, if_neg hbe]; exact hr.2.2.2.2 b (by omega) (by omega)
            exact .of_not_cut hcb (by rw [ho2 hbe, ho1 hbs])
    · rw [ht] at hb
      split at hb
      · cases hb
      · rename_i h1
        rw [hc, if_neg (fun c => h1 (Or.inr c))]; exact hpr b hb
  | free k s e =>
    obtain ⟨hr, hown, hL, hR⟩ := hp
    have hse := hr.1
    have heu := hr.2.1
    have hc := free_cut a k s e
    have ho := free_own a k s e
    -- the whole run is allocated, so both its edges are touched
    have hnone : ∀ u, s ≤ u → u < e → a.own u = none := fun u h1 h2 => (own_run hat hr u h1 h2).trans hown
    have hts : 0 < s → a.touched s = true := fun h0 =>
      (hat s h0 (by omega)).edge (hr.2.2.1.resolve_left (by omega)) (Or.inl hown)
    have hte : e < a.units → a.touched e = true := fun h0 =>
      (hat e (by omega) h0).edge (hr.2.2.2.1.resolve_left (by omega)) (Or.inr (hnone (e - 1) (by omega) (by omega)))
    refine ⟨hu, fun b hb0 hbu => ?_, fun b hb => ?_⟩
    · change b < a.units at hbu
      by_cases hout : b < s ∨ e < b
      · exact (hat b hb0 hbu).congr (by rw [hc, if_neg (by omega)]) (by rw [ho, if_neg (by omega)])
          (by rw [ho, if_neg (by omega)]) rfl rfl
      · have ho1 : b ≠ s → (apply a (.free k s e)).own (b - 1) = some k := fun _ => by rw [ho, if_pos (by omega)]
        have ho2 : b ≠ e → (apply a (.free k s e)).own b = some k := fun _ => by rw [ho, if_pos (by omega)]
        by_cases hbs : b = s
        · -- the left edge: gone iff `mergeL`, which needs the left neighbour free (on `k`) and no mark
          subst hbs
          have ho1' : (apply a (.free k b e)).own (b - 1) = a.own (b - 1) := by rw [ho, if_neg (by omega)]
          by_cases hm : mergeL a b
          · have hcb : (apply a (.free k b e)).cut b = false := by rw [hc, if_pos (Or.inl ⟨rfl, hm⟩)]
            exact .of_not_cut hcb (by rw [ho2 (by omega), ho1', hL hm])
          · refine ⟨fun c => ?_, fun _ _ => hts hb0, fun _ c _ => ?_⟩
            · rw [free_cut_ne a k b e (fun _ => hm) (fun h1 => by omega), hr.2.2.1.resolve_left (by omega)] at c
              cases c
            · rw [ho1'] at c
              refine Or.inl ?_
              cases hunc : a.unc b
              · exact absurd ⟨hb0, hunc, c⟩ hm
              · exact hunc
        · by_cases hbe : b = e
          · subst hbe
            have ho2' : (apply a (.free k s b)).own b = a.own b := by rw [ho, if_neg (by omega)]
            by_cases hm : mergeR a b
            · have hcb : (apply a (.free k s b)).cut b = false := by rw [hc, if_pos (Or.inr ⟨rfl, hm⟩)]
              exact .of_not_cut hcb (by rw [ho2', ho1 hbs, hR hm])
            · refine ⟨fun c => ?_, fun _ _ => hte hbu, fun _ _ c => ?_⟩
              · rw [free_cut_ne a k s b (fun h1 => by omega) (fun _ => hm), hr.2.2.2.1.resolve_left (by omega)] at c
                cases c
              · rw [ho2'] at c
                refine Or.inl ?_
                cases hunc : a.unc b
                · exact absurd ⟨hbu, hunc, c⟩ hm
                · exact hunc
          · have hcb : (apply a (.free k s e)).cut b = false :=
              free_cut_false a k s e (hr.2.2.2.2 b (by omega) (by omega))
            exact .of_not_cut hcb (by rw [ho2 hbe, ho1 hbs])
    · -- a boundary that disappears was the edge of an allocated run, hence touched
      have hb' : a.touched b = false := hb
      rw [hc, if_neg]
      · exact hpr b hb'
      · rintro (⟨rfl, hm⟩ | ⟨rfl, hm⟩)
        · rw [hts hm.1] at hb'; cases hb'
        · rw [hte hm.1] at hb'; cases hb'
  | setUnc u =>
    refine ⟨hu, fun b hb0 hbu => ?_, hpr⟩
    have h := hat b hb0 hbu
    refine ⟨h.wf, h.edge, fun h1 h2 h3 => ?_⟩
    show (if b = u then true else a.unc b) = true ∨ _
    split
    · exact Or.inl rfl
    · exact h.co h1 h2 h3
  | clrUnc u =>
    refine ⟨hu, fun b hb0 hbu => ?_, hpr⟩
    have h := hat b hb0 hbu
    refine ⟨h.wf, h.edge, fun h1 h2 h3 => ?_⟩
    show (if b = u then false else a.unc b) = true ∨ _
    split
    · -- what `Pre (.clrUnc u)` forbids: clearing the mark between two free runs would leave `co` without its reason
      rename_i hbu'; subst hbu'
      exact absurd ⟨hb0, hbu, h1, h2, h3⟩ hp
    · exact h.co h1 h2 h3

/-- A fresh list: every unit free on head 0's list, nothing touched. -/
structure Fresh (a0 : AS) : Prop where
  own : ∀ u, a0.own u = some 0
  touched : ∀ b, a0.touched b = false

theorem inv_init (a0 : AS) (h : Fresh a0) : Inv a0 a0 :=
  ⟨rfl, fun b _ _ => ⟨fun _ => by rw [h.own, h.own], fun _ hn => by simp [h.own] at hn, fun _ _ _ => Or.inr (h.touched b)⟩,
   fun _ _ => rfl⟩

theorem inv_reach {a0 a : AS} (h0 : Fresh a0) (hr : Reach a0 a) : Inv a0 a := by
  induction hr with
  | init => exact inv_init a0 h0
  | step op _ hp ih => exact inv_step op ih hp

/-- `WF` in every reachable state. -/
theorem wf_reach {a0 a : AS} (h0 : Fresh a0) (hr : Reach a0 a) : WF a :=
  fun b hb0 hbu => ((inv_reach h0 hr).at_ b hb0 hbu).wf

/-- After any protocol-respecting history (any number of heads, any
marks), once every unit is free again, each boundary that is still there either carries an
uncoalescable mark or is a pristine initial boundary (an initial grain boundary at which no
allocation ever started or ended); and no pristine initial boundary has been lost. -/
theorem free_all_coalesces {a0 a : AS} (h0 : Fresh a0) (hr : Reach a0 a)
    (hall : ∀ u, u < a.units → a.own u ≠ none) :
    (∀ b, 0 < b → b < a.units → a.cut b = true →
        a.unc b = true ∨ (a.touched b = false ∧ a0.cut b = true)) ∧
    (∀ b, a.touched b = false → a0.cut b = true → a.cut b = true) := by
  have hi := inv_reach h0 hr
  refine ⟨fun b hb0 hbu hcut => ?_, fun b ht hc => by rw [hi.pr b ht]; exact hc⟩
  rcases (hi.at_ b hb0 hbu).co hcut (hall (b - 1) (by omega)) (hall b hbu) with h | h
  · exact Or.inl h
  · exact Or.inr ⟨h, by rw [← hi.pr b h]; exact hcut⟩

/-- With a single initial run (`grain = units`) and no mark left,
freeing everything restores exactly the initial run `[0, units)`. -/
theorem free_all_restores_single_run {a0 a : AS} (h0 : Fresh a0) (hr : Reach a0 a)
    (hsingle : ∀ b, 0 < b → b < a0.units → a0.cut b = false) (hpos : 0 < a0.units)
    (hall : ∀ u, u < a.units → a.own u ≠ none) (hnomark : ∀ b, a.unc b = false) :
    IsRun a 0 a.units := by
  have hu := (inv_reach h0 hr).units
  refine ⟨by omega, Nat.le_refl _, Or.inl rfl, Or.inl rfl, fun b hb0 hbu => ?_⟩
  rcases hcb : a.cut b with _ | _
  · rfl
  · rcases (free_all_coalesces h0 hr hall).1 b hb0 hbu hcb with h | ⟨_, h⟩
    · rw [hnomark b] at h; cases h
    · rw [hsingle b hb0 (by omega)] at h; cases h

/-- `CanAlloc a k n` (head `k` owns a run of at least `n` units) says
the same as "some `alloc k s n e` satisfies `Pre`": the fitting runs are exactly the allowed
answers.  That the table's `alloc` answers `FAILURE` only when `¬ CanAlloc a k n` is `alloc_refines`. -/
theorem alloc_fails_only_if_no_run (a : AS) (k n : Nat) (hn : 1 ≤ n) :
    CanAlloc a k n ↔ ∃ s e, Pre a (.alloc k s n e) := by
  constructor
  · rintro ⟨s, e, hr, ho, hf⟩; exact ⟨s, e, hr, ho, hn, hf⟩
  · rintro ⟨s, e, hr, ho, _, hf⟩; exact ⟨s, e, hr, ho, hf⟩

/-- After `alloc` the taken units form an allocated run of exactly `n` units. -/
theorem alloc_makes_run (a : AS) (k s n e : Nat) (hp : Pre a (.alloc k s n e)) :
    IsRun (apply a (.alloc k s n e)) s (s + n) ∧
    ∀ u, s ≤ u → u < s + n → (apply a (.alloc k s n e)).own u = none := by
  exact ⟨alloc_run_taken a hp.1 hp.2.2.1 hp.2.2.2, fun u h1 h2 => if_pos ⟨h1, h2⟩⟩

/-- The hypotheses are satisfiable: a 10-unit list with grains of 5; allocate 2 units through head 0,
free them again. -/
example : ∃ a0 : AS, Fresh a0 ∧ a0.units = 10 ∧
    Pre a0 (.alloc 0 0 2 5) ∧ Pre (apply a0 (.alloc 0 0 2 5)) (.free 0 0 2) := by
  refine ⟨⟨10, fun b => b == 0 || b == 5 || b == 10, fun _ => some 0, fun _ => false, fun _ => false⟩,
    ⟨fun _ => rfl, fun _ => rfl⟩, rfl, ?_, ?_⟩
  · refine ⟨⟨by omega, by simp, Or.inl rfl, Or.inr (by simp), ?_⟩, rfl, by omega, by omega⟩
    intro b h1 h2
    have : b ≠ 0 ∧ b ≠ 5 ∧ b ≠ 10 := by omega
    simp [this]
  · refine ⟨⟨by omega, by simp [apply], Or.inl rfl, Or.inr (by simp [apply]), ?_⟩, by simp [apply], ?_, ?_⟩
    · intro b h1 h2
      have : b = 1 := by omega
      subst this; simp [apply]
    · intro h; exact absurd h.1 (by omega)
    · intro _; simp [apply]

end Mmtk.Runs

namespace Mmtk.FreeList

/-- On the boundary values the table uses: patterns decode to the `i32` they encode; the link pattern of head `-1`
is all ones; a size entry has the flag bit set, so reads as a negative `i32`. -/
example : dec (enc (-1)) = -1 ∧ dec (enc (-128)) = -128 ∧ dec (enc 1073741694) = 1073741694 ∧
    enc (-1) &&& M30 = 1073741823 ∧ dec (B31 ||| enc 5) = -2147483643 := by decide

theorem ok_inj {α : Type} {x y : α} (h : (Except.ok x : M α) = .ok y) : x = y := by cases h; rfl

theorem ok_pair {α β : Type} {m : M (α × β)} {x x' : α} {y y' : β} (h : m = .ok (x, y)) (h' : m = .ok (x', y')) :
    x = x' ∧ y = y' := by
  cases ok_inj (h.symm.trans h'); exact ⟨rfl, rfl⟩

/-- `get_next` after `set_next` (release build) returns the link, for every stored entry and every
in-range unit link: the MULTI flag in the same entry is untouched. -/
theorem getNext_setNext (t : Tab) (head u : Int) (next : Nat) (old : Nat)
    (hn : (next : Int) ≤ MAX_UNITS) (hold : getHi t u = .ok old) :
    ∃ t', setNext false t u next = .ok t' ∧ getNext t' head u = .ok (next : Int) ∧
      (∀ h, getHi t' u = .ok h → h &&& B31 = old &&& NOT_M30 &&& B31) := by
  have hR : InR t u := by
    unfold getHi getEntry at hold
    split at hold
    · unfold InR; omega
    · cases hold
  obtain rfl : hiC t u = old := ok_inj ((getHi_ok hR).symm.trans hold)
  refine ⟨wNext t u next, setNext_ok hR false (fun c => absurd c Bool.false_ne_true), ?_, fun h hh => ?_⟩
  · rw [getNext_ok ((InR_wNext ..).mpr hR)]
    unfold nxt
    rw [fNext_wNext, if_pos ⟨rfl, hR⟩, dl_lk_unit head (Int.natCast_nonneg next) hn]
  · obtain rfl : hiC (wNext t u next) u = h := ok_inj ((getHi_ok ((InR_wNext ..).mpr hR)).symm.trans hh)
    unfold wNext
    rw [hiC_updHi, if_pos ⟨rfl, hR⟩, B31_eq, Bits.and_two_pow_eq, Bits.and_two_pow_eq, setLink_t31, Nat.testBit_and, NOT_M30_bits.1, Bool.and_true]

/-- The table (with `H` heads) represents the abstract state. -/
def Abs (H : Int) (t : Tab) (a : Runs.AS) : Prop := t.heads = H ∧ ∃ L, Rel t a L

def WF (H : Int) (t : Tab) : Prop := ∃ a, Abs H t a

open Mmtk.Runs in
/-- `alloc(n)` through head `k` on a table that represents `a` returns `.ok`; either it
returns the start `s` of a free run `[s, e)` of head `k` that fits (an answer `Runs.Pre` allows) and the
new table represents `apply a (alloc k s n e)`, or it returns `FAILURE`, the table is unchanged, and no
run of head `k` fits. -/
theorem alloc_refines {H : Int} {t : Tab} {a : AS} {k n : Nat} (debug : Bool)
    (h : Abs H t a) (hk : (k : Int) < H) (hn : 1 ≤ n) :
    (∃ (s e : Nat) (t' : Tab), alloc debug t (hd k) (n : Int) = .ok (t', (s : Int)) ∧ Pre a (.alloc k s n e) ∧
      Abs H t' (Runs.apply a (.alloc k s n e))) ∨
    (alloc debug t (hd k) (n : Int) = .ok (t, FAILURE) ∧ ¬ CanAlloc a k n) := by
  obtain ⟨rfl, L, h⟩ := h
  obtain ⟨q1, q2, q3⟩ := h.list k hk
  have hneg := hd_neg k
  have hhR := h.inR_hd hk
  have hpos := h.hpos
  have hRm : ∀ z ∈ L k, InR t (z : Int) ∧ getSize t (z : Int) = .ok (sizeOf t (z : Int)) := by
    intro z hz
    obtain ⟨_, _, e, hr⟩ := q3 z hz
    exact ⟨h.inR_run hr _ (Int.le_refl _) (by have := hr.1; omega), by rw [h.getSize_run hr, h.sizeOf_run hr]⟩
  have hlen : (L k).length < t.cells.size + 2 := by
    -- the members are distinct units below `units`, so the fuel suffices
    have h1 := q2.length_le_of_subset (l₂ := List.range a.units) fun x hx => by
      obtain ⟨_, _, e, hr⟩ := q3 x hx
      exact List.mem_range.mpr (hr.lt_units).1
    rw [List.length_range] at h1
    have := h.size_eq
    omega
  unfold alloc
  obtain ⟨l1, rest, e1, hsm, hfit⟩ := first_split (fun z : Nat => (n : Int) ≤ sizeOf t (z : Int)) (L k)
  rw [e1] at q1 hlen hRm
  -- the walk passes `l1` and stops at the head of `rest`: the first run that fits, or the list's head again
  obtain ⟨s', hloop, hs'⟩ := allocLoop_walk hneg (n : Int) rest hfit l1 (t.cells.size + 2) (hd k) 0 q1
    (by simp at hlen; omega) hhR hRm (fun z hz => by have := hsm z hz; omega)
  rw [hloop]
  cases rest with
  | nil =>
    right
    refine ⟨by simp only [firstI, bind, Except.bind, beq_self_eq_true, if_true, pure, Except.pure], ?_⟩
    rintro ⟨s, e, hr, hown, hfit⟩
    have := hsm s (by rw [← List.append_nil l1, ← e1]; exact (h.mem_list hr hown).2)
    rw [h.sizeOf_run hr] at this
    omega
  | cons y l2 =>
    left
    obtain ⟨hown, _, e, hr⟩ := q3 y (by rw [e1]; exact List.mem_append_right _ (List.mem_cons_self ..))
    have hsz := h.sizeOf_run hr
    rw [hs' y rfl]
    have hne : ((y : Int) == hd k) = false := by simp; omega
    simp only [firstI, bind, Except.bind, hne, Bool.false_eq_true, if_false]
    have hfit : y + n ≤ e := by
      have : (n : Int) ≤ sizeOf t (y : Int) := hfit y rfl
      rw [hsz] at this; omega
    obtain ⟨t', L', r1, r2, r3⟩ := allocAt_refines debug h hr hown hn hfit
    rw [hsz]
    exact ⟨y, e, t', r1, ⟨hr, hown, hn, hfit⟩, r3, L', r2⟩

open Mmtk.Runs in
/-- `alloc_from_unit(n, s)` on the start of a run `[s, e)`: if the run is
free on the caller's head and fits it is taken (`Pre a (alloc k s n e)`), if it is allocated or too
small the answer is `FAILURE` and the table is unchanged.  (A run free on another head's list is
neither case: the code takes it, the protocol forbids the call.) -/
theorem allocFromUnit_refines {H : Int} {t : Tab} {a : AS} {k s e n : Nat} (debug : Bool)
    (h : Abs H t a) (hr : IsRun a s e) (hn : 1 ≤ n) :
    (Pre a (.alloc k s n e) → ∃ t', allocFromUnit debug t (hd k) (n : Int) (s : Int) = .ok (t', (s : Int)) ∧
      Abs H t' (Runs.apply a (.alloc k s n e))) ∧
    ((a.own s = none ∨ e < s + n) → allocFromUnit debug t (hd k) (n : Int) (s : Int) = .ok (t, FAILURE)) := by
  obtain ⟨rfl, L, h⟩ := h
  unfold allocFromUnit
  simp only [bind, Except.bind, h.getFree_run hr]
  constructor
  · rintro ⟨-, hown, -, hfit⟩
    have c : (e : Int) - s ≥ n := by omega
    simp only [hown, Option.isSome_some, if_true, h.getSize_run hr, c]
    obtain ⟨t', L', g1, g2, g3⟩ := allocAt_refines debug h hr hown hn hfit
    exact ⟨t', g1, g3, L', g2⟩
  · rintro (hnone | hbig)
    · simp [hnone, pure, Except.pure]
    · have c : ¬ (e : Int) - s ≥ n := by omega
      cases ho : a.own s with
      | none => simp [pure, Except.pure]
      | some j => simp only [Option.isSome_some, if_true, h.getSize_run hr, c, if_false, pure, Except.pure]

open Mmtk.Runs in
/-- `free(s, rcs)` through head `k` of an allocated run `[s, e)` (protocol
`Runs.Pre`) returns `.ok`; the answer is the size of the freed run, or with `rcs` the size of the
coalesced run `[l, r)` — where `l` is the start of the left neighbour iff `mergeL` (it is free and
`s` carries no uncoalescable mark) and `r` the end of the right neighbour iff `mergeR`: the run
coalesces exactly with those neighbours — and the new table represents `apply a (free k s e)`. -/
theorem free_refines {H : Int} {t : Tab} {a : AS} {k s e : Nat} (debug rcs : Bool)
    (h : Abs H t a) (hk : (k : Int) < H) (hp : Pre a (.free k s e)) :
    ∃ (t' : Tab) (l r : Nat), free debug t (hd k) (s : Int) rcs = .ok (t', if rcs then (r : Int) - l else (e : Int) - s) ∧
      Abs H t' (Runs.apply a (.free k s e)) ∧
      (if mergeL a s then IsRun a l s else l = s) ∧ (if mergeR a e then IsRun a e r else r = e) ∧
      IsRun (Runs.apply a (.free k s e)) l r := by
  obtain ⟨rfl, L, h⟩ := h
  have hp' := hp
  obtain ⟨hse, hown, hL, hR⟩ := hp
  have hse1 := hse.1
  have hlt := hse.lt_units
  have hpos := h.hpos
  -- the statement spells out `MergeStart a s l ∧ MergeEnd a e r`, to be read without RunsChar's names; the proof uses them
  have hl : ∃ l, MergeStart a s l := by
    by_cases hm : mergeL a s
    · obtain ⟨l, hl⟩ := exists_run_left a hse hm.1
      exact ⟨l, (if_pos hm).mpr hl⟩
    · exact ⟨s, (if_neg hm).mpr rfl⟩
  obtain ⟨l, hl⟩ := hl
  have hr : ∃ r, MergeEnd a e r := by
    by_cases hm : mergeR a e
    · obtain ⟨r, hr⟩ := exists_run_right a hse hm.1
      exact ⟨r, (if_pos hm).mpr hr⟩
    · exact ⟨e, (if_neg hm).mpr rfl⟩
  obtain ⟨r, hr⟩ := hr
  have hlf := left_facts a hse hl
  have hrf := right_facts a hse hr
  have hgs := h.getSize_run hse
  have hgf : getFree t (s : Int) = .ok false := by rw [h.getFree_run hse, hown]; rfl
  have hleftR : InR t ((s : Int) - 1) := h.inR (by omega) (by omega)
  have hright : getRight t (s : Int) = .ok (e : Int) := by
    unfold getRight
    simp only [bind, Except.bind, hgs, pure, Except.pure]
    congr 1; omega
  generalize hendN : (if mergeR a e then e else s : Nat) = endN
  have hpe := pickEnd_ok h hp'
  rw [hendN] at hpe
  rw [free_eq]
  simp only [bind, Except.bind, hgf, Bool.false_eq_true, if_false, pure, Except.pure, ite_self,
    hgs, getLeft_ok hleftR, pickStart_ok h hp' hl, hright, hpe]
  -- `__coalesce`, or nothing when no neighbour is absorbed: either way the size fields of `[l, r)` are in place
  obtain ⟨t2, t3, L2, X, c1, c⟩ : ∃ t2 t3 L2 X,
      (if ((l : Int) != (endN : Int)) = true then coalesce debug t (hd k) l endN else .ok t) = .ok t3 ∧
      Coalesced t a s e l r X t2 t3 L2 := by
    by_cases hne : l = endN
    · have hnR : ¬ mergeR a e := fun hm => by
        rw [if_pos hm] at hendN
        have := hlf.le; omega
      rw [if_neg hnR] at hendN
      have hnL : ¬ mergeL a s := hlf.unmerged (hne.trans hendN.symm)
      obtain rfl : l = s := (if_neg hnL).mp hl
      obtain rfl : r = e := (if_neg hnR).mp hr
      subst hendN
      exact ⟨t, t, L, fun _ => False, by simp, h, .refl .., h.sized hse, rfl, fun _ f => f.elim,
        fun hm => absurd hm hnL, fun hm => absurd hm hnR⟩
    · have hb : (((l : Nat) : Int) != ((endN : Nat) : Int)) = true := by
        simp only [bne_iff_ne, ne_eq]; omega
      rw [if_pos hb]
      exact free_merge debug h hk hp' hl hr hendN.symm hne
  obtain ⟨f1, f2⟩ := free_finish debug hk hp' hl hr c
  -- with `return_coalesced_size` the answer is `get_size(l)`, read from the size fields just written
  have f3 : getSize t3 (l : Int) = .ok ((r : Int) - l) :=
    getSize_sized c.sized (by have := hlf.le; have := hrf.le; omega) fun w h0 h1 =>
      (c.same.inR w).mpr (c.rel.inR (by have := c.rel.hpos; omega) (by have := hrf.le_units; omega))
  have hg : (if rcs = true then getSize t3 (l : Int) else Except.ok ((e : Int) - s)) =
      .ok (if rcs then (r : Int) - l else (e : Int) - s) := by
    cases rcs
    · rfl
    · simp only [if_true, f3]
  rw [c1]
  simp only [hg, f1]
  exact ⟨_, l, r, rfl, ⟨by simp [c.same.heads, c.heads], _, f2⟩, hl, hr, free_run_merged a hse hl hr⟩

open Mmtk.Runs in
/-- `hu`: the unit lies in the part of the table `Rel` speaks of (`RelX.unc` keeps the mark for `u = units`, the top
sentinel, too). -/
theorem setUnc_refines {H : Int} {t : Tab} {a : AS} {u : Nat} (h : Abs H t a) (hu : u ≤ a.units) :
    ∃ t', setUncoalescable t (u : Int) = .ok t' ∧ Abs H t' (Runs.apply a (.setUnc u)) := by
  obtain ⟨hH, L, hR⟩ := h
  exact ⟨_, setUncoalescable_ok (hR.inR_nat hu), by simpa using hH, L, unc_step hR hu true⟩

open Mmtk.Runs in
theorem clrUnc_refines {H : Int} {t : Tab} {a : AS} {u : Nat} (h : Abs H t a) (hu : u ≤ a.units) :
    ∃ t', clearUncoalescable t (u : Int) = .ok t' ∧ Abs H t' (Runs.apply a (.clrUnc u)) := by
  obtain ⟨hH, L, hR⟩ := h
  exact ⟨_, clearUncoalescable_ok (hR.inR_nat hu), by simpa using hH, L, unc_step hR hu false⟩

/-- What the table says about a run of the abstract state it represents: `get_size` is its length,
`get_free` is "owned by some head", and the run lies inside the list. -/
theorem abs_reads {H : Int} {t : Tab} {a : Runs.AS} {s e : Nat} (h : Abs H t a) (hr : Runs.IsRun a s e) :
    getSize t (s : Int) = .ok ((e : Int) - s) ∧ getFree t (s : Int) = .ok (a.own s).isSome ∧ e ≤ a.units := by
  obtain ⟨hH, L, hR⟩ := h
  exact ⟨hR.getSize_run hr, hR.getFree_run hr, (hr.lt_units).2⟩

/-- One step of a concrete history that respects the callers' protocol: the concrete method returned
`.ok`, and the abstract state moves by the abstract operation that the answer selects. `H` = number
of heads. -/
inductive CStep (debug : Bool) (H : Int) : Tab → Runs.AS → Tab → Runs.AS → Prop
  | alloc {t a t'} (k n s e : Nat) : (k : Int) < H → alloc debug t (hd k) (n : Int) = .ok (t', (s : Int)) →
      Runs.Pre a (.alloc k s n e) → CStep debug H t a t' (Runs.apply a (.alloc k s n e))
  | allocFail {t a t'} (k n : Nat) : (k : Int) < H → 1 ≤ n → alloc debug t (hd k) (n : Int) = .ok (t', FAILURE) →
      CStep debug H t a t' a
  | allocFromUnit {t a t'} (k n s e : Nat) : allocFromUnit debug t (hd k) (n : Int) (s : Int) = .ok (t', (s : Int)) →
      Runs.Pre a (.alloc k s n e) → CStep debug H t a t' (Runs.apply a (.alloc k s n e))
  | allocFromUnitFail {t a t'} (k n s e : Nat) : Runs.IsRun a s e → (a.own s = none ∨ e < s + n) → 1 ≤ n →
      allocFromUnit debug t (hd k) (n : Int) (s : Int) = .ok (t', FAILURE) → CStep debug H t a t' a
  | free {t a t'} (k s e : Nat) (rcs : Bool) (r : Int) : (k : Int) < H → free debug t (hd k) (s : Int) rcs = .ok (t', r) →
      Runs.Pre a (.free k s e) → CStep debug H t a t' (Runs.apply a (.free k s e))
  | setUnc {t a t'} (u : Nat) : u ≤ a.units → setUncoalescable t (u : Int) = .ok t' →
      CStep debug H t a t' (Runs.apply a (.setUnc u))
  | clrUnc {t a t'} (u : Nat) : u ≤ a.units → Runs.Pre a (.clrUnc u) → clearUncoalescable t (u : Int) = .ok t' →
      CStep debug H t a t' (Runs.apply a (.clrUnc u))

inductive CReach (debug : Bool) (H : Int) (t0 : Tab) (a0 : Runs.AS) : Tab → Runs.AS → Prop
  | init : CReach debug H t0 a0 t0 a0
  | step {t a t' a'} : CReach debug H t0 a0 t a → CStep debug H t a t' a' → CReach debug H t0 a0 t' a'

open Mmtk.Runs in
/-- A protocol-respecting concrete step is an abstract step (or leaves the
abstract state alone: a failed allocation), and the new table represents the new abstract state. -/
theorem step_refines {debug : Bool} {H : Int} {t t' : Tab} {a a' : AS} (h : Abs H t a)
    (hs : CStep debug H t a t' a') :
    Abs H t' a' ∧ (a' = a ∨ ∃ op, Pre a op ∧ a' = Runs.apply a op) := by
  cases hs with
  | alloc k n s e hk hc hp =>
    refine ⟨?_, Or.inr ⟨_, hp, rfl⟩⟩
    rcases alloc_refines debug h hk hp.2.2.1 with ⟨s0, e0, t0, g1, g2, g3⟩ | ⟨g1, _⟩
    · obtain ⟨rfl, hs⟩ := ok_pair g1 hc
      obtain rfl : s0 = s := Int.ofNat_inj.mp hs
      obtain rfl := run_end_unique a g2.1 hp.1
      exact g3
    · have : FAILURE = (s : Int) := (ok_pair g1 hc).2
      unfold FAILURE at this; omega
  | allocFail k n hk hn hc =>
    refine ⟨?_, Or.inl rfl⟩
    rcases alloc_refines debug h hk hn with ⟨s0, e0, t0, g1, g2, g3⟩ | ⟨g1, _⟩
    · have : (s0 : Int) = FAILURE := (ok_pair g1 hc).2
      unfold FAILURE at this; omega
    · obtain ⟨rfl, -⟩ := ok_pair g1 hc
      exact h
  | allocFromUnit k n s e hc hp =>
    obtain ⟨t0, g1, g2⟩ := (allocFromUnit_refines debug h hp.1 hp.2.2.1).1 hp
    obtain ⟨rfl, -⟩ := ok_pair g1 hc
    exact ⟨g2, Or.inr ⟨_, hp, rfl⟩⟩
  | allocFromUnitFail k n s e hr hf hn hc =>
    obtain ⟨rfl, -⟩ := ok_pair ((allocFromUnit_refines (k := k) debug h hr hn).2 hf) hc
    exact ⟨h, Or.inl rfl⟩
  | free k s e rcs r hk hc hp =>
    obtain ⟨t0, l, r0, g1, g2, _⟩ := free_refines debug rcs h hk hp
    obtain ⟨rfl, -⟩ := ok_pair g1 hc
    exact ⟨g2, Or.inr ⟨_, hp, rfl⟩⟩
  | setUnc u hu hc =>
    obtain ⟨t0, g1, g2⟩ := setUnc_refines h hu
    obtain rfl := ok_inj (g1.symm.trans hc)
    exact ⟨g2, Or.inr ⟨.setUnc u, trivial, rfl⟩⟩
  | clrUnc u hu hp hc =>
    obtain ⟨t0, g1, g2⟩ := clrUnc_refines h hu
    obtain rfl := ok_inj (g1.symm.trans hc)
    exact ⟨g2, Or.inr ⟨.clrUnc u, hp, rfl⟩⟩

open Mmtk.Runs in
/-- Every concrete history (any interleaving of `alloc`, `alloc_from_unit`,
`free`, `set_uncoalescable`, `clear_uncoalescable` on any heads, each respecting `Runs.Pre`) is a
history of the abstract specification, and the final table represents the final abstract state. -/
theorem history_refines {debug : Bool} {H : Int} {t0 t : Tab} {a0 a : AS} (h0 : Abs H t0 a0)
    (hr : CReach debug H t0 a0 t a) : Reach a0 a ∧ Abs H t a := by
  induction hr with
  | init => exact ⟨.init, h0⟩
  | step _ hs ih =>
    obtain ⟨g1, g2⟩ := step_refines ih.2 hs
    refine ⟨?_, g1⟩
    rcases g2 with rfl | ⟨op, hp, rfl⟩
    · exact ih.1
    · exact .step op ih.1 hp

open Mmtk.Runs in
/-- After any protocol-respecting concrete history from a fresh
list, the runs recorded in the table — `get_size(s) = e - s`, `get_free(s) = (own s ≠ none)` for every
run `[s, e)` — are pairwise disjoint and inside the list, and the owner (allocated / free on head `k`)
is the same for all units of a run; in particular allocated runs never overlap and never exceed
the list. -/
theorem concrete_history_no_overlap {debug : Bool} {H : Int} {t0 t : Tab} {a0 a : AS} (h0 : Abs H t0 a0)
    (hf : Fresh a0) (hr : CReach debug H t0 a0 t a) {s e s' e' : Nat} (h : IsRun a s e) (h' : IsRun a s' e')
    (hlt : s < s') :
    e ≤ s' ∧ e' ≤ a.units ∧ a.units = a0.units ∧
    getSize t (s : Int) = .ok ((e : Int) - s) ∧ getSize t (s' : Int) = .ok ((e' : Int) - s') ∧
    getFree t (s : Int) = .ok (a.own s).isSome ∧ getFree t (s' : Int) = .ok (a.own s').isSome ∧
    (∀ u, s ≤ u → u < e → a.own u = a.own s) := by
  obtain ⟨hreach, habs⟩ := history_refines h0 hr
  obtain ⟨d1, _, d3⟩ := runs_disjoint a h h' hlt
  have r1 := abs_reads habs h
  have r2 := abs_reads habs h'
  have inv := inv_reach hf hreach
  refine ⟨d1, d3, inv.units, r1.1, r2.1, r1.2.1, r2.2.1, ?_⟩
  obtain ⟨_, L, hR⟩ := habs
  exact (hR.run s e h).own

open Mmtk.Runs in
/-- After any protocol-respecting concrete history from a fresh
list, once every unit is free again every boundary still in the table carries an uncoalescable
mark or is a pristine initial grain boundary, and no pristine boundary was lost; with a single
initial run and no marks the table again holds the one free run of all units
(`get_size(0) = units`, `get_free(0)`): nothing handed out is lost. -/
theorem concrete_history_conservation {debug : Bool} {H : Int} {t0 t : Tab} {a0 a : AS} (h0 : Abs H t0 a0)
    (hf : Fresh a0) (hr : CReach debug H t0 a0 t a) (hall : ∀ u, u < a.units → a.own u ≠ none) :
    ((∀ b, 0 < b → b < a.units → a.cut b = true → a.unc b = true ∨ (a.touched b = false ∧ a0.cut b = true)) ∧
     (∀ b, a.touched b = false → a0.cut b = true → a.cut b = true)) ∧
    ((∀ b, 0 < b → b < a0.units → a0.cut b = false) → 0 < a0.units → (∀ b, a.unc b = false) →
      getSize t 0 = .ok (a0.units : Int) ∧ getFree t 0 = .ok true) := by
  obtain ⟨hreach, habs⟩ := history_refines h0 hr
  refine ⟨free_all_coalesces hf hreach hall, fun hsingle hpos hnomark => ?_⟩
  have hrun := free_all_restores_single_run hf hreach hsingle hpos hall hnomark
  have hu := (inv_reach hf hreach).units
  obtain ⟨r1, r2, _⟩ := abs_reads habs hrun
  have hown : (a.own 0).isSome = true := by
    have := hall 0 (by omega)
    cases ho : a.own 0 with
    | none => exact absurd ho this
    | some j => rfl
  rw [hown] at r2
  refine ⟨?_, r2⟩
  have : ((a.units : Nat) : Int) - ((0 : Nat) : Int) = (a0.units : Int) := by rw [hu]; omega
  rw [← this]; exact r1

def okOf {α : Type} (r : M α) : Option α :=
  match r with
  | .ok v => some v
  | .error _ => none

/-- Witness that the protocol hypothesis of `Runs.Pre (.free …)` is needed: coalescing into a run
that sits on another head's list (no uncoalescable mark in between) puts one run on two lists,
and both heads are then handed the same units. 10 units, grain 5, heads 2: head 0 allocates both
runs, head 1 frees `[0,5)`, head 0 frees `[5,10)` (coalesces with head 1's run), then both heads
successfully allocate 10 units at unit 0. -/
theorem cross_head_coalesce_double_allocates :
    okOf (do
        let t ← IntArray.new false 10 5 2
        let (t, a) ← alloc false t (-1) 5
        let (t, b) ← alloc false t (-1) 5
        let (t, _) ← free false t (-2) 0 true
        let (t, m) ← free false t (-1) 5 true
        let (t, x) ← alloc false t (-1) 10
        let (_, y) ← alloc false t (-2) 10
        pure (a, b, m, x, y) : M _) = some (0, 5, 10, 0, 0) := by
  decide +kernel

open Mmtk.Runs in
/-- `IntArrayFreeList::new(N, N, heads)` (one initial run: `grain = units`),
for every `1 ≤ N ≤ MAX_UNITS` and `1 ≤ heads ≤ 128`, in both `debug` settings, returns `.ok` of a
table that represents the fresh abstract state: all `N` units free on head 0's list in
one run, nothing touched. -/
theorem new_refines_single (debug : Bool) (N Hn : Nat) (hN : 1 ≤ N) (hNm : (N : Int) ≤ MAX_UNITS) (hH : 1 ≤ Hn)
    (hH' : Hn ≤ 128) :
    ∃ t0 a0, IntArray.new debug (N : Int) (N : Int) (Hn : Int) = .ok t0 ∧ Fresh a0 ∧ a0.units = N ∧
      (∀ b, a0.cut b = false) ∧ Abs (Hn : Int) t0 a0 := by
  generalize hn : (2 * ((N : Int) + 1 + (Hn : Int))).toNat = n
  have hmax := MAX_UNITS_eq
  have hmaxH : MAX_HEADS = 128 := rfl
  have hin0 : ∀ w : Int, -(Hn : Int) ≤ w → w ≤ N → InR (zeroTab Hn n) w := by
    intro w h0 h1; simp only [InR, zeroTab, Array.size_replicate]; omega
  obtain ⟨t1, e1, s1⟩ := setHeadSentinels_ok (sentOnly_zero (Hn : Int) n) (fun w h0 h1 => hin0 w h0 (by omega)) Hn
    (Int.le_refl _)
  have hin1 : ∀ w : Int, -(Hn : Int) ≤ w → w ≤ N → InR t1 w := by
    intro w h0 h1; have := hin0 w h0 h1
    simpa [InR, s1.heads, s1.size, zeroTab] using this
  have s2 := sentOnly_wSent s1 (hin1 (N : Int) (by omega) (Int.le_refl _))
  have hin2 : ∀ w : Int, -(Hn : Int) ≤ w → w ≤ N → InR (wSent t1 (N : Int)) w := by
    intro w h0 h1; simpa using hin1 w h0 h1
  have hso := sameOutside_pSetSize (wSent t1 (N : Int)) 0 (N : Int) (by omega)
  have hsz : Sized (pSetSize (wSent t1 (N : Int)) 0 (N : Int)) 0 N :=
    sized_pSetSize rfl (by omega) hN hNm fun w h0 h1 => hin2 w (by omega) (by omega)
  have hrel : Rel (pSetSize (wSent t1 (N : Int)) 0 (N : Int)) (allocAll N) (fun _ => []) := by
    constructor
    · simp [s1.heads]; omega
    · simp [s1.heads]; omega
    · simp only [size_pSetSize, s2.size, heads_pSetSize, s2.heads, allocAll]; omega
    · exact hNm
    · simp only [fFree_pSetSize]; exact s2.free _
    · intro k _; simp only [fFree_pSetSize]; exact s2.free _
    · intro k _
      rw [hso.multi _ (Or.inl (hd_neg k))]; exact s2.multi _
    · intro u _; simp only [fUnc_pSetSize, s2.unc]; rfl
    · intro s e hr
      obtain ⟨rfl, rfl⟩ := allocAll_run hr
      have hown : ∀ u, u < e → (allocAll e).own u = none := fun u hu => if_pos hu
      refine ⟨hsz.multi, hsz.sz, ?_, fun u _ h2 => by rw [hown u h2, hown 0 hN], fun k hk => ?_⟩
      · rw [fFree_pSetSize, s2.free, hown 0 hN]; rfl
      · rw [hown 0 hN] at hk; cases hk
    · intro k hk
      have hk' : (k : Int) < Hn := by simpa [s1.heads] using hk
      have hneg := hd_neg k
      have hb : -MAX_HEADS ≤ hd k ∧ hd k < 0 := by unfold hd; omega
      have hP : (-(Hn : Int) ≤ hd k ∧ hd k < 0) ∨ hd k = (N : Int) := Or.inl ⟨by unfold hd; omega, hneg⟩
      refine ⟨?_, List.nodup_nil, fun x hx => by cases hx⟩
      simp only [Links, nxt, prv, fPrev_pSetSize]
      rw [hso.next _ (Or.inl (Int.le_of_lt hneg)), s2.prev _ hP, s2.next _ hP]
      exact ⟨dl_lk_head _ hb.1 hb.2, dl_lk_head _ hb.1 hb.2⟩
  have hk0 : ((0 : Nat) : Int) < (pSetSize (wSent t1 (N : Int)) 0 (N : Int)).heads := by simp [s1.heads]; omega
  obtain ⟨f1, f2⟩ := hrel.add_run (l := 0) (r := N) (a' := ⟨N, fun _ => false, fun _ => some 0, fun _ => false, fun _ => false⟩) debug hk0
    ⟨rfl, fun _ => rfl, fun _ _ _ => rfl, fun u hu => (if_neg (by omega)).symm⟩ (Or.inl rfl) (Or.inl rfl)
    ⟨hN, Nat.le_refl _, Or.inl rfl, Or.inl rfl, fun _ _ _ => rfl⟩ (fun _ _ _ => rfl) (fun _ f => f.elim)
    (fun y z _ _ h2 => Or.inl (if_pos h2)) (.refl ..) hsz
  have f1' : addToFree debug (pSetSize (wSent t1 (N : Int)) 0 (N : Int)) (-1) 0 =
      .ok (pAddToFree (pSetSize (wSent t1 (N : Int)) 0 (N : Int)) (hd 0) ((0 : Nat) : Int)) := f1
  refine ⟨_, _, ?_, ⟨fun _ => rfl, fun _ => rfl⟩, rfl, fun _ => rfl, ?_, _, f2⟩
  · unfold IntArray.new initializeHeap
    have e0 : ({ heads := (Hn : Int), cells := Array.replicate (2 * ((N : Int) + 1 + (Hn : Int))).toNat 0 } : Tab) =
        zeroTab Hn n := by rw [hn]; rfl
    rw [e0]
    have e2 : (zeroTab (Hn : Int) n).heads.toNat = Hn := by simp [zeroTab]
    have e3 : setSentinel t1 (N : Int) = .ok (wSent t1 (N : Int)) := setSentinel_ok (hin1 _ (by omega) (Int.le_refl _))
    have e4 : (N : Int).tmod N = 0 := Int.tmod_self
    have e5 : ¬ ((0 : Int) > 0) := by omega
    have e6 : (N : Int) - 0 - N = 0 := by omega
    have e8 : setSize (wSent t1 (N : Int)) 0 (N : Int) = .ok (pSetSize (wSent t1 (N : Int)) 0 (N : Int)) :=
      setSize_range (by omega) fun w h0 h1 => hin2 w (by omega) (by omega)
    have e9 : ¬ ((0 : Int) - N ≥ 0) := by omega
    have e10 : (0 : Int) ≥ 0 := by omega
    simp only [bind, Except.bind, e2, e1, e3, e4, e5, if_false, e6, fillLoop, e10, if_true, e8, f1', e9, pure,
      Except.pure]
  · simp [s1.heads]

/-- The hypotheses of `new_refines_single` are satisfiable (4096 units, 16 heads). -/
example : (1 : Nat) ≤ 4096 ∧ ((4096 : Nat) : Int) ≤ MAX_UNITS ∧ 1 ≤ 16 ∧ 16 ≤ 128 := by decide

section example_
open Mmtk.Runs

/-- the table `IntArrayFreeList::new(6, 3, 2)` builds -/
def exT0 : Tab := { heads := 2, cells := #[1073741822, 1073741822, 3, 0, 3221225471, 2147483651, 0, 2147483651,
  2147483648, 2147483651, 2147483648, 3221225471, 0, 2147483651, 2147483648, 2147483651, 6, 6] }
/-- the fresh abstract state: 6 units, grain 3 -/
def exA0 : AS := ⟨6, fun b => b == 3, fun _ => some 0, fun _ => false, fun _ => false⟩
def exL0 : Nat → List Nat := fun k => if k = 0 then [0, 3] else []

theorem exT0_new : okOf (IntArray.new true 6 3 2) = some exT0 := by decide +kernel

theorem exA0_runs {s e : Nat} (h : IsRun exA0 s e) : (s = 0 ∧ e = 3) ∨ (s = 3 ∧ e = 6) := by
  obtain ⟨h1, h2, h3, h4, h5⟩ := h
  simp only [exA0, beq_iff_eq] at h2 h3 h4 h5
  have := h5 3
  simp at this
  omega

theorem exRun03 : IsRun exA0 0 3 :=
  ⟨by decide, by decide, Or.inl rfl, Or.inr rfl, fun b h1 h2 => by simp [exA0]; omega⟩
theorem exRun36 : IsRun exA0 3 6 :=
  ⟨by decide, by decide, Or.inr rfl, Or.inl rfl, fun b h1 h2 => by simp [exA0]; omega⟩

theorem exRel : Rel exT0 exA0 exL0 := by
  constructor
  · decide
  · decide
  · decide
  · decide
  · decide
  · intro k hk
    have : k = 0 ∨ k = 1 := by simp [exT0] at hk; omega
    rcases this with rfl | rfl <;> decide
  · intro k hk
    have : k = 0 ∨ k = 1 := by simp [exT0] at hk; omega
    rcases this with rfl | rfl <;> decide
  · intro u hu
    have : u = 0 ∨ u = 1 ∨ u = 2 ∨ u = 3 ∨ u = 4 ∨ u = 5 ∨ u = 6 := by simp [exA0] at hu; omega
    rcases this with rfl | rfl | rfl | rfl | rfl | rfl | rfl <;> decide
  · intro s e h
    rcases exA0_runs h with ⟨rfl, rfl⟩ | ⟨rfl, rfl⟩
    · refine ⟨by decide, fun _ => by decide, by decide, fun _ _ _ => rfl, fun k hk => ?_⟩
      have : k = 0 := by simp [exA0] at hk; omega
      subst this; exact ⟨by decide, Or.inl (by decide)⟩
    · refine ⟨by decide, fun _ => by decide, by decide, fun _ _ _ => rfl, fun k hk => ?_⟩
      have : k = 0 := by simp [exA0] at hk; omega
      subst this; exact ⟨by decide, Or.inl (by decide)⟩
  · intro k hk
    have : k = 0 ∨ k = 1 := by simp [exT0] at hk; omega
    rcases this with rfl | rfl
    · refine ⟨?_, by decide, ?_⟩
      · show Links exT0 (hd 0) (hd 0) [0, 3]
        simp only [Links]; decide
      · intro x hx
        have : x = 0 ∨ x = 3 := by simpa [exL0] using hx
        rcases this with rfl | rfl
        · exact ⟨rfl, fun f => f, 3, exRun03⟩
        · exact ⟨rfl, fun f => f, 6, exRun36⟩
    · refine ⟨?_, by decide, ?_⟩
      · show Links exT0 (hd 1) (hd 1) []
        simp only [Links]; decide
      · intro x hx
        simp [exL0] at hx

theorem exFresh : Fresh exA0 := ⟨fun _ => rfl, fun _ => rfl⟩
theorem exAbs : Abs 2 exT0 exA0 := ⟨rfl, exL0, exRel⟩

/-- `IntArrayFreeList::new(6, 3, 2)` (debug build) is well formed and represents the fresh abstract
state (6 units, grain 3, everything on head 0's list); from it there is a two-step concrete history
(allocate 2 units through head 0, free them again) that respects the protocol — the hypotheses of
`alloc_refines`, `free_refines`, `step_refines`, `history_refines`, `concrete_history_no_overlap` and
`concrete_history_conservation` hold for it. -/
example : ∃ t0 a0, okOf (IntArray.new true 6 3 2) = some t0 ∧ Fresh a0 ∧ Abs 2 t0 a0 ∧ a0.units = 6 ∧
    ∃ (s e : Nat) (t1 t2 : Tab), Pre a0 (.alloc 0 s 2 e) ∧ Pre (Runs.apply a0 (.alloc 0 s 2 e)) (.free 0 s (s + 2)) ∧
      CReach true 2 t0 a0 t1 (Runs.apply a0 (.alloc 0 s 2 e)) ∧
      CReach true 2 t0 a0 t2 (Runs.apply (Runs.apply a0 (.alloc 0 s 2 e)) (.free 0 s (s + 2))) := by
  refine ⟨exT0, exA0, exT0_new, exFresh, exAbs, rfl, ?_⟩
  rcases alloc_refines (k := 0) (n := 2) true exAbs (by decide) (by decide) with ⟨s, e, t1, h1, h2, h3⟩ | ⟨_, h2⟩
  · have hpre : Pre (Runs.apply exA0 (.alloc 0 s 2 e)) (.free 0 s (s + 2)) := by
      obtain ⟨m1, m2⟩ := alloc_makes_run exA0 0 s 2 e h2
      refine ⟨m1, m2 s (Nat.le_refl _) (by omega), ?_, ?_⟩
      · intro hm
        have := hm.1
        have c : ¬ (s ≤ s - 1 ∧ s - 1 < s + 2) := by omega
        simp only [Runs.apply, c, if_false]; rfl
      · intro _
        have c : ¬ (s ≤ s + 2 ∧ s + 2 < s + 2) := by omega
        simp only [Runs.apply, c, if_false]; rfl
    obtain ⟨t2, l, r, g1, _⟩ := free_refines true true h3 (by decide) hpre
    have s1 : CReach true 2 exT0 exA0 t1 (Runs.apply exA0 (.alloc 0 s 2 e)) :=
      .step .init (.alloc 0 2 s e (by decide) h1 h2)
    exact ⟨s, e, t1, t2, h2, hpre, s1, .step s1 (.free 0 s (s + 2) true _ (by decide) g1 hpre)⟩
  · exact absurd ⟨0, 3, exRun03, rfl, by decide⟩ h2

end example_

end Mmtk.FreeList
