import MmtkModel.Model.Resolve
import MmtkModel.Lemmas.Bits
/-!
# C31 (the lookups taken alone; the SFT maps over histories of space operations are `Props/C31Sft.lean`) — Address-to-space resolution is total and exact

`sft_total`, `sft_exact`: the SFT space map. `Map64::get_descriptor_for_address` has two models.
`map64Descriptor` is mmtk-core before its commit 8903e0b (not the code in /repo now), which indexed the descriptor map unchecked
(defect `map64:descriptor-index-oob`, DESIGN §7-F8): `descriptor_total` is **false** for it — witnesses by
`decide`, the exact failure set (`descriptor_oob_iff`), the part that holds (`descriptor_total_partial`).
`map64DescriptorFixed` is the bounds-checked lookup after that commit.
-/
namespace Mmtk.Resolve
open Mmtk.Layout

theorem sftIndex_eq (l : VMLayout) (a : Nat) :
    sftIndex l a = (a / 2 ^ l.logSpaceExtent) % 2 ^ 5 := by
  unfold sftIndex addressMask
  exact Mmtk.Bits.and_mask_shift a 5 l.logSpaceExtent

/-- **C31 (SFT total).** For every address (any `Nat`, so in particular every 64-bit word) and
every layout, the SFT space-map index lies inside the 32-entry table: the lookup cannot go out of
bounds. -/
theorem sft_total (l : VMLayout) (a : Nat) : sftIndex l a < 32 := by
  rw [sftIndex_eq]; exact Nat.mod_lt _ (by decide)

theorem sft_table_size : sftTableSize layout64 = 32 := by decide

theorem sftHasEntry_iff (l : VMLayout) (a : Nat) :
    sftHasEntry l a = true ↔ 2 ^ l.logSpaceExtent ≤ a ∧ a < 16 * 2 ^ l.logSpaceExtent := by
  unfold sftHasEntry sftStart sftEnd maxSpaces
  rw [Nat.shiftLeft_eq, Nat.shiftLeft_eq, Bool.and_eq_true, decide_eq_true_eq, decide_eq_true_eq]
  omega

/-- **C31 (SFT exact).** `get_checked(a)` returns table entry `i` exactly when `a` lies in the
extent `[i·2^k, (i+1)·2^k)` of one of the spaces `1 … 15`, and the empty SFT for every other
address (below the first space, at or above the end of space 15 — in particular the whole range
`[16·2^k, 2^64)`). -/
theorem sft_exact (l : VMLayout) (a : Nat) :
    (∀ i, 1 ≤ i → i ≤ 15 → i * 2 ^ l.logSpaceExtent ≤ a → a < (i + 1) * 2 ^ l.logSpaceExtent →
      sftGetChecked l a = some i) ∧
    ((a < 2 ^ l.logSpaceExtent ∨ 16 * 2 ^ l.logSpaceExtent ≤ a) → sftGetChecked l a = none) := by
  have hhas := sftHasEntry_iff l a
  unfold sftGetChecked
  constructor
  · intro i h1 h15 hlo hhi
    have h1' := Nat.mul_le_mul_right (2 ^ l.logSpaceExtent) h1
    have h2' : (i + 1) * 2 ^ l.logSpaceExtent ≤ 16 * 2 ^ l.logSpaceExtent := Nat.mul_le_mul_right _ (by omega)
    rw [if_pos (hhas.2 (by omega)), sftIndex_eq, Nat.div_eq_of_lt_le hlo hhi, Nat.mod_eq_of_lt (by omega)]
  · intro h
    rw [if_neg fun e => by have := hhas.1 e; omega]

/-! ## Map64 of mmtk-core before commit 8903e0b (not the code in /repo now): `descriptor_total` does NOT hold (genuine mmtk-core defect) -/

/-- Full statement that fails:
`∀ dm a, dm.length = 16 → ∃ d, map64Descriptor layout64 dm a = .desc d`.
Witness: the first address of the 17th space slot, `0x2000_0000_0000 ≤ heap_end`. -/
theorem descriptor_total_fails :
    map64Descriptor layout64 (List.replicate 16 0) 0x200000000000 = .oob ∧
    map64Descriptor layout64 (List.replicate 16 0) 0x220000000000 = .oob ∧
    (0x200000000000 ≤ layout64.heapEnd ∧ layout64.heapEnd = 0x220000000000) := by decide

theorem descriptor_oob_iff (l : VMLayout) (dm : List Nat) (a : Nat) :
    map64Descriptor l dm a = .oob ↔ (dm.length * 2 ^ l.logSpaceExtent ≤ a ∧ a ≤ l.heapEnd) := by
  have hp : 0 < 2 ^ l.logSpaceExtent := Nat.two_pow_pos _
  unfold map64Descriptor map64SpaceIndex
  by_cases h : a > l.heapEnd
  · rw [if_pos h]
    exact ⟨nofun, fun e => by omega⟩
  · simp only [h, if_false, Nat.shiftRight_eq_div_pow]
    cases hd : dm[a / 2 ^ l.logSpaceExtent]? with
    | some d =>
      have := (Nat.div_lt_iff_lt_mul hp).1 (List.getElem?_eq_some_iff.1 hd).1
      exact ⟨nofun, fun e => by omega⟩
    | none =>
      have := (Nat.le_div_iff_mul_le hp).1 (List.getElem?_eq_none_iff.1 hd)
      exact ⟨fun _ => ⟨this, by omega⟩, fun _ => rfl⟩

/-- **C31 (descriptor total — the part that holds).** Every address below the 17th slot
(`a < 16·2^41`) or above `heap_end` resolves without panicking, whatever the map holds. -/
theorem descriptor_total_partial (dm : List Nat) (hlen : dm.length = 16) (a : Nat)
    (h : a < 16 * 2 ^ layout64.logSpaceExtent ∨ a > layout64.heapEnd) :
    ∃ d, map64Descriptor layout64 dm a = .desc d := by
  have hne : map64Descriptor layout64 dm a ≠ .oob := by
    rw [Ne, descriptor_oob_iff, hlen]; omega
  cases hm : map64Descriptor layout64 dm a with
  | desc d => exact ⟨d, rfl⟩
  | oob => exact absurd hm hne

/-! ## Map64 since commit 8903e0b (the code in /repo): bounds-checked lookup (`descriptor_map.get(index)…unwrap_or(UNINITIALIZED)`) -/

/-- the bounds-checked lookup against the unchecked one: wherever `map64Descriptor` returns a descriptor it returns the
same one; where that one goes out of bounds it returns `UNINITIALIZED`. -/
theorem descriptor_total_fixed (l : VMLayout) (dm : List Nat) (a : Nat) :
    (∀ d, map64Descriptor l dm a = .desc d → map64DescriptorFixed l dm a = d) ∧
    (map64Descriptor l dm a = .oob → map64DescriptorFixed l dm a = 0) := by
  unfold map64Descriptor map64DescriptorFixed
  cases map64SpaceIndex l a with
  | none => simp
  | some i =>
    simp only
    cases hd : dm[i]? with
    | none => simp [List.getD, hd]
    | some d => simp [List.getD, hd]

theorem descriptor_fixed_exact (dm : List Nat) (a i : Nat)
    (h1 : i * 2 ^ layout64.logSpaceExtent ≤ a) (h2 : a < (i + 1) * 2 ^ layout64.logSpaceExtent)
    (hi : i ≤ 15) : map64DescriptorFixed layout64 dm a = dm.getD i 0 := by
  have hdiv : a / 2 ^ layout64.logSpaceExtent = i := Nat.div_eq_of_lt_le h1 h2
  have hle : ¬ a > layout64.heapEnd := by
    have : (i + 1) * 2 ^ layout64.logSpaceExtent ≤ 16 * 2 ^ layout64.logSpaceExtent :=
      Nat.mul_le_mul_right _ (by omega)
    have : 16 * 2 ^ layout64.logSpaceExtent ≤ layout64.heapEnd := by decide
    omega
  unfold map64DescriptorFixed map64SpaceIndex
  simp only [hle, if_false, Nat.shiftRight_eq_div_pow, hdiv]

theorem map32_descriptor_exact (dm : Nat → Nat) (n a : Nat) :
    map32Descriptor dm n a = if a / 2 ^ 22 < n then dm (a / 2 ^ 22) else 0 := by
  unfold map32Descriptor logBytesInChunk
  simp only [Nat.shiftRight_eq_div_pow]

example : sftGetChecked layout64 0x20000000008 = some 1 := by decide
example : sftGetChecked layout64 0x1ffffffffff8 = some 15 := by decide
example : sftGetChecked layout64 0x200000000000 = none := by decide

end Mmtk.Resolve
