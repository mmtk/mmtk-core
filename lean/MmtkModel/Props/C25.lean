import MmtkModel.Model.Layout
/-!
# C25 — Side-metadata sanity checking rejects exactly the overlapping spec sets

The check run at plan creation accepts a context iff (size budgets hold and) no two distinct global
specs and no two distinct local specs have intersecting metadata address ranges — for **all**
offsets, widths and region sizes.

`noOverlap` is the predicate of mmtk-core since its commit 0eb730d (the code in /repo), the one the differential ties to the
code. Before that commit the predicate computed `end = base + size` instead of `start + size`
(`noOverlapBuggy`): `buggy_accepts_overlap_witness` is an overlapping pair it accepts, found on the real
code (replayed through `hx_unit sanity pair …`).
-/
namespace Mmtk.Layout

/-- **C25 (pair)** the predicate accepts exactly the non-overlapping pairs. -/
theorem noOverlap_iff (a b : Spec) : noOverlap a b = true ↔ ¬ Overlap a b := by
  unfold noOverlap Overlap
  simp only [Bool.or_eq_true, decide_eq_true_eq]
  omega

theorem allPairsOk_iff (chk : Spec → Spec → Bool) (specs : List Spec) :
    allPairsOk chk specs = true ↔ ∀ a ∈ specs, ∀ b ∈ specs, a ≠ b → chk a b = true := by
  unfold allPairsOk
  simp only [List.all_eq_true, Bool.or_eq_true, decide_eq_true_eq]
  exact forall₂_congr fun a _ => forall₂_congr fun b _ => Decidable.or_iff_not_imp_left

theorem verifyGlobal_iff (g : List Spec) :
    verifyGlobal noOverlap g = true ↔
      totalSize g ≤ 2 ^ (logAddressSpace - 1) ∧ ∀ a ∈ g, ∀ b ∈ g, a ≠ b → ¬ Overlap a b := by
  unfold verifyGlobal
  simp only [Bool.and_eq_true, decide_eq_true_eq, allPairsOk_iff, noOverlap_iff]

theorem verifyLocal_iff (l : List Spec) :
    verifyLocal noOverlap l = true ↔
      (∀ s ∈ l, rangeSize s ≤ 2 ^ (logAddressSpace - 1)) ∧ ∀ a ∈ l, ∀ b ∈ l, a ≠ b → ¬ Overlap a b := by
  unfold verifyLocal
  simp only [Bool.and_eq_true, List.all_eq_true, decide_eq_true_eq, allPairsOk_iff, noOverlap_iff]

/-- **C25 (context)** plan creation does not panic iff global and local sets are each pairwise
disjoint (given well-typed lists and the size budgets); if two global specs — or two local specs —
overlap, it panics. -/
theorem verifyContext_ok_iff (g l : List Spec)
    (hg : ∀ s ∈ g, s.isGlobal = true) (hl : ∀ s ∈ l, s.isGlobal = false) :
    verifyContext noOverlap g l = .ok ↔
      (totalSize g ≤ 2 ^ (logAddressSpace - 1) ∧ ∀ a ∈ g, ∀ b ∈ g, a ≠ b → ¬ Overlap a b) ∧
      ((∀ s ∈ l, rangeSize s ≤ 2 ^ (logAddressSpace - 1)) ∧ ∀ a ∈ l, ∀ b ∈ l, a ≠ b → ¬ Overlap a b) := by
  have h1 : g.all (·.isGlobal) = true := by simpa [List.all_eq_true] using hg
  have h2 : l.all (fun s => !s.isGlobal) = true := by
    simp only [List.all_eq_true, Bool.not_eq_true']; exact hl
  rw [← verifyGlobal_iff, ← verifyLocal_iff]
  unfold verifyContext
  cases hG : verifyGlobal noOverlap g <;> cases hL : verifyLocal noOverlap l <;> simp [h1, h2]

theorem overlap_panics (g l : List Spec) (a b : Spec)
    (h : (a ∈ g ∧ b ∈ g) ∨ (a ∈ l ∧ b ∈ l)) (hne : a ≠ b) (hov : Overlap a b)
    (hg : ∀ s ∈ g, s.isGlobal = true) (hl : ∀ s ∈ l, s.isGlobal = false) :
    verifyContext noOverlap g l ≠ .ok := by
  intro hok
  have := (verifyContext_ok_iff g l hg hl).1 hok
  rcases h with ⟨ha, hb⟩ | ⟨ha, hb⟩
  · exact this.1.2 a ha b hb hne hov
  · exact this.2.2 a ha b hb hne hov

/-! ## The predicate of mmtk-core before commit 0eb730d (not the code in /repo now) -/

/-- The one direction `noOverlapBuggy` does satisfy. -/
theorem buggy_never_rejects_disjoint (a b : Spec) (h : ¬ Overlap a b) : noOverlapBuggy a b = true := by
  unfold noOverlapBuggy; unfold Overlap at h
  simp only [Bool.or_eq_true, decide_eq_true_eq]
  omega

def witnessA : Spec := { name := 0, isGlobal := true, offset := 2^41, logBits := 0, logRegion := 3 }
def witnessB : Spec := { name := 1, isGlobal := true, offset := 2^41 + 2^25, logBits := 3, logRegion := 22 }

/-- `noOverlapBuggy` accepts an overlapping pair (B's table lies inside A's). -/
theorem buggy_accepts_overlap_witness :
    witnessA.legal ∧ witnessB.legal ∧ Overlap witnessA witnessB ∧ noOverlapBuggy witnessA witnessB = true := by
  decide

/-- … which `noOverlap` rejects. -/
example : noOverlap witnessA witnessB = false := by decide

example : verifyContext noOverlap
    [{ name := 0, isGlobal := true, offset := 0, logBits := 0, logRegion := 3 },
     { name := 1, isGlobal := true, offset := 2^41, logBits := 0, logRegion := 3 }]
    [{ name := 2, isGlobal := false, offset := 2^42, logBits := 3, logRegion := 3 }] = .ok := by decide
example : verifyContext noOverlap
    [{ name := 0, isGlobal := true, offset := 0, logBits := 0, logRegion := 3 },
     { name := 1, isGlobal := true, offset := 100, logBits := 0, logRegion := 3 }] [] = .panicOther := by decide

end Mmtk.Layout
