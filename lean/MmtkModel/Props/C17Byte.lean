import MmtkModel.Props.C17
import MmtkModel.Model.FwdByte
/-!
# C17, different objects of one metadata byte forwarded at the same time

Every run of the byte model `Mmtk.FwdByte` is, seen from either of its two objects, a run of the
per-object model `Mmtk.Fwd` (the projection is described in `Model/FwdByte.lean`), so what C17 proves
of `Fwd.Reachable` states holds for each object while its neighbour in the same byte is being
forwarded too; (1)–(3) and the executable verdict `outcomeOk` are restated per object here.  This
needs the retry: `attempt_to_forward` LOOPS on a failed CAS.  A variant that takes the failed CAS's
view of its own bits (`00`) for a win copies twice (`noRetry_copies_twice`).
-/
namespace Mmtk.FwdByte

theorem other_ne (k : Obj) : k.other ≠ k := by cases k <;> decide
theorem eq_other_of_ne {j k : Obj} (h : j ≠ k) : j = k.other := by
  cases j <;> cases k <;> first | rfl | exact absurd rfl h

theorem obj_setObj (sh : Shared) (k : Obj) (o : Fwd.Shared) : (sh.setObj k o).obj k = o := by
  simp only [Shared.setObj, if_true]
theorem obj_setObj_ne (sh : Shared) (j k : Obj) (h : k ≠ j) (o : Fwd.Shared) :
    (sh.setObj j o).obj k = sh.obj k := by
  simp only [Shared.setObj, if_neg h]
theorem rest_setObj (sh : Shared) (k : Obj) (o : Fwd.Shared) : (sh.setObj k o).rest = sh.rest := rfl

variable (immix oneStep : Bool)

theorem base_step (k : Obj) (x : Nat) (d : Bool) (sh : Shared) (p : Fwd.PC) (hp : p ≠ .cas) :
    localStep immix oneStep k x d sh (.base p) =
      (sh.setObj k (Fwd.localStep immix oneStep x d (sh.obj k) p).1,
       .base (Fwd.localStep immix oneStep x d (sh.obj k) p).2) := by
  cases p with
  | cas => exact absurd rfl hp
  | _ => rfl

/-- `h`: a load at `.start` that reads `00` is left out, here and in `projLocal_base`.  It leads to `.cas`,
which projects to `.start` again (a stutter); its per-object step is taken together with the CAS step
when the byte CAS succeeds (`proj_local`, case `casB`). -/
theorem next_ne_cas (x : Nat) (d : Bool) (o : Fwd.Shared) (p : Fwd.PC) (hp : p ≠ .cas)
    (h : p = .start → o.bits ≠ Fwd.NOT_TRIGGERED) :
    (Fwd.localStep immix oneStep x d o p).2 ≠ .cas := by
  cases p with
  | cas => exact absurd rfl hp
  | start => dsimp only [Fwd.localStep]; rw [if_neg (h rfl)]; split <;> nofun
  | spin => dsimp only [Fwd.localStep]; (repeat' split) <;> nofun
  | won => dsimp only [Fwd.localStep]; cases immix <;> cases o.marked <;> nofun
  | decide => cases d <;> nofun
  | copied c => cases oneStep <;> nofun
  | _ => nofun

theorem projPC_base (q : Fwd.PC) (hq : q ≠ .cas) : projPC (.base q) = q := by
  cases q with
  | cas => exact absurd rfl hq
  | _ => rfl

theorem projLocal_base (k : Obj) (sh : Shared) (p : Fwd.PC) (x : Nat) (d : Bool) (hp : p ≠ .cas)
    (h : p = .start → (sh.obj k).bits ≠ Fwd.NOT_TRIGGERED) :
    projLocal k sh (.base p) x d = [(x, d)] := by
  cases p with
  | cas => exact absurd rfl hp
  | start => simp only [projLocal, if_neg (h rfl)]
  | _ => rfl

/-- One step of a thread of object `k` is the run `projLocal …` (0, 1 or 2 steps) of the per-object model. -/
theorem proj_local (k : Obj) (x : Nat) (d : Bool) (sh : Shared) (pc : PC) (S : Fwd.State)
    (hS : S.sh = sh.obj k) (hpc : S.pc x = projPC pc) :
    Fwd.exec immix oneStep S (projLocal k sh pc x d) =
      { sh := (localStep immix oneStep k x d sh pc).1.obj k,
        pc := fun y => if y = x then projPC (localStep immix oneStep k x d sh pc).2 else S.pc y } := by
  -- a stutter step: nothing changes and the projected program point is still the loop head
  have stutter : ∀ (q : PC), projPC pc = .start → projPC q = .start →
      S = { sh := sh.obj k, pc := fun y => if y = x then projPC q else S.pc y } := by
    intro q h1 h2
    refine Fwd.state_ext hS (fun y => ?_)
    by_cases hy : y = x
    · subst hy; simp only [if_true]; rw [hpc, h1, h2]
    · simp only [if_neg hy]
  cases pc with
  | casB o r =>
    dsimp only [projLocal, localStep]
    by_cases hc : (sh.obj k).bits = Fwd.NOT_TRIGGERED ∧ (sh.obj k.other).bits = o ∧ sh.rest = r
    · rw [if_pos hc, if_pos hc]
      have hb : S.sh.bits = Fwd.NOT_TRIGGERED := hS ▸ hc.1
      -- the successful byte CAS is the per-object load of `00` and the CAS, back to back
      show Fwd.step immix oneStep (Fwd.step immix oneStep S x d) x d = _
      rw [Fwd.step_eq immix oneStep S x d hpc (if_pos hb),
        Fwd.step_eq immix oneStep ⟨S.sh, fun y => if y = x then .cas else S.pc y⟩ x d (if_pos rfl) (if_pos hb)]
      refine Fwd.state_ext (by rw [obj_setObj, hS]) (fun y => ?_)
      by_cases hy : y = x
      · simp only [hy, if_true]; rfl
      · simp only [if_neg hy]
    · rw [if_neg hc, if_neg hc]
      exact stutter (.base .start) rfl rfl
  | base p =>
    by_cases hcas : p = .cas
    · subst hcas
      exact stutter (.casB (sh.obj k.other).bits sh.rest) rfl rfl
    · by_cases hst : p = .start ∧ (sh.obj k).bits = Fwd.NOT_TRIGGERED
      · obtain ⟨hp, hb⟩ := hst
        subst hp
        have e1 : projLocal k sh (.base .start) x d = [] := by simp only [projLocal, if_pos hb]
        have e2 : localStep immix oneStep k x d sh (.base .start) = (sh.setObj k (sh.obj k), .base .cas) := by
          simp only [localStep, Fwd.localStep, if_pos hb]
        rw [e1, e2]
        have := stutter (.base .cas) rfl rfl
        simp only [obj_setObj]
        exact this
      · have hst' : p = .start → (sh.obj k).bits ≠ Fwd.NOT_TRIGGERED := fun h1 h2 => hst ⟨h1, h2⟩
        rw [projLocal_base k sh p x d hcas hst', base_step immix oneStep k x d sh p hcas]
        have hne := next_ne_cas immix oneStep x d (sh.obj k) p hcas hst'
        have hpc' : S.pc x = p := by rw [hpc]; exact projPC_base p hcas
        rw [obj_setObj, projPC_base _ hne, ← hS, ← hpc']
        rfl

/-- A byte-level CAS on one object's bits changes neither the neighbour's shared state nor the remaining
bits of the byte. -/
theorem cas_leaves_neighbour (k : Obj) (x : Nat) (d : Bool) (s : State) :
    (step immix oneStep s (.thread k x d)).sh.obj k.other = s.sh.obj k.other ∧
    (step immix oneStep s (.thread k x d)).sh.rest = s.sh.rest := by
  simp only [step]
  cases hp : s.pc k x with
  | casB o r =>
    dsimp only [localStep]
    split
    · exact ⟨obj_setObj_ne _ _ _ (other_ne k) _, rfl⟩
    · exact ⟨rfl, rfl⟩
  | base p =>
    by_cases hcas : p = .cas
    · subst hcas; exact ⟨rfl, rfl⟩
    · rw [base_step immix oneStep k x d s.sh p hcas]
      exact ⟨obj_setObj_ne _ _ _ (other_ne k) _, rfl⟩

theorem proj_step (k : Obj) (s : State) (a : Act) :
    proj k (step immix oneStep s a) = Fwd.exec immix oneStep (proj k s) (projAct k s a) := by
  cases a with
  | env v => rfl
  | thread j x d =>
    by_cases hj : j = k
    · subst hj
      simp only [projAct, if_true]
      rw [proj_local immix oneStep j x d s.sh (s.pc j x) (proj j s) rfl rfl]
      refine Fwd.state_ext rfl (fun y => ?_)
      simp only [proj, step, true_and, apply_ite projPC]
    · have hkj : ¬ k = j := fun e => hj e.symm
      simp only [projAct, if_neg hj, Fwd.exec]
      refine Fwd.state_ext ?_ (fun y => ?_)
      · obtain rfl := eq_other_of_ne hkj
        exact (cas_leaves_neighbour immix oneStep j x d s).1
      · simp only [proj, step, hkj, false_and, if_false]

/-- **projection**: every run of the byte model is, seen from object `k`, a run of the per-object
forwarding model. -/
theorem proj_exec (k : Obj) (s : State) (run : List Act) :
    proj k (exec immix oneStep s run) =
      Fwd.exec immix oneStep (proj k s) (projRun immix oneStep k s run) := by
  induction run generalizing s with
  | nil => rfl
  | cons a rest ih =>
    simp only [exec, projRun]
    rw [Fwd.exec_append, ← proj_step]
    exact ih _

theorem proj_reachable (k : Obj) (m0A m0B : Bool) (r0 : Nat) (run : List Act) :
    Fwd.Reachable immix oneStep (m0of m0A m0B k)
      (proj k (exec immix oneStep (init m0A m0B r0) run)) :=
  ⟨projRun immix oneStep k (init m0A m0B r0) run, by rw [proj_exec]; rfl⟩

/-- **neighbours are independent**: for every run of the byte model — tracers of BOTH objects and
the environment interleaved arbitrarily — each object's view is a run of its own per-object model. -/
theorem neighbours_independent (m0A m0B : Bool) (r0 : Nat) (run : List Act) :
    Fwd.Reachable immix oneStep m0A (proj .A (exec immix oneStep (init m0A m0B r0) run)) ∧
    Fwd.Reachable immix oneStep m0B (proj .B (exec immix oneStep (init m0A m0B r0) run)) :=
  ⟨proj_reachable immix oneStep .A m0A m0B r0 run, proj_reachable immix oneStep .B m0A m0B r0 run⟩

theorem proj_pc {k : Obj} {s : State} {x : Nat} {p : Fwd.PC} (h : s.pc k x = .base p) (hp : p ≠ .cas) :
    (proj k s).pc x = p := by
  show projPC (s.pc k x) = p
  rw [h]; exact projPC_base p hp

section PerObject
variable {immix oneStep} {m0A m0B : Bool} {r0 : Nat} {run : List Act}

/-- **C17 (2) per object**: each object is copied at most once. -/
theorem copy_at_most_once_per_object (k : Obj) (hcs : immix = false → m0of m0A m0B k = false) :
    ((exec immix oneStep (init m0A m0B r0) run).sh.obj k).copies.length ≤ 1 :=
  Fwd.copy_at_most_once hcs (proj_reachable immix oneStep k m0A m0B r0 run)

/-- **C17 (3) per object**: all finished tracers of object `k` returned the same reference — the
unique copy, or the unmoved object if no copy was made. -/
theorem agreement_per_object (k : Obj) (hcs : immix = false → m0of m0A m0B k = false) (x y r r' : Nat)
    (hx : (exec immix oneStep (init m0A m0B r0) run).pc k x = .base (.done r))
    (hy : (exec immix oneStep (init m0A m0B r0) run).pc k y = .base (.done r')) :
    r = r' ∧ ((r = Fwd.orig ∧ ((exec immix oneStep (init m0A m0B r0) run).sh.obj k).copies = []) ∨
      ((exec immix oneStep (init m0A m0B r0) run).sh.obj k).copies = [r]) :=
  Fwd.agreement hcs (proj_reachable immix oneStep k m0A m0B r0 run) x y r r' (proj_pc hx nofun) (proj_pc hy nofun)

/-- **C17 (1) per object**: at most one tracer of object `k` is between its successful CAS and its
final store / clear. -/
theorem one_winner_at_a_time_per_object (k : Obj) (hcs : immix = false → m0of m0A m0B k = false)
    (x y : Nat)
    (hx : Fwd.inCrit (projPC ((exec immix oneStep (init m0A m0B r0) run).pc k x)) = true)
    (hy : Fwd.inCrit (projPC ((exec immix oneStep (init m0A m0B r0) run).pc k y)) = true) : x = y :=
  Fwd.one_winner_at_a_time hcs (proj_reachable immix oneStep k m0A m0B r0 run) x y hx hy

/-- **C17 tie, per object**: the NEIGHBOUR's tracers may be anywhere; the outcome of object `k` is
accepted by the per-object verdict `Fwd.outcomeOk`. -/
theorem outcome_sound_per_object (k : Obj) (hcs : immix = false → m0of m0A m0B k = false) (n : Nat)
    (hn : 0 < n)
    (hfin : ∀ x, x < n → ∃ r, (exec immix oneStep (init m0A m0B r0) run).pc k x = .base (.done r))
    (hidle : ∀ x, n ≤ x → (exec immix oneStep (init m0A m0B r0) run).pc k x = .base .start) :
    Fwd.outcomeOk immix (m0of m0A m0B k)
      (Fwd.outcomeOf n (proj k (exec immix oneStep (init m0A m0B r0) run))) = true :=
  Fwd.outcome_sound hcs (proj_reachable immix oneStep k m0A m0B r0 run) n hn
    (fun x hx => (hfin x hx).imp fun _ hr => proj_pc hr nofun) fun x hx => proj_pc (hidle x hx) nofun

end PerObject

/-- **a neighbour makes the byte CAS fail spuriously; `attempt_to_forward` loops and wins**
(CopySpace, two-store layout, tracer `(A,0)` and tracer `(B,0)`): `A` loads the byte; `B` wins its
CAS; `A`'s CAS fails although `A`'s own bits are still `00`; `A` goes round the loop and wins.  Both
objects end `FORWARDED` with one copy each. -/
theorem spurious_failure_then_retry :
    let s1 := exec false false (init false false 0)
      [.thread .A 0 false, .thread .A 0 false, .thread .B 0 false, .thread .B 0 false, .thread .B 0 false,
       .thread .A 0 false]
    let s := exec false false s1
      [.thread .A 0 false, .thread .A 0 false, .thread .A 0 false, .thread .A 0 false, .thread .A 0 false,
       .thread .A 0 false, .thread .B 0 false, .thread .B 0 false, .thread .B 0 false]
    -- after the failed CAS: own bits still 00, the neighbour's are 10, tracer (A,0) is back at the loop head
    (s1.sh.obj .A).bits = 0 ∧ (s1.sh.obj .B).bits = 2 ∧ s1.pc .A 0 = .base .start ∧ s1.pc .B 0 = .base .won ∧
    -- after the retry
    (s.sh.obj .A).bits = 3 ∧ (s.sh.obj .B).bits = 3 ∧ (s.sh.obj .A).copies = [2] ∧ (s.sh.obj .B).copies = [2] ∧
    s.pc .A 0 = .base (.done 2) ∧ s.pc .B 0 = .base (.done 2) ∧
    (s.sh.obj .A).queue = [2] ∧ (s.sh.obj .B).queue = [2] := by
  decide

/-- hypotheses of `outcome_sound_per_object` are satisfiable: Immix, one-store layout, two tracers on
`A` (one wins and copies, the other spins and reads the pointer), one on `B` (declines, marks in
place), the environment rewrites the remaining bits in between. -/
example :
    let s := exec true true (init false false 7)
      [.thread .A 0 false, .thread .A 1 false, .thread .B 0 true, .thread .A 0 false, .thread .B 0 true,
       .env 9, .thread .A 0 false, .thread .A 0 false, .thread .A 0 false, .thread .A 0 false,
       .thread .A 1 false, .thread .A 1 false, .thread .A 1 false, .thread .A 0 false,
       .thread .A 0 false, .thread .A 0 false, .thread .A 1 false, .thread .A 1 false,
       .thread .B 0 true, .thread .B 0 true, .thread .B 0 true, .thread .B 0 true, .thread .B 0 true,
       .thread .B 0 true, .thread .B 0 true, .thread .B 0 true]
    s.pc .A 0 = .base (.done 2) ∧ s.pc .A 1 = .base (.done 2) ∧ s.pc .A 2 = .base .start ∧
    s.pc .B 0 = .base (.done 0) ∧ (s.sh.obj .A).copies = [2] ∧ (s.sh.obj .B).copies = [] ∧
    (s.sh.obj .B).marked = true ∧ s.sh.rest = 9 := by
  decide

/-- `localStep`, except that a failing byte CAS with the object's own bits still `00` goes on as the
winner WITHOUT having set the bits (the failed compare-exchange's view of the own field, `00`, is
what a caller that compares it with the expected value reads as "I won").  Not the code. -/
def noRetryStep (immix oneStep : Bool) (k : Obj) (x : Nat) (decline : Bool) (sh : Shared) (pc : PC) :
    Shared × PC :=
  match pc with
  | .casB o r =>
    if (sh.obj k).bits = Fwd.NOT_TRIGGERED ∧ (sh.obj k.other).bits = o ∧ sh.rest = r
    then (sh.setObj k { sh.obj k with bits := Fwd.BEING_FORWARDED, triggered := true }, .base .won)
    else if (sh.obj k).bits = Fwd.NOT_TRIGGERED then (sh, .base .won)
    else (sh, .base .start)
  | pc => localStep immix oneStep k x decline sh pc

def noRetryExec (immix oneStep : Bool) (s : State) : List (Obj × Nat × Bool) → State
  | [] => s
  | (k, x, d) :: rest =>
    let r := noRetryStep immix oneStep k x d s.sh (s.pc k x)
    noRetryExec immix oneStep { sh := r.1, pc := fun j y => if j = k ∧ y = x then r.2 else s.pc j y } rest

/-- With the mutant (CopySpace): tracers `(A,0)`, `(A,1)` both load the byte; `(B,0)` wins its CAS;
both `A` tracers' CASes fail because of `B`, both see their own bits `00`, both go on as winners:
object `A` is copied twice.  (In the byte model both go back to the loop head — at most one copy,
`copy_at_most_once_per_object`.) -/
theorem noRetry_copies_twice :
    let s := noRetryExec false false (init false false 0)
      [(.A, 0, false), (.A, 0, false), (.A, 1, false), (.A, 1, false),
       (.B, 0, false), (.B, 0, false), (.B, 0, false),
       (.A, 0, false), (.A, 1, false), (.A, 0, false), (.A, 1, false)]
    (s.sh.obj .A).copies = [4, 2] ∧ (s.sh.obj .A).copies.length = 2 ∧
    s.pc .A 0 = .base (.copied 2) ∧ s.pc .A 1 = .base (.copied 4) := by
  decide

end Mmtk.FwdByte
