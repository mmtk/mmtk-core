import MmtkModel.Model.TraceAddr
import MmtkModel.Props.C01Algo
/-!
# C04 (algorithm) — non-moving, immortal and pinned objects never move; immortal ones never die

Model: `Model/TraceAddr.lean` (the closure of `Model/Trace.lean` + an address table; the operation
alphabets of `ImmortalSpace`, of every space under NoGC, and of the large-object space).

* Addresses along the closure: in EVERY state of EVERY run (any schedule, any `moves`, any copy
  placement `place`) a visited object `o` with `moves o = false` has the address it had before the
  collection, and the others sit where the copy allocator put them (`AddrInv`); so after a finished
  run no slot that referred to a non-moving object needs a store.  `policyMoves` is `false` for pinned
  objects, for objects allocated with `Immortal` / `Los` / `NonMoving` / `ReadOnly` / `Code` /
  `LargeCode` semantics, and for every object of a non-copying plan.
* What "never reclaimed" means in the model: `immortal_never_released`, for every sequence of operations of an
  immortal space (allocation, prepare, trace, release — there is no other).  Under NoGC allocation is the only operation.
* The large-object sweep keeps every marked object and frees only unmarked ones (`los_marked_survive`,
  `los_freed_unmarked`); with `trace_reach_exact` every reachable large object survives, at its address.
-/
namespace Mmtk.Trace

variable {S : Snap} {moves : Id → Bool}

theorem processSlot_fwd (S : Snap) (moves : Id → Bool) (st : State) (i : Nat) :
    (processSlot S moves st i).fwd =
      match newlyForwarded S st i with
      | some r => fun x => if x = r then some st.fresh else st.fwd x
      | none => st.fwd := by
  unfold processSlot newlyForwarded
  cases st.pending[i]? with
  | none => rfl
  | some sl =>
    simp only
    cases readSlot st sl with
    | null => rfl
    | new n => rfl
    | old r =>
      simp only
      cases st.fwd r with
      | some n => simp
      | none =>
        cases S.heap r with
        | none => rfl
        | some o => simp [forward]

theorem execA_st (S : Snap) (moves : Id → Bool) (addr : Id → Nat) (place : Id → Id → Nat)
    (a : AState) (run : List Nat) :
    (execA S moves addr place a run).st = exec S moves a.st run :=
  (List.foldl_hom AState.st fun _ _ => rfl).symm

def AddrInv (moves : Id → Bool) (addr : Id → Nat) (place : Id → Id → Nat) (a : AState) : Prop :=
  ∀ o n : Nat, a.st.fwd o = some n → a.taddr n = if moves o then place o n else addr o

theorem addr_step (addr : Id → Nat) (place : Id → Id → Nat) (a : AState) (i : Nat)
    (inv : Inv S moves a.st) (h : AddrInv moves addr place a) :
    AddrInv moves addr place (processSlotA S moves addr place a i) := by
  intro o n hf
  simp only [processSlotA] at hf ⊢
  rw [processSlot_fwd] at hf
  cases hnf : newlyForwarded S a.st i with
  | none =>
    simp only [hnf] at hf ⊢
    exact h o n hf
  | some r =>
    simp only [hnf] at hf ⊢
    by_cases ho : o = r
    · subst ho
      have hn : n = a.st.fresh := by simpa using hf.symm
      simp [hn]
    · simp only [ho, if_false] at hf
      have hne : n ≠ a.st.fresh := Nat.ne_of_lt (inv.lt o n hf)
      simp only [hne, if_false]
      exact h o n hf

theorem addr_run (wf : WF S) (addr : Id → Nat) (place : Id → Id → Nat) (run : List Nat) :
    AddrInv moves addr place (execA S moves addr place (initA S) run) :=
  (List.foldlRecOn (motive := fun a => Inv S moves a.st ∧ AddrInv moves addr place a) run _
    ⟨init_inv S moves, fun _ _ h => by cases h⟩
    fun a h i _ => ⟨step_inv wf i h.1, addr_step addr place a i h.1 h.2⟩).2

/-- in every state of every run, a visited object with `moves o = false` has address-after = address-before. -/
theorem nonmoving_fixed (wf : WF S) (addr : Id → Nat) (place : Id → Id → Nat) (run : List Nat)
    (o n : Id) (hf : (execA S moves addr place (initA S) run).st.fwd o = some n)
    (hm : moves o = false) :
    (execA S moves addr place (initA S) run).taddr n = addr o := by
  have := addr_run wf addr place run o n hf
  rwa [hm] at this

theorem moved_placed (wf : WF S) (addr : Id → Nat) (place : Id → Id → Nat) (run : List Nat)
    (o n : Id) (hf : (execA S moves addr place (initA S) run).st.fwd o = some n)
    (hm : moves o = true) :
    (execA S moves addr place (initA S) run).taddr n = place o n := by
  have := addr_run wf addr place run o n hf
  rwa [hm] at this

/-- after a finished run, a live slot that referred to a non-moving object `x` holds a reference whose address is
still `addr x` (and the object reached through it has the `moved = false` flag). -/
theorem nonmoving_slot_fixed (wf : WF S) (addr : Id → Nat) (place : Id → Id → Nat) (run : List Nat)
    (hfin : (execA S moves addr place (initA S) run).st.pending = [])
    (s : SSlot) (x : Id) (hl : s.live S) (hx : snapRead S s = some (some x)) (hm : moves x = false) :
    let a := execA S moves addr place (initA S) run
    ∃ sl m t, image a.st s = some sl ∧ readSlot a.st sl = .new m ∧ a.taddr m = addr x ∧
      a.st.tobjs m = some t ∧ t.moved = false := by
  intro a
  -- the closure's own state does not depend on the address table
  have hst : a.st = exec S moves (init S) run := execA_st S moves addr place (initA S) run
  have hfix := nonmoving_fixed (moves := moves) wf addr place run x
  rw [hst] at hfin hfix ⊢
  have inv : Inv S moves (exec S moves (init S) run) := run_inv wf run
  obtain ⟨sl, m, h1, h2, h3⟩ := live_slot_done inv hfin hl hx
  -- the `moved` flag of the to-object is part of the header the invariant records
  obtain ⟨_, -, hh⟩ := inv.hdr x m h3
  obtain ⟨t, g2, hh⟩ := Option.map_eq_some_iff.1 hh
  simp only [hdr, Prod.mk.injEq] at hh
  exact ⟨sl, m, t, h1, h2, hfix m h3 hm, g2, hh.2.2.1.trans hm⟩

theorem policyMoves_false {copying : Bool} {sem : Id → Sem} {pinned exhausted : Id → Bool} {o : Id}
    (h : pinned o = true ∨ sem o ≠ .default ∨ copying = false) :
    policyMoves copying sem pinned exhausted o = false := by
  unfold policyMoves
  split
  · next hs =>
    rcases h with h | h | h
    · simp [h]
    · exact absurd hs h
    · simp [h]
  · rfl

/-- an object whose pin bit is set at GC time keeps its address, whatever the plan, the schedule, and the
copy-reserve oracle. -/
theorem pinned_fixed (wf : WF S) (copying : Bool) (sem : Id → Sem) (pinned exhausted : Id → Bool)
    (addr : Id → Nat) (place : Id → Id → Nat) (run : List Nat) (o n : Id)
    (hf : (execA S (policyMoves copying sem pinned exhausted) addr place (initA S) run).st.fwd o = some n)
    (hp : pinned o = true) :
    (execA S (policyMoves copying sem pinned exhausted) addr place (initA S) run).taddr n = addr o :=
  nonmoving_fixed wf addr place run o n hf (policyMoves_false (.inl hp))

/-- objects allocated with any semantics other than `Default`, and all objects of a non-copying plan, keep their
address. -/
theorem sem_fixed (wf : WF S) (copying : Bool) (sem : Id → Sem) (pinned exhausted : Id → Bool)
    (addr : Id → Nat) (place : Id → Id → Nat) (run : List Nat) (o n : Id)
    (hf : (execA S (policyMoves copying sem pinned exhausted) addr place (initA S) run).st.fwd o = some n)
    (hs : sem o ≠ .default ∨ copying = false) :
    (execA S (policyMoves copying sem pinned exhausted) addr place (initA S) run).taddr n = addr o :=
  nonmoving_fixed wf addr place run o n hf (policyMoves_false (.inr hs))

theorem imm_step_ok (sp : ImmortalSp) (op : ImmOp) (h : sp.ok) : (sp.step op).ok := by
  cases op with
  | alloc id pad size =>
    refine ⟨?_, ?_⟩
    · intro c hc
      simp only [ImmortalSp.step, List.mem_cons] at hc ⊢
      rcases hc with rfl | hc
      · simp
      · have := h.1 c hc; omega
    · simp only [ImmortalSp.step, List.pairwise_cons]
      refine ⟨?_, h.2⟩
      intro c hc
      have := h.1 c hc
      right; simp only; omega
  | prepare => exact h
  | trace id => exact h
  | release => exact h

theorem imm_step_mem (sp : ImmortalSp) (op : ImmOp) (c : Cell) (h : c ∈ sp.cells) :
    c ∈ (sp.step op).cells := by
  cases op <;> simp [ImmortalSp.step, h]

theorem imm_step_cursor (sp : ImmortalSp) (op : ImmOp) : sp.cursor ≤ (sp.step op).cursor := by
  cases op <;> simp [ImmortalSp.step]; omega

/-- for EVERY sequence of operations of an immortal space, a cell that exists now (a) exists forever after with the same
id / address / size — marked or not, i.e. even when unreachable (`ImmortalSp.step` has no operation that frees) — and (b) is
disjoint from every other cell of every later state, in particular from everything allocated afterwards; (c) stays below
the bump cursor, which is the only source of new memory; and (d) the cursor never goes back. -/
theorem immortal_never_released (sp : ImmortalSp) (hok : sp.ok) (ops : List ImmOp) (c : Cell)
    (hc : c ∈ sp.cells) :
    c ∈ (sp.run ops).cells ∧
    (sp.run ops).cells.Pairwise Cell.disjoint ∧
    c.addr + c.size ≤ (sp.run ops).cursor ∧
    sp.cursor ≤ (sp.run ops).cursor := by
  obtain ⟨hok', hmem, hcur⟩ :=
    List.foldlRecOn (motive := fun s => s.ok ∧ c ∈ s.cells ∧ sp.cursor ≤ s.cursor) ops _
      ⟨hok, hc, Nat.le_refl _⟩ fun s h op _ =>
        ⟨imm_step_ok s op h.1, imm_step_mem s op c h.2.1, Nat.le_trans h.2.2 (imm_step_cursor s op)⟩
  exact ⟨hmem, hok'.2, hok'.1 c hmem, hcur⟩

theorem immortal_later_alloc_disjoint (sp : ImmortalSp) (hok : sp.ok) (ops : List ImmOp) (c : Cell)
    (hc : c ∈ sp.cells) (id pad size : Nat) :
    let sp' := (sp.run ops).step (.alloc id pad size)
    (⟨id, (sp.run ops).cursor + pad, size⟩ : Cell) ∈ sp'.cells ∧
    Cell.disjoint c ⟨id, (sp.run ops).cursor + pad, size⟩ := by
  intro sp'
  obtain ⟨_, -, h3, -⟩ := immortal_never_released sp hok ops c hc
  refine ⟨by simp [sp', ImmortalSp.step], ?_⟩
  left; simp only; omega

/-- under NoGC (every space is an `ImmortalSpace`, allocation is the only operation) nothing that was ever allocated
is reclaimed or overlapped. -/
theorem nogc_never_released (sp : ImmortalSp) (hok : sp.ok) (allocs : List (Id × Nat × Nat)) (c : Cell)
    (hc : c ∈ sp.cells) :
    c ∈ (sp.run (nogcOps allocs)).cells ∧ (sp.run (nogcOps allocs)).cells.Pairwise Cell.disjoint :=
  let h := immortal_never_released sp hok (nogcOps allocs) c hc
  ⟨h.1, h.2.1⟩

/-- the empty space is fine, so the theorems apply to every history from boot -/
theorem imm_empty_ok (m : Id → Bool) : (ImmortalSp.mk 0 [] m).ok := by
  exact ⟨(by intro c hc; cases hc), List.Pairwise.nil⟩

theorem los_marked_survive (sp : LosSp) (marked : Id → Bool) (c : Cell) (hc : c ∈ sp.cells)
    (hm : marked c.id = true) : c ∈ (sp.step (.gc marked)).cells := by
  simp [LosSp.step, hc, hm]

theorem los_freed_unmarked (sp : LosSp) (marked : Id → Bool) (c : Cell)
    (hc : c ∈ (sp.step (.gc marked)).freed) : c ∈ sp.freed ∨ (c ∈ sp.cells ∧ marked c.id = false) := by
  simp only [LosSp.step, List.mem_append, List.mem_filter] at hc
  rcases hc with ⟨h1, h2⟩ | h
  · right; exact ⟨h1, by simpa using h2⟩
  · left; exact h

/-- with the closure theorem: every reachable large object survives the collection, in place
(same cell ⇒ same address and size). -/
theorem los_reachable_survive (wf : WF S) (run : List Nat)
    (hfin : (exec S moves (init S) run).pending = []) (sp : LosSp) (c : Cell) (hc : c ∈ sp.cells)
    (hr : Reach S c.id) :
    c ∈ (sp.step (.gc (markedBy (exec S moves (init S) run)))).cells :=
  los_marked_survive sp _ c hc ((trace_reach_exact wf run hfin c.id).mpr hr)

/-- the cyclic example heap of C01 with object 1 pinned: after the schedule `exRunA` it sits at its
old address `addr 1 = 0x1010`, the others at their copy addresses. -/
example :
    let addr : Id → Nat := fun r => 0x1000 + 16 * r
    let place : Id → Id → Nat := fun _ n => 0x9000 + 32 * n
    let mv := policyMoves true (fun _ => .default) (fun r => r == 1) (fun _ => false)
    let a := execA exSnap mv addr place (initA exSnap) exRunA
    a.st.pending = [] ∧ a.st.fwd 1 = some 1 ∧ a.taddr 1 = 0x1010 ∧ a.taddr 0 = 0x9000 ∧ a.taddr 2 = 0x9040 := by
  decide

example :
    let sp := (ImmortalSp.mk 0 [] (fun _ => false)).run
      [.alloc 7 0 24, .alloc 8 8 16, .prepare, .trace 8, .release, .alloc 9 0 8]
    sp.cells = [⟨9, 48, 8⟩, ⟨8, 32, 16⟩, ⟨7, 0, 24⟩] ∧ sp.marked 7 = false := by decide

end Mmtk.Trace
