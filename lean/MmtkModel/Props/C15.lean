import MmtkModel.Props.C15Stages
import MmtkModel.Lemmas.SchedIds
/-!
# C15 — Stop-the-world stages open in order; each packet runs exactly once

Model: `Model/Sched.lean`.  Statements are about **every transition from every reachable state**
(all interleavings, all `n ≥ 1`) and every well-formed stage table (`Cfg.WF`).  The order of the stages
(`open_only_when_quiescent`, `first_stw_opened_by_packet`, `all_closed_at_end`, `quiescent_at_end`, and
`generated_wf` for the regenerated table) is in `Props/C15Stages.lean`; here is the counting.

* `start_removes`, `exactly_once_partial` — a packet can start only by being removed from the container that held
  it, and at the end of a GC every stop-the-world bucket is empty and closed (the bucket part of
  `all_closed_at_end`); with `quiescent_at_end`: a packet pushed into a stop-the-world bucket during the GC has
  been taken out during it.  Nothing is said here of the other buckets: packets pushed by mutators into *closed*
  buckets between GCs run in the next GC; packets in the `Concurrent` bucket run after the pause.
* `packet_conservation`, `gc_end_accounting` — the counting form of conservation for every reachable
  state: `added = queued + started`, `started = running + ended`; at the end of a GC nothing runs, all
  local deques and designated queues are empty, `started = ended`, and `added = (bucket queues +
  sentinel slots) + ended` with every stop-the-world queue empty.
* `ids_partition`, `ids_nodup`, `ids_classes_disjoint`, `ids_complete` — **uniqueness of packet ids**,
  every reachable state: the ids of the queued packets (bucket queues, sentinel slots, local deques,
  designated queues) ++ the running packets ++ the ended packets are a permutation of
  `0, …, nextId − 1` (and `added = nextId`): every packet ever created is in exactly one of the three
  classes, exactly once; in particular `endedIds.Nodup` — no packet ends twice — and the *same* packet
  is never both queued and ended, or queued twice, or run by two workers.  Ids are generated by the
  model itself (`newPkt` reads the ghost counter `nextId`, `bump` increments it, in every creating
  action and in `add_schedule_collection_packet` inside `on_last_parked`), so freshness is *derived*
  (`step_invU`, `reachable_invU` in `Lemmas/SchedIds.lean`: the id-indexed form of `InvK`), not assumed.
* `ended_stable`, `runs_at_most_once`, `never_runs_again` — `endedIds` only grows (`step_endedIds`: it
  changes only in `execEnd`, by consing), so a packet that has ended is never queued or run again, after
  one step or after any run.
* `exactly_once` — the transition that completes a GC (`gcDone` increases) leaves: nothing running,
  every local deque / designated queue / stop-the-world bucket queue empty, and **every id ever
  created ended exactly once and queued nowhere**, except the ids that still sit, exactly once, in
  exactly one bucket; such a bucket is not stop-the-world (Unconstrained / Concurrent: packets pushed by
  mutators between GCs, concurrent work that runs after the pause) unless the packet is in that
  bucket's *sentinel slot*.  The sentinel exemption is real in the model: `schedule_sentinels` only
  looks at *open* buckets, so a sentinel installed in a stop-the-world bucket that was never opened in
  this GC (e.g. a disabled one) survives `on_gc_finished` (`close` asserts only that the queue is empty).
  `exactly_once_partial` is the weaker statement about the stop-the-world buckets alone.
  The last `example`s of this file exhibit runs where both disjuncts occur (id 0 ended, id 1 in the
  Concurrent bucket at the end of the GC) and where the sentinel exemption occurs (`sentinelRun`).
-/
namespace Mmtk.Sched

theorem start_removes {c : Cfg} {s s' : State} {w b : Nat} {p : Pkt} (hs : step c s (.pollBucket w b p) = some s') :
    p ∈ (s.bkt b).q ∧ (s.bkt b).isOpen = true ∧ (s.bkt b).enabled = true ∧
    (s'.bkt b).q = (s.bkt b).q.erase p ∧ s'.pc w = .exec p ∧ s'.started = s.started + 1 := by
  obtain ⟨seen, _, h⟩ := match_polling hs
  obtain ⟨hg, e⟩ := Option.ite_none_right_eq_some.1 h; cases e
  exact ⟨hg.2.2.2.2, hg.2.2.2.1, hg.2.2.1, congrArg Bucket.q (if_pos rfl), setPc_self _ _ _, rfl⟩

theorem exactly_once_partial {c : Cfg} (hwf : c.WF) {s s' : State} {a : Act} (hs : step c s a = some s')
    (hg : s'.gcDone ≠ s.gcDone) (b : Nat) (hb : b < c.L) (hstw : (c.info b).isStw = true) :
    (s'.bkt b).q = [] ∧ (s'.bkt b).isOpen = false :=
  let ⟨_, _, _, h⟩ := all_closed_at_end hwf hs hg
  ⟨(h b hb hstw).2, (h b hb hstw).1⟩

theorem packet_conservation {c : Cfg} (hu : c.unconIdx < c.L) {s : State} (h : Reachable c s) :
    s.added = queued c s + s.started ∧ s.started = running c s + s.ended :=
  let k := reachable_invK hu h
  ⟨k.added_eq, k.started_eq⟩

theorem desig_empty_at_end {c : Cfg} {s s' : State} {a : Act} (hs : step c s a = some s')
    (hg : s'.gcDone ≠ s.gcDone) : ∀ v, v < c.n → s'.desig v = [] := by
  obtain ⟨w, tag, s1, r, pcs, k, rfl, _, _, _, hl, rfl⟩ := gc_end_step hs hg
  intro v hv
  show s1.desig v = []; rw [(frame_onLastParked hl).desig]
  exact hasDesignated_false (onLastParked_gcDone_ne hl hg).2 v hv

theorem gc_end_accounting {c : Cfg} (hwf : c.WF) (hu : c.unconIdx < c.L) (hmut : c.mutAddOpen = false)
    {s s' : State} {a : Act} (hr : Reachable c s) (hs : step c s a = some s') (hg : s'.gcDone ≠ s.gcDone) :
    running c s' = 0 ∧ s'.started = s'.ended ∧ qBuf c s' = 0 ∧ qDes c s' = 0 ∧ s'.added = qBkt c s' + s'.ended ∧
    ∀ b, b < c.L → (c.info b).isStw = true → (s'.bkt b).q = [] := by
  have hr' : Reachable c s' := reachable_step hr hs
  obtain ⟨k1, k2⟩ := packet_conservation hu hr'
  obtain ⟨_, _, _, hclosed⟩ := all_closed_at_end hwf hs hg
  have q2 := (quiescent_at_end hwf hmut hr hs hg).2
  have r0 : running c s' = 0 := countW_zero _ _ (idle_at_end hwf hmut hr hs hg)
  have b0 : qBuf c s' = 0 := sumW_zero _ _ (fun v hv => by rw [q2 v hv]; rfl)
  have d0 : qDes c s' = 0 := sumW_zero _ _ (fun v hv => by rw [desig_empty_at_end hs hg v hv]; rfl)
  unfold queued at k1
  refine ⟨r0, by omega, b0, d0, by omega, fun b hb hstw => (hclosed b hb hstw).2⟩

open Mmtk.Generated.Stages in
example : (cfg 4).WF := generated_wf 4 (by decide) false

theorem ids_partition {c : Cfg} (hu : c.unconIdx < c.L) {s : State} (h : Reachable c s) :
    (allIds c s).Perm (List.range s.nextId) ∧ s.added = s.nextId := by
  have k := reachable_invU hu h
  refine ⟨List.perm_iff_count.mpr (fun i => ?_), k.1⟩
  rw [count_allIds, k.2 i, List.count_range]

theorem ids_nodup {c : Cfg} (hu : c.unconIdx < c.L) {s : State} (h : Reachable c s) : (allIds c s).Nodup :=
  (ids_partition hu h).1.nodup_iff.mpr List.nodup_range

theorem ids_classes_disjoint {c : Cfg} (hu : c.unconIdx < c.L) {s : State} (h : Reachable c s) :
    (queuedIds c s).Nodup ∧ (runningIds c s).Nodup ∧ s.endedIds.Nodup ∧
    (∀ i, i ∈ queuedIds c s → i ∉ runningIds c s) ∧ (∀ i, i ∈ queuedIds c s → i ∉ s.endedIds) ∧
    (∀ i, i ∈ runningIds c s → i ∉ s.endedIds) := by
  have nd := ids_nodup hu h
  unfold allIds at nd
  rw [List.nodup_append] at nd
  obtain ⟨nqr, ne, d1⟩ := nd
  rw [List.nodup_append] at nqr
  obtain ⟨nq, nr, d2⟩ := nqr
  exact ⟨nq, nr, ne, fun i hq hr => d2 i hq i hr rfl, fun i hq he => d1 i (List.mem_append_left _ hq) i he rfl,
    fun i hr he => d1 i (List.mem_append_right _ hr) i he rfl⟩

theorem ids_complete {c : Cfg} (hu : c.unconIdx < c.L) {s : State} (h : Reachable c s) :
    ∀ i, i < s.nextId ↔ i ∈ allIds c s := fun i => by
  rw [(ids_partition hu h).1.mem_iff, List.mem_range]

theorem ended_stable {c : Cfg} {s s' : State} {a : Act} (hs : step c s a = some s') :
    ∀ i, i ∈ s.endedIds → i ∈ s'.endedIds := by
  intro i hi
  rcases step_endedIds c s s' a hs with e | ⟨w, p, _, _, e⟩
  · rw [e]; exact hi
  · rw [e]; exact List.mem_cons_of_mem _ hi

theorem ended_stable_exec {c : Cfg} (run : List Act) : ∀ {s s' : State}, exec c s run = some s' →
    ∀ i, i ∈ s.endedIds → i ∈ s'.endedIds :=
  fun {s s'} e i hi => exec_some_induct c (fun t => i ∈ t.endedIds) (fun _ _ _ h hs => ended_stable hs i h) run s s' hi e

theorem ended_once {c : Cfg} (hu : c.unconIdx < c.L) {s : State} (h : Reachable c s) {i : Nat} (hi : i ∈ s.endedIds) :
    s.endedIds.count i = 1 ∧ i ∉ queuedIds c s ∧ i ∉ runningIds c s := by
  obtain ⟨_, _, ne, _, d2, d3⟩ := ids_classes_disjoint hu h
  exact ⟨by rw [ne.count, if_pos hi], fun hq => d2 i hq hi, fun hr => d3 i hr hi⟩

theorem runs_at_most_once {c : Cfg} (hu : c.unconIdx < c.L) {s s' : State} {a : Act} (hr : Reachable c s)
    (hs : step c s a = some s') (i : Nat) (hi : i ∈ s.endedIds) :
    s'.endedIds.count i = 1 ∧ i ∉ queuedIds c s' ∧ i ∉ runningIds c s' :=
  ended_once hu (reachable_step hr hs) (ended_stable hs i hi)

theorem never_runs_again {c : Cfg} (hu : c.unconIdx < c.L) {s s' : State} {run : List Act} (hr : Reachable c s)
    (he : exec c s run = some s') (i : Nat) (hi : i ∈ s.endedIds) :
    s'.endedIds.count i = 1 ∧ i ∉ queuedIds c s' ∧ i ∉ runningIds c s' :=
  ended_once hu (reachable_exec run hr he) (ended_stable_exec run he i hi)

theorem exactly_once {c : Cfg} (hwf : c.WF) (hu : c.unconIdx < c.L) (hmut : c.mutAddOpen = false)
    {s s' : State} {a : Act} (hr : Reachable c s) (hs : step c s a = some s') (hg : s'.gcDone ≠ s.gcDone) :
    (allIds c s').Perm (List.range s'.nextId) ∧ runningIds c s' = [] ∧
    (∀ w, w < c.n → s'.buf w = [] ∧ s'.desig w = []) ∧
    (∀ b, b < c.L → (c.info b).isStw = true → (s'.bkt b).q = []) ∧
    ∀ i, i < s'.nextId →
      (s'.endedIds.count i = 1 ∧ i ∉ queuedIds c s') ∨
      (i ∉ s'.endedIds ∧ ∃ b, b < c.L ∧ (bktIds (s'.bkt b)).count i = 1 ∧
        (∀ b', b' < c.L → b' ≠ b → i ∉ bktIds (s'.bkt b')) ∧
        ((c.info b).isStw = true → ∃ p, (s'.bkt b).sentinel = some p ∧ p.id = i)) := by
  have hr' := reachable_step hr hs
  have q3 := desig_empty_at_end hs hg
  have q2 := (quiescent_at_end hwf hmut hr hs hg).2
  obtain ⟨_, _, _, hclosed⟩ := all_closed_at_end hwf hs hg
  have hrun : runningIds c s' = [] := List.flatMap_eq_nil_iff.mpr fun x hx =>
    pcIds_of_not_exec (idle_at_end hwf hmut hr hs hg x (List.mem_range.mp hx))
  obtain ⟨nq, _, ne, _, d2, _⟩ := ids_classes_disjoint hu hr'
  refine ⟨(ids_partition hu hr').1, hrun, fun w hw => ⟨q2 w hw, q3 w hw⟩,
    fun b hb hstw => (hclosed b hb hstw).2, fun i hi => ?_⟩
  -- nothing runs, so the id is ended or queued, and not both
  have hm := (ids_complete hu hr' i).mp hi
  rw [allIds, hrun, List.append_nil, List.mem_append] at hm
  rcases hm with hq | he
  · right
    -- it occurs once among the queued ids, and not in a local deque or a designated queue: once in one bucket
    have h1 := count_queuedIds i c s'
    rw [nq.count, if_pos hq] at h1
    have b0 : qBufI i c s' = 0 := sumW_zero _ _ (fun v hv => by rw [q2 v hv]; rfl)
    have d0 : qDesI i c s' = 0 := sumW_zero _ _ (fun v hv => by rw [q3 v hv]; rfl)
    obtain ⟨b, hb, hb1, hbo⟩ := sumW_eq_one c.L (fun b => bktCntI i (s'.bkt b)) (by unfold qBktI at h1; omega)
    refine ⟨d2 i hq, b, hb, hb1, fun b' hb' hne => List.count_eq_zero.mp (hbo b' hb' hne), fun hstw => ?_⟩
    -- the queue of a stop-the-world bucket is empty, which leaves the sentinel slot
    have hmem : i ∈ bktIds (s'.bkt b) := List.count_pos_iff.mp (Nat.lt_of_lt_of_eq Nat.one_pos hb1.symm)
    rw [bktIds, (hclosed b hb hstw).2, List.map_nil, List.nil_append] at hmem
    obtain ⟨p, hp, e⟩ := List.mem_map.mp hmem
    exact ⟨p, Option.mem_toList.mp hp, e⟩
  · left
    exact ⟨by rw [ne.count, if_pos he], fun hq => d2 i hq he⟩

open Mmtk.Generated.Stages in
example : (cfg 4).unconIdx < (cfg 4).L := by decide

open Mmtk.Generated.Stages in
/-- 2 workers; a GC is requested, worker 0 (last parked) starts the Gc goal (creates packet 0,
`ScheduleCollection`), polls and runs it, pushes packet 1 into `Prepare`, and ends -/
def idsDemoRun : List Act :=
  (allConts (cfg 2)).map (Act.observeEmpty 1) ++ [.pollMiss 1, .park 1 0, .requestFlag, .makeRequest .gc (some 1)] ++
  (allConts (cfg 2)).map (Act.observeEmpty 0) ++ [.pollMiss 0, .wake 1] ++
  (allConts (cfg 2)).map (Act.observeEmpty 1) ++ [.pollMiss 1, .park 1 0, .park 0 7,
    .pollBucket 0 0 ⟨0, 0, 7⟩, .push 0 2 9]

open Mmtk.Generated.Stages in
example : (exec (cfg 2) (init (cfg 2)) idsDemoRun).map
    (fun s => (queuedIds (cfg 2) s, runningIds (cfg 2) s, s.endedIds, allIds (cfg 2) s, s.nextId)) =
    some ([1], [0], [], [1, 0], 2) := by decide +kernel

open Mmtk.Generated.Stages in
example : (exec (cfg 2) (init (cfg 2)) (idsDemoRun ++ [.execEnd 0])).map
    (fun s => (queuedIds (cfg 2) s, runningIds (cfg 2) s, s.endedIds, allIds (cfg 2) s, s.nextId)) =
    some ([1], [], [0], [1, 0], 2) := by decide +kernel

open Mmtk.Generated.Stages in
/-- 1 worker; a whole GC: `ScheduleCollection` (id 0) leaves packet 1 in the Concurrent bucket and ends;
the next `park` of the (last parked) worker completes the GC -/
def gcEndRun : List Act :=
  [.requestFlag, .makeRequest .gc none] ++
  (allConts (cfg 1)).map (Act.observeEmpty 0) ++ [.pollMiss 0, .park 0 7, .pollBucket 0 0 ⟨0, 0, 7⟩,
    .push 0 1 8, .execEnd 0] ++
  (allConts (cfg 1)).map (Act.observeEmpty 0) ++ [.pollMiss 0]

open Mmtk.Generated.Stages in
/-- the hypotheses of `exactly_once` hold for the last step of this run (`gcDone` goes from 0 to 1), and
both disjuncts of its conclusion occur: id 0 has ended once, id 1 sits once in the (non-stop-the-world)
Concurrent bucket -/
example : (exec (cfg 1) (init (cfg 1)) gcEndRun).map (fun s => s.gcDone) = some 0 ∧
    (exec (cfg 1) (init (cfg 1)) (gcEndRun ++ [.park 0 0])).map
      (fun s' => (s'.gcDone, s'.endedIds, queuedIds (cfg 1) s', runningIds (cfg 1) s', s'.nextId)) =
    some (1, [0], [1], [], 2) ∧
    (exec (cfg 1) (init (cfg 1)) (gcEndRun ++ [.park 0 0])).map
      (fun s' => (bktIds (s'.bkt 1), ((cfg 1).info 1).isStw)) = some ([1], false) := by decide +kernel

open Mmtk.Generated.Stages in
/-- 1 worker; `ScheduleCollection` (id 0) installs a sentinel (id 1) in the closed stop-the-world bucket 3
(`ClearVOBits`) and ends; `Prepare` is never opened, so bucket 3 is never opened either -/
def sentinelRun : List Act :=
  [.requestFlag, .makeRequest .gc none] ++
  (allConts (cfg 1)).map (Act.observeEmpty 0) ++ [.pollMiss 0, .park 0 7, .pollBucket 0 0 ⟨0, 0, 7⟩,
    .setSentinel 0 3 8, .execEnd 0] ++
  (allConts (cfg 1)).map (Act.observeEmpty 0) ++ [.pollMiss 0]

open Mmtk.Generated.Stages in
/-- the sentinel exemption of `exactly_once` cannot be dropped: the GC completes and packet 1 is still
in the sentinel slot of a stop-the-world bucket -/
example : (exec (cfg 1) (init (cfg 1)) sentinelRun).map (fun s => s.gcDone) = some 0 ∧
    (exec (cfg 1) (init (cfg 1)) (sentinelRun ++ [.park 0 0])).map
      (fun s' => (s'.gcDone, s'.endedIds, queuedIds (cfg 1) s', (s'.bkt 3).sentinel, ((cfg 1).info 3).isStw)) =
    some (1, [0], [1], some ⟨1, 3, 8⟩, true) := by decide +kernel

end Mmtk.Sched
