import MmtkModel.Model.Compressor
/-!
# C37 — Compressor forwarding addresses pack live objects in order

*Statement*: for any set of non-overlapping live objects of at least two words in a Compressor
region, the computed forwarding address of each object equals the region start plus the total size
of the live objects before it; so forwarded objects are order-preserving, non-overlapping and never
above their original address.

Proof idea: `S p` = transducer state after scanning all mark bits below `p` from the region start.
(1) the state handed to block `k` by `calculate_offset_vector` is `S (R + 512 k)` (range split);
(2) `decode (encode x pos) pos` is the *re-based* state `norm x pos`, which behaves exactly like `x`
on every later bit (the parity trick needs `to` and positions even). So for ANY bitmap `forward a` is the
`to` of `S a` wherever `S a` is outside an object (`forward_eq_scan`); (3) at an object start all
earlier objects are complete, so `S` holds `R + Σ sizes` (induction over the object list).
-/
namespace Mmtk.Compressor

/-- `objs` are word-aligned objects of at least two words, in address order, pairwise
non-overlapping, all inside `[lo, hi)`. -/
def WF : Nat → List (Nat × Nat) → Nat → Prop
  | lo, [], hi => lo ≤ hi
  | lo, (s, n) :: rest, hi => lo ≤ s ∧ 8 ∣ s ∧ 8 ∣ n ∧ 16 ≤ n ∧ WF (s + n) rest hi

def totalSize (objs : List (Nat × Nat)) : Nat := (objs.map Prod.snd).sum

theorem totalSize_cons (o : Nat × Nat) (rest : List (Nat × Nat)) :
    totalSize (o :: rest) = o.2 + totalSize rest := rfl

theorem totalSize_append (l1 l2 : List (Nat × Nat)) : totalSize (l1 ++ l2) = totalSize l1 + totalSize l2 := by
  simp [totalSize, List.map_append, List.sum_append]

theorem WF.le {objs : List (Nat × Nat)} {lo hi : Nat} (h : WF lo objs hi) : lo + totalSize objs ≤ hi := by
  induction objs generalizing lo with
  | nil => simpa [WF, totalSize] using h
  | cons o rest ih =>
    have := ih h.2.2.2.2
    rw [totalSize_cons]
    have := h.1
    omega

theorem WF.append : ∀ {pre : List (Nat × Nat)} {o : Nat × Nat} {post : List (Nat × Nat)} {lo hi : Nat},
    WF lo (pre ++ o :: post) hi → WF lo pre o.1 ∧ WF o.1 (o :: post) hi := by
  intro pre
  induction pre with
  | nil =>
    intro o post lo hi h
    obtain ⟨s, n⟩ := o
    exact ⟨h.1, Nat.le_refl _, h.2⟩
  | cons p pre ih =>
    intro o post lo hi h
    obtain ⟨s, n⟩ := p
    obtain ⟨h1, h2, h3, h4, h5⟩ := h
    have := ih h5
    exact ⟨⟨h1, h2, h3, h4, this.1⟩, this.2⟩

theorem bitOf_cons_outside {s n a : Nat} (rest : List (Nat × Nat)) (hn : 16 ≤ n)
    (h : a < s ∨ (s + 8 ≤ a ∧ a < s + n - 8) ∨ s + n ≤ a) : bitOf ((s, n) :: rest) a = bitOf rest a := by
  have h1 : a ≠ s := by omega
  have h2 : a ≠ s + n - 8 := by omega
  simp [bitOf, h1, h2]

theorem bitOf_below {objs : List (Nat × Nat)} {lo hi a : Nat} (h : WF lo objs hi) (ha : a < lo) : bitOf objs a = false := by
  induction objs generalizing lo with
  | nil => rfl
  | cons o rest ih =>
    obtain ⟨h1, _, _, h4, h5⟩ := h
    rw [bitOf_cons_outside rest h4 (Or.inl (Nat.lt_of_lt_of_le ha h1))]
    exact ih h5 (by omega)

theorem bitOf_append (l1 l2 : List (Nat × Nat)) (a : Nat) : bitOf (l1 ++ l2) a = (bitOf l1 a || bitOf l2 a) := by
  simp [bitOf, List.any_append]

theorem mem_wordsIn {lo hi a : Nat} : a ∈ wordsIn lo hi → lo ≤ a ∧ a + 8 ≤ hi ∧ 8 ∣ (a - lo) := by
  intro h
  simp only [wordsIn, List.mem_map, List.mem_range] at h
  obtain ⟨i, hi', rfl⟩ := h
  refine ⟨by omega, ?_, ⟨i, by omega⟩⟩
  have := Nat.div_mul_le_self (hi - lo) 8
  omega

theorem wordsIn_split {lo mid hi : Nat} (h1 : lo ≤ mid) (h2 : mid ≤ hi) (hd : 8 ∣ (mid - lo)) :
    wordsIn lo hi = wordsIn lo mid ++ wordsIn mid hi := by
  obtain ⟨k, hk⟩ := hd
  obtain rfl : mid = lo + 8 * k := by omega
  have e : hi - lo = 8 * k + (hi - (lo + 8 * k)) := by omega
  simp only [wordsIn, e, Nat.add_sub_cancel_left, Nat.mul_add_div (show 0 < 8 by decide),
    Nat.mul_div_cancel_left _ (show 0 < 8 by decide), List.range_add, List.map_append, List.map_map]
  congr 1
  exact List.map_congr_left fun i _ => by simp only [Function.comp, Nat.mul_add, Nat.add_assoc]

theorem wordsIn_self (lo : Nat) : wordsIn lo lo = [] := by simp [wordsIn]

theorem wordsIn_cons {lo hi : Nat} (h : lo + 8 ≤ hi) : wordsIn lo hi = lo :: wordsIn (lo + 8) hi := by
  rw [wordsIn_split (Nat.le_add_right lo 8) h (by rw [Nat.add_sub_cancel_left]; exact Nat.dvd_refl 8)]
  simp [wordsIn]

theorem scanFrom_split (bit : Nat → Bool) (x : Xd) {lo mid hi : Nat} (h1 : lo ≤ mid) (h2 : mid ≤ hi)
    (hd : 8 ∣ (mid - lo)) : scanFrom bit x lo hi = scanFrom bit (scanFrom bit x lo mid) mid hi := by
  simp only [scanFrom, wordsIn_split h1 h2 hd, List.filter_append, List.foldl_append]

theorem scanFrom_congr {bit bit' : Nat → Bool} (x : Xd) {lo hi : Nat}
    (h : ∀ a, lo ≤ a → a < hi → bit a = bit' a) : scanFrom bit x lo hi = scanFrom bit' x lo hi := by
  simp only [scanFrom]
  congr 1
  apply List.filter_congr
  intro a ha
  have := mem_wordsIn ha
  exact h a this.1 (by omega)

theorem scanFrom_none {bit : Nat → Bool} (x : Xd) {lo hi : Nat}
    (h : ∀ a, lo ≤ a → a < hi → bit a = false) : scanFrom bit x lo hi = x := by
  rw [scanFrom_congr (bit' := fun _ => false) x h, scanFrom,
    List.filter_eq_nil_iff.2 fun _ _ => Bool.false_ne_true]
  rfl

theorem scanFrom_cons {bit : Nat → Bool} (x : Xd) {lo hi : Nat} (h : lo + 8 ≤ hi) (hb : bit lo = true) :
    scanFrom bit x lo hi = scanFrom bit (visit x lo) (lo + 8) hi := by
  simp only [scanFrom, wordsIn_cons h, List.filter_cons_of_pos hb, List.foldl_cons]

theorem calcBlocks_getD (bit : Nat → Bool) : ∀ (n b : Nat) (st : Xd) (k : Nat), k < n →
    (calcBlocks bit n b st).getD k 0 = encode (scanFrom bit st b (b + 512 * k)) (b + 512 * k) := by
  intro n
  induction n with
  | zero => intro b st k h; omega
  | succ n ih =>
    intro b st k h
    cases k with
    | zero => simp [calcBlocks, scanFrom, wordsIn_self]
    | succ k =>
      simp only [calcBlocks, List.getD_cons_succ]
      rw [ih (b + 512) _ k (by omega)]
      have e : b + 512 + 512 * k = b + 512 * (k + 1) := by omega
      rw [e, ← scanFrom_split bit st (by omega) (by omega) ⟨64, by omega⟩]

/-- The state `x` re-based at `pos`: what `decode (encode x pos) pos` yields. -/
def norm (x : Xd) (pos : Nat) : Xd :=
  { to := if x.inObj then x.to + (pos - x.last) else x.to, last := pos, inObj := x.inObj }

/-- The parity trick: `to` and the distance to the last visited bit are even (word aligned), so the
low bit is free to carry `in_object`. -/
theorem encode_decode (x : Xd) (pos : Nat) (hto : 2 ∣ x.to) (hd : 2 ∣ (pos - x.last)) :
    decode (encode x pos) pos = norm x pos := by
  obtain ⟨a, ha⟩ := hto
  obtain ⟨b, hb⟩ := hd
  cases hio : x.inObj with
  | false => simp [decode, encode, norm, hio, ha]
  | true =>
    simp only [decode, encode, norm, hio, if_true]
    have h1 : (x.to + (pos - x.last) + 1) % 2 = 1 := by omega
    simp [h1]

theorem visit_norm (x : Xd) (pos a : Nat) (h1 : x.last ≤ pos) (h2 : pos ≤ a) :
    visit (norm x pos) a = visit x a := by
  cases hio : x.inObj with
  | false => simp [visit, norm, hio]
  | true =>
    simp only [visit, norm, hio, if_true]
    congr 1
    omega

/-- `hout` is needed: with no bit in the range the re-based `to` still includes the open object's bytes. -/
theorem scanFrom_norm_to (bit : Nat → Bool) (y : Xd) {b a : Nat} (h : y.last ≤ b)
    (hout : (scanFrom bit y b a).inObj = false) :
    (scanFrom bit (norm y b) b a).to = (scanFrom bit y b a).to := by
  unfold scanFrom at hout ⊢
  cases hl : (wordsIn b a).filter bit with
  | nil => rw [hl] at hout; simp only [List.foldl_nil] at hout ⊢; simp [norm, hout]
  | cons c l =>
    have hc : c ∈ (wordsIn b a).filter bit := hl ▸ List.mem_cons_self
    rw [List.foldl_cons, List.foldl_cons, visit_norm y b c h (mem_wordsIn (List.mem_filter.1 hc).1).1]

def Aligned (x : Xd) (p : Nat) : Prop := 8 ∣ x.to ∧ 8 ∣ x.last ∧ x.last ≤ p

theorem visit_aligned {x : Xd} {p a : Nat} (h : Aligned x p) (ha : 8 ∣ a) (hap : a ≤ p) : Aligned (visit x a) p := by
  unfold visit
  split
  · exact ⟨Nat.dvd_add h.1 (Nat.dvd_add (Nat.dvd_sub ha h.2.1) (Nat.dvd_refl 8)), ha, hap⟩
  · exact ⟨h.1, ha, hap⟩

theorem scanFrom_aligned (bit : Nat → Bool) (x : Xd) (lo hi : Nat) (hx : Aligned x lo) (hlo : 8 ∣ lo) (h : lo ≤ hi) :
    Aligned (scanFrom bit x lo hi) hi := by
  refine List.foldlRecOn (motive := (Aligned · hi)) _ visit ⟨hx.1, hx.2.1, Nat.le_trans hx.2.2 h⟩
    fun y hy a ha => ?_
  obtain ⟨h1, h2, h3⟩ := mem_wordsIn (List.mem_filter.1 ha).1
  exact visit_aligned hy ((Nat.dvd_sub_iff_left h1 hlo).1 h3) (by omega)

theorem forward_eq_scan (bit : Nat → Bool) (R cursor a : Nat) (hR : 512 ∣ R) (hc : 512 ∣ cursor)
    (ha8 : 8 ∣ a) (hRa : R ≤ a) (hac : a < cursor) (hout : (scanFrom bit (Xd.new R) R a).inObj = false) :
    forward (calculateOffsetVector bit R cursor) bit R a = (scanFrom bit (Xd.new R) R a).to := by
  unfold forward calculateOffsetVector
  have hb : ∃ k, a - a % 512 = R + 512 * k ∧ k < (cursor - R) / 512 := by
    obtain ⟨r, rfl⟩ := hR
    obtain ⟨c, rfl⟩ := hc
    exact ⟨(a - a % 512 - 512 * r) / 512, by omega, by omega⟩
  have hba : a - a % 512 ≤ a := Nat.sub_le _ _
  have hb8 : 8 ∣ a - a % 512 := by omega
  have hR8 : 8 ∣ R := Nat.dvd_trans (by decide) hR
  generalize a - a % 512 = b at *
  obtain ⟨k, rfl, hk⟩ := hb
  have hal : Aligned (scanFrom bit (Xd.new R) R (R + 512 * k)) (R + 512 * k) :=
    scanFrom_aligned bit _ _ _ ⟨hR8, Nat.dvd_zero 8, Nat.zero_le _⟩ hR8 (Nat.le_add_right _ _)
  rw [scanFrom_split bit _ (Nat.le_add_right R (512 * k)) hba (Nat.dvd_sub hb8 hR8)] at hout ⊢
  simp only []
  rw [Nat.add_sub_cancel_left, Nat.mul_div_cancel_left _ (by decide), calcBlocks_getD bit _ _ _ k hk,
    encode_decode _ _ (Nat.dvd_trans (by decide) hal.1)
      (Nat.dvd_trans (by decide) (Nat.dvd_sub hb8 hal.2.1))]
  exact scanFrom_norm_to bit _ hal.2.2 hout

theorem scan_object {bit : Nat → Bool} (x : Xd) {s n : Nat} (hn8 : 8 ∣ n) (hn : 16 ≤ n) (hx : x.inObj = false)
    (h1 : bit s = true) (h2 : bit (s + n - 8) = true) (h0 : ∀ a, s + 8 ≤ a → a < s + n - 8 → bit a = false) :
    scanFrom bit x s (s + n) = { to := x.to + n, last := s + n - 8, inObj := false } := by
  rw [scanFrom_cons x (by omega) h1,
    scanFrom_split bit _ (mid := s + n - 8) (by omega) (by omega) (by omega),
    scanFrom_none _ h0, scanFrom_cons _ (by omega) h2, scanFrom_none _ (by intro a _ _; omega)]
  simp only [visit, hx, Bool.false_eq_true, if_false, if_true, Xd.mk.injEq, and_true]
  omega

theorem scan_objects : ∀ (objs : List (Nat × Nat)) (lo hi : Nat) (x : Xd), WF lo objs hi → 8 ∣ lo →
    x.inObj = false → ∃ l, scanFrom (bitOf objs) x lo hi = { to := x.to + totalSize objs, last := l, inObj := false } := by
  intro objs
  induction objs with
  | nil =>
    intro lo hi x _ _ hx
    exact ⟨x.last, by rw [scanFrom_none x (by intro a _ _; rfl), ← hx]; rfl⟩
  | cons o rest ih =>
    intro lo hi x h hlo hx
    obtain ⟨s, n⟩ := o
    obtain ⟨h1, h2, h3, h4, h5⟩ := h
    have hend : s + n ≤ hi := Nat.le_trans (Nat.le_add_right _ _) (WF.le h5)
    have hrest : ∀ a, a < s + n → bitOf rest a = false := fun a ha => bitOf_below h5 ha
    -- [lo, hi) = [lo, s) ++ [s, s + n) ++ [s + n, hi): no bit, the first object, the bits of `rest`
    rw [scanFrom_split _ x (mid := s) h1 (Nat.le_trans (Nat.le_add_right _ _) hend) (Nat.dvd_sub h2 hlo),
      scanFrom_none x (fun a _ ha => by
        rw [bitOf_cons_outside rest h4 (Or.inl ha), hrest a (Nat.lt_of_lt_of_le ha (Nat.le_add_right _ _))]),
      scanFrom_split _ x (mid := s + n) (Nat.le_add_right _ _) hend (by rwa [Nat.add_sub_cancel_left]),
      scan_object x h3 h4 hx (by simp [bitOf]) (by simp [bitOf]) (fun a ha1 ha2 => by
        rw [bitOf_cons_outside rest h4 (Or.inr (Or.inl ⟨ha1, ha2⟩)),
          hrest a (Nat.lt_of_lt_of_le ha2 (Nat.sub_le _ _))]),
      scanFrom_congr _ (fun a ha _ => bitOf_cons_outside rest h4 (Or.inr (Or.inr ha)))]
    obtain ⟨l, hl⟩ := ih (s + n) hi { to := x.to + n, last := s + n - 8, inObj := false } h5
      (Nat.dvd_add h2 h3) rfl
    exact ⟨l, by rw [hl, totalSize_cons, ← Nat.add_assoc]⟩

/-- The left-hand side of `forward_eq_prefix_sum`, named for its corollaries. -/
def fwd (R cursor : Nat) (objs : List (Nat × Nat)) (a : Nat) : Nat :=
  forward (calculateOffsetVector (bitOf objs) R cursor) (bitOf objs) R a

/-- For any layout `pre ++ o :: post` (`WF`) with mark bits on first and last words, `forward(start of o)`
is the region start plus the total size of the objects before `o`. -/
theorem forward_eq_prefix_sum (R cursor : Nat) (pre post : List (Nat × Nat)) (o : Nat × Nat)
    (hR : 512 ∣ R) (hc : 512 ∣ cursor) (hwf : WF R (pre ++ o :: post) cursor) :
    forward (calculateOffsetVector (bitOf (pre ++ o :: post)) R cursor) (bitOf (pre ++ o :: post)) R o.1
      = R + totalSize pre := by
  obtain ⟨hpre, hpost⟩ := WF.append hwf
  have hple := WF.le hpre
  have hle := WF.le hpost.2.2.2.2
  -- below `o` only the bits of `pre` are set, and `pre` is complete there
  obtain ⟨l, hl⟩ := scan_objects pre R o.1 (Xd.new R) hpre (Nat.dvd_trans (by decide) hR) rfl
  rw [← scanFrom_congr (bit := bitOf (pre ++ o :: post)) _
    (fun a _ ha => by rw [bitOf_append, bitOf_below hpost ha, Bool.or_false])] at hl
  rw [forward_eq_scan _ R cursor o.1 hR hc hpost.2.1 (by omega) (by have := hpost.2.2.2.1; omega)
    (by rw [hl]), hl]
  rfl

/-- A forwarded object stays inside the region and never moves above its original address. -/
theorem forward_le_self (R cursor : Nat) (pre post : List (Nat × Nat)) (o : Nat × Nat)
    (hR : 512 ∣ R) (hc : 512 ∣ cursor) (hwf : WF R (pre ++ o :: post) cursor) :
    R ≤ fwd R cursor (pre ++ o :: post) o.1 ∧ fwd R cursor (pre ++ o :: post) o.1 ≤ o.1 := by
  unfold fwd
  rw [forward_eq_prefix_sum R cursor pre post o hR hc hwf]
  have := WF.le (WF.append hwf).1
  omega

/-- Forwarding preserves address order and the forwarded copies do not overlap: the copy of an earlier
object ends at or before the copy of any later object begins — exactly at it when no object lies in between. -/
theorem forward_nonoverlapping (R cursor : Nat) (pre mid post : List (Nat × Nat)) (o o' : Nat × Nat)
    (hR : 512 ∣ R) (hc : 512 ∣ cursor) (hwf : WF R (pre ++ o :: (mid ++ o' :: post)) cursor) :
    fwd R cursor (pre ++ o :: (mid ++ o' :: post)) o.1 + o.2 + totalSize mid
      = fwd R cursor (pre ++ o :: (mid ++ o' :: post)) o'.1 := by
  unfold fwd
  rw [forward_eq_prefix_sum R cursor pre (mid ++ o' :: post) o hR hc hwf]
  have e : pre ++ o :: (mid ++ o' :: post) = (pre ++ o :: mid) ++ o' :: post := by simp
  rw [e] at hwf ⊢
  rw [forward_eq_prefix_sum R cursor (pre ++ o :: mid) post o' hR hc hwf]
  rw [totalSize_append, totalSize_cons]
  omega

theorem forward_monotone (R cursor : Nat) (pre mid post : List (Nat × Nat)) (o o' : Nat × Nat)
    (hR : 512 ∣ R) (hc : 512 ∣ cursor) (hwf : WF R (pre ++ o :: (mid ++ o' :: post)) cursor) :
    fwd R cursor (pre ++ o :: (mid ++ o' :: post)) o.1 + o.2
      ≤ fwd R cursor (pre ++ o :: (mid ++ o' :: post)) o'.1 := by
  have := forward_nonoverlapping R cursor pre mid post o o' hR hc hwf
  omega

/-- a layout with an object spanning three blocks, one ending exactly at a block edge, one starting
at a block edge, and a two-word object -/
def exLayout : List (Nat × Nat) := [(1048576 + 16, 32), (1048576 + 496, 1040), (1048576 + 1536, 16), (1048576 + 2040, 8 * 3)]

example : WF 1048576 exLayout (1048576 + 4 * 512 + 512) := by
  refine ⟨by omega, ⟨131074, by omega⟩, ⟨4, by omega⟩, by omega,
    by omega, ⟨131134, by omega⟩, ⟨130, by omega⟩, by omega,
    by omega, ⟨131264, by omega⟩, ⟨2, by omega⟩, by omega,
    by omega, ⟨131327, by omega⟩, ⟨3, by omega⟩, by omega,
    by show 1048576 + 2040 + 8 * 3 ≤ 1048576 + 4 * 512 + 512; omega⟩

example : exLayout.map (fun o => fwd 1048576 (1048576 + 5 * 512) exLayout o.1 - 1048576) = [0, 32, 1072, 1088] := by
  decide +kernel
example : (calculateOffsetVector (bitOf exLayout) 1048576 (1048576 + 5 * 512)).map (· - 1048576)
    = [0, 32 + 16 + 1, 32 + 528 + 1, 32 + 1040, 32 + 1040 + 16 + 8 + 1] := by decide +kernel

end Mmtk.Compressor
