import MmtkModel.Lemmas.Map32Ghost
import MmtkModel.Lemmas.Map32Init
import MmtkModel.Lemmas.Map32Ops
/-!
# C29 — Discontiguous chunk allocation keeps the region map consistent

Statement: for every history of `allocate_contiguous_chunks` / `free_contiguous_chunks` /
`free_all_chunks` from the finalised state (`finalize_static_space_map`),
`regions_disjoint ∧ descriptor_exact ∧ links_exact ∧ avail_exact` is an invariant (`history_inv_init`
and the corollaries `history_*`), and under it no assertion of the three functions fires, in debug or
release builds (`history_no_panic`).

`Inv lo hi g st` is stated for the discontiguous range `[lo, hi)` (`lo` = first chunk, `hi` = last chunk
+ 1) and the bookkeeping `g : G` of the Python oracle of `checks/C29.py` (`Lemmas/Map32Ghost.lean`).
`Inv` takes both as parameters because which regions were handed out to whom is not a function of `St`
when a descriptor is used by two lists; the history theorems compute `g` exactly as the oracle does
(`G.alloc`, `G.free`, `G.freeAll`).

Each operation is handled through what it does to the state (`Lemmas/Map32Ops.lean`) and to the region
map (`Lemmas/Map32FL.lean`).  `Stable J` is a strengthening `J` of `Inv` that `allocate` and `freeNoLock`
preserve; one operation and a whole history are treated once for every such `J`, the loops of
`free_all_chunks` for every `J` that a single free preserves (`FreeStable J`); both are instantiated with
`Inv` and `InvX`.

Hypotheses of the history theorems (`Valid` = `Pre` at every step; satisfiable: `example`s at the end):
the callers' protocol — `chunks ≥ 1`, `head` is `0` or the current head of a list; only allocated region
starts are freed; `free_all_chunks` gets `0` or a member of a list of at most `fuel + 1` regions (the
model's two loops carry `fuel = 4096`; the code's loops are unbounded — `inv_freeAll`/`freeAll_spec` are
stated for every `fuel`).  Without the protocol the statement is false for the code itself (pushing
in front of a non-head corrupts the lists).

No assumption is made about the free list: `Model/Map32.lean` does not go through `Mmtk.Runs` nor
through the bit-level table but carries its own run-level region map (`FL`, `FL.alloc`, `FL.freeRun`),
and every fact about it that the invariant needs is proved from those definitions.  That the run-level
map, first fit along the list order included, is what `freelist.rs` does is no theorem: C26 refines the
bit-level table to `Mmtk.Runs`, where the run that `alloc` takes is a parameter, and nothing relates
`Mmtk.Runs` to `FL`; it rests on the exact differential through the addresses `Map32` hands out.  For a
request of `0` units `FL.alloc` is not the free list (`alloc(0)` there hands the same unit out again):
every theorem asks `1 ≤ k`, and `0 < first` for `finalize`, whose first call is `alloc(first)`.

Exactness of a failed allocation (the oracle's `map32:alloc-fails`): `InvX` = `Inv` + the runs cover
`[lo, hi)` + no two free runs are adjacent (`FLFull`) + every allocated run meeting the range is a
region.  `alloc_fails_exact` / `history_alloc_fails_exact`: when `allocate_contiguous_chunks(k)` returns
`0` there is no window of `k` consecutive unallocated chunks in the range.
-/
namespace Mmtk.Map32

theorem freeNoLock_avail (debug : Bool) (st st' : St) (c n : Nat)
    (h : freeNoLock debug st c = some (st', n)) : st'.avail = st.avail + n ∧ n = st.fl.sizeOf c := by
  obtain ⟨_, hn, rfl⟩ := freeNoLock_eq_some_iff.1 h
  exact ⟨rfl, hn⟩

/-- Removing `c` from a doubly linked list, seen from a chunk `x ≠ c`: `f` is `prev` (resp. `next`),
`a` the successor (resp. predecessor) of `c` and `v` the value spliced into `f a`. -/
theorem upd_unlink (f : Nat → Nat) (a v : Nat) {c x : Nat} (hx : x ≠ c) :
    upd (if a ≠ 0 then upd f a v else f) c 0 x = if a ≠ 0 ∧ x = a then v else f x := by
  unfold upd
  rw [if_neg hx]
  by_cases ha : a = 0
  · rw [if_neg (not_not_intro ha), if_neg (fun h => h.1 ha)]
  · rw [if_pos ha]
    by_cases hxa : x = a
    · rw [if_pos hxa, if_pos ⟨ha, hxa⟩]
    · rw [if_neg hxa, if_neg (fun h => hxa h.2)]

/-- `free_contiguous_chunks_no_lock(c)` unlinks `c`: its own links are zeroed, its successor's `prev` and
its predecessor's `next` are spliced, every other link is untouched. -/
theorem freeNoLock_unlinks (debug : Bool) (st st' : St) (c n : Nat)
    (h : freeNoLock debug st c = some (st', n)) :
    st'.next c = 0 ∧ st'.prev c = 0 ∧
    (∀ x, x ≠ c → st'.prev x = if st.next c ≠ 0 ∧ x = st.next c then st.prev c else st.prev x) ∧
    (∀ x, x ≠ c → st'.next x = if st.prev c ≠ 0 ∧ x = st.prev c then st.next c else st.next x) := by
  obtain ⟨_, _, rfl⟩ := freeNoLock_eq_some_iff.1 h
  exact ⟨if_pos rfl, if_pos rfl, fun _ hx => upd_unlink st.prev _ _ hx, fun _ hx => upd_unlink st.next _ _ hx⟩

theorem allocate_avail (debug : Bool) (st st' : St) (d k head c : Nat)
    (h : allocate debug st d k head = (st', .val c)) (hc : c ≠ 0) :
    st'.avail = st.avail - k ∧ (st.fl.alloc k).1 = some c := by
  rcases allocate_val_iff.1 h with ⟨_, h0, _⟩ | ⟨ha, _, _, rfl⟩
  · exact absurd h0 hc
  · exact ⟨rfl, ha⟩

theorem allocate_sets_descriptors (debug : Bool) (st st' : St) (d k head c : Nat)
    (h : allocate debug st d k head = (st', .val c)) (hc : c ≠ 0) :
    (∀ x, c ≤ x → x < c + k → st.desc x = 0) ∧
    (∀ x, st'.desc x = if c ≤ x ∧ x < c + k then d else st.desc x) := by
  rcases allocate_val_iff.1 h with ⟨_, h0, _⟩ | ⟨_, hd0, _, rfl⟩
  · exact absurd h0 hc
  · exact ⟨hd0, fun _ => rfl⟩

/-- `regions_disjoint`: the regions handed out and not yet freed are non-empty, lie inside the
discontiguous range `[lo, hi)` and are pairwise disjoint. -/
def RegionsDisjoint (lo hi : Nat) (g : G) : Prop :=
  g.regions.Pairwise Reg.Disj ∧ ∀ r ∈ g.regions, 0 < r.size ∧ lo ≤ r.start ∧ r.start + r.size ≤ hi

/-- `descriptor_exact`: a chunk that lies in a region currently allocated with `d` has descriptor `d`, a
chunk in no region has `0` (uninitialised).  (An "iff" only for `d ≠ 0`, which the protocol does not ask.) -/
def DescriptorExact (g : G) (st : St) : Prop :=
  (∀ r ∈ g.regions, ∀ x, r.start ≤ x → x < r.start + r.size → st.desc x = r.desc) ∧
  (∀ x, (∀ r ∈ g.regions, ¬ (r.start ≤ x ∧ x < r.start + r.size)) → st.desc x = 0)

/-- `links_exact`: the lists partition the allocated region starts; following `next` from the head of a
list visits exactly its regions, in order, once, and ends with `0`; `prev` is the inverse (`0` at the
head); every chunk that is not an allocated region start has no links. -/
def LinksExact (g : G) (st : St) : Prop :=
  g.lists.flatten.Nodup ∧ (∀ c, c ∈ g.lists.flatten ↔ ∃ r ∈ g.regions, r.start = c) ∧
  (∀ l ∈ g.lists, Linked st 0 l) ∧ (∀ c, c ∉ g.lists.flatten → st.next c = 0 ∧ st.prev c = 0)

/-- `avail_exact`: `avail` = number of chunks of `[lo, hi)` that are not allocated. -/
def AvailExact (lo hi : Nat) (g : G) (st : St) : Prop := st.avail + regSum g.regions = hi - lo

/-- The invariant of C29 for the discontiguous range `[lo, hi)` (`lo` = first chunk, `hi` = last chunk
+ 1 of `finalize_static_space_map`), relating the model state to the oracle's bookkeeping `g`. The
first three fields tie the region map to the bookkeeping (chunk 0 is the null address; the region map
is well formed and its free runs lie in the range; every region is an allocated run of the map).
`hi ≤ maxChunks` is no part of it: the tables are total functions, indexing past their end is not modelled. -/
structure Inv (lo hi : Nat) (g : G) (st : St) : Prop where
  lo_pos : 0 < lo
  fl : FLInv lo hi st.fl
  reg_run : ∀ r ∈ g.regions, (⟨r.start, r.size, false⟩ : Run) ∈ st.fl.runs
  regions_disjoint : RegionsDisjoint lo hi g
  descriptor_exact : DescriptorExact g st
  links_exact : LinksExact g st
  avail_exact : AvailExact lo hi g st

/-- `avail_exact` after a free of `n` chunks / an allocation of `k` chunks that still fit (`a` = `avail`,
`R` = chunks in regions, `T` = size of the range). -/
theorem avail_free {a n R R' T : Nat} (hex : a + R = T) (hrem : R = n + R') : a + n + R' = T := by omega

theorem avail_alloc {a k R T : Nat} (hex : a + R = T) (hle : k + R ≤ T) : a - k + (k + R) = T := by omega

theorem Inv.zero_not_mem {lo hi : Nat} {g : G} {st : St} (hI : Inv lo hi g st) : 0 ∉ g.lists.flatten := by
  intro h0
  obtain ⟨r, hr, hr0⟩ := (hI.links_exact.2.1 0).1 h0
  have := (hI.regions_disjoint.2 r hr).2.1
  have := hI.lo_pos
  omega

theorem Inv.head?_ne_zero {lo hi : Nat} {g : G} {st : St} (hI : Inv lo hi g st) {l : List Nat}
    (hl : l ∈ g.lists) : l.head? ≠ some 0 :=
  fun e => hI.zero_not_mem (List.mem_flatten.2 ⟨l, hl, List.mem_of_mem_head? e⟩)

theorem Inv.region_chunks {lo hi : Nat} {g : G} {st : St} (hI : Inv lo hi g st) {r : Reg}
    (hr : r ∈ g.regions) : regionChunks st r.start = r.size :=
  hI.fl.sizeOf_eq (hI.reg_run r hr)

/-- Freeing an allocated region never hits the `debug_assert!(!get_free(unit))`. -/
theorem freeNoLock_isSome {lo hi : Nat} {g : G} {st : St} (hI : Inv lo hi g st) {r : Reg}
    (hr : r ∈ g.regions) (debug : Bool) : ∃ st' n, freeNoLock debug st r.start = some (st', n) :=
  ⟨_, _, freeNoLock_eq_some_iff.2
    ⟨fun h => (by rw [hI.fl.isFree_eq (hI.reg_run r hr)] at h; cases h.2), rfl, rfl⟩⟩

theorem inv_free {lo hi : Nat} {g : G} {st : St} (hI : Inv lo hi g st) {r : Reg} (hr : r ∈ g.regions)
    {debug : Bool} {st' : St} {n : Nat} (h : freeNoLock debug st r.start = some (st', n)) :
    n = r.size ∧ Inv lo hi (g.free r.start) st' := by
  obtain ⟨hav, hn⟩ := freeNoLock_avail debug st st' r.start n h
  have hdesc := freeNoLock_clears_descriptors debug st st' r.start n h
  obtain ⟨hnc, hpc, hpo, hno⟩ := freeNoLock_unlinks debug st st' r.start n h
  have hu : Unlinks st st' r.start := ⟨hnc, hpc, hpo, hno⟩
  have hrun := hI.reg_run r hr
  have hsz : st.fl.sizeOf r.start = r.size := hI.fl.sizeOf_eq hrun
  obtain rfl : n = r.size := hn.trans hsz
  obtain ⟨hrpos, hrlo, hrhi⟩ := hI.regions_disjoint.2 r hr
  obtain ⟨_, hflinv, hflmem⟩ := freeRun_spec hI.fl hrun hrlo hrhi
  have hfl := freeNoLock_fl debug st st' r.start _ h
  obtain ⟨hnd, hmem, hlk, hunl⟩ := hI.links_exact
  have h0 := hI.zero_not_mem
  have hother : ∀ r' ∈ g.regions, r' = r ∨ Reg.Disj r' r := fun r' hr' =>
    Reg.eq_or_disj hI.regions_disjoint.1 hr' hr
  obtain ⟨lc, hlc, hclc⟩ := List.mem_flatten.1 ((hmem r.start).2 ⟨r, hr, rfl⟩)
  have hlcmem := Linked.neighbours_mem (hlk lc hlc) hclc
  have hframe : ∀ x, x ∉ lc → st'.next x = st.next x ∧ st'.prev x = st.prev x := by
    intro x hxlc
    have hxc : x ≠ r.start := fun e => hxlc (e ▸ hclc)
    rw [hno x hxc, hpo x hxc]
    constructor
    · rw [if_neg]
      rintro ⟨hp0, e⟩
      rcases hlcmem.2 with z | m
      · exact hp0 z
      · exact hxlc (e ▸ m)
    · rw [if_neg]
      rintro ⟨hn0, e⟩
      rcases hlcmem.1 with z | m
      · exact hn0 z
      · exact hxlc (e ▸ m)
  -- the bullets follow the fields of `Inv` in order, from `reg_run` on
  refine ⟨rfl, ⟨hI.lo_pos, hfl ▸ hflinv, ?_, ⟨?_, ?_⟩, ⟨?_, ?_⟩, ⟨?_, ?_, ?_, ?_⟩, ?_⟩⟩
  · intro r' hr'
    rw [G.free_regions, List.mem_filter] at hr'
    rw [hfl]
    exact (hflmem ⟨r'.start, r'.size, false⟩ rfl).2 ⟨hI.reg_run r' hr'.1, by simpa using hr'.2⟩
  · rw [G.free_regions]; exact hI.regions_disjoint.1.filter _
  · intro r' hr'
    rw [G.free_regions, List.mem_filter] at hr'
    exact hI.regions_disjoint.2 r' hr'.1
  · intro r' hr' x hx1 hx2
    rw [G.free_regions, List.mem_filter] at hr'
    rcases hother r' hr'.1 with e | hd
    · rw [e] at hr'; simp at hr'
    · rw [hdesc x, if_neg (hd.not_mem hx1 hx2)]
      exact hI.descriptor_exact.1 r' hr'.1 x hx1 hx2
  · intro x hx
    rw [hdesc x]
    split
    · rfl
    · rename_i hnin
      refine hI.descriptor_exact.2 x fun r' hr' hin => ?_
      rcases hother r' hr' with e | hd
      · exact hnin (e ▸ hin)
      · refine hx r' ?_ hin
        rw [G.free_regions, List.mem_filter, bne_iff_ne]
        exact ⟨hr', hd.start_ne (hI.regions_disjoint.2 r' hr').1 hrpos⟩
  · rw [G.free_lists, ← List.filter_flatten]; exact hnd.filter _
  · intro c
    rw [G.free_lists, ← List.filter_flatten, List.mem_filter, hmem, G.free_regions]
    constructor
    · rintro ⟨⟨r', hr', rfl⟩, hc⟩
      exact ⟨r', List.mem_filter.2 ⟨hr', hc⟩, rfl⟩
    · rintro ⟨r', hr', rfl⟩
      rw [List.mem_filter] at hr'
      exact ⟨⟨r', hr'.1, rfl⟩, hr'.2⟩
  · intro l' hl'
    rw [G.free_lists, List.mem_map] at hl'
    obtain ⟨l, hl, rfl⟩ := hl'
    have hl0 : 0 ∉ l := fun m => h0 (List.mem_flatten.2 ⟨l, hl, m⟩)
    by_cases hcl : r.start ∈ l
    · exact Linked.splice hu (hlk l hl) (nodup_of_mem_flatten hnd hl) hl0 hl0 hcl
    · rw [filter_ne_of_not_mem hcl]
      have hne : l ≠ lc := fun e => hcl (e ▸ hclc)
      exact Linked.frame (fun x hx => hframe x (disjoint_of_nodup_flatten hnd hl hlc hne hx)) (hlk l hl)
  · intro c hc
    rw [G.free_lists, ← List.filter_flatten, List.mem_filter] at hc
    by_cases hcr : c = r.start
    · subst hcr; exact ⟨hnc, hpc⟩
    · have hcf : c ∉ g.lists.flatten := fun m => hc ⟨m, by simpa using hcr⟩
      obtain ⟨e1, e2⟩ := hframe c (fun m => hcf (List.mem_flatten.2 ⟨lc, hlc, m⟩))
      rw [e1, e2]
      exact hunl c hcf
  · show st'.avail + regSum (g.free r.start).regions = hi - lo
    rw [G.free_regions, hav]
    have hrem := regSum_remove hI.regions_disjoint.1 (fun x hx => (hI.regions_disjoint.2 x hx).1) hr
    exact avail_free hI.avail_exact hrem

/-- What `Inv` says about a free run of the region map, i.e. about what `allocate` may hand out next. -/
theorem Inv.free_run_fresh {lo hi : Nat} {g : G} {st : St} (hI : Inv lo hi g st) {c s : Nat}
    (hfree : (⟨c, s, true⟩ : Run) ∈ st.fl.runs) :
    (∀ r ∈ g.regions, r.start + r.size ≤ c ∨ c + s ≤ r.start) ∧ c ≠ 0 ∧ c ∉ g.lists.flatten ∧
      st.next c = 0 ∧ st.prev c = 0 ∧ ∀ x, c ≤ x → x < c + s → st.desc x = 0 := by
  have hdisj : ∀ r ∈ g.regions, r.start + r.size ≤ c ∨ c + s ≤ r.start := by
    intro r' hr'
    rcases hI.fl.eq_or_disj (hI.reg_run r' hr') hfree with e | dd
    · cases e
    · exact dd
  have hcnot : c ∉ g.lists.flatten := by
    intro m
    obtain ⟨r', hr', hs⟩ := (hI.links_exact.2.1 c).1 m
    have := hdisj r' hr'
    have := (hI.regions_disjoint.2 r' hr').1
    have := hI.fl.pos _ hfree
    dsimp only at this
    omega
  have hc0 : c ≠ 0 := by
    have := (hI.fl.free_in _ hfree rfl).1
    have := hI.lo_pos
    dsimp only at *
    omega
  obtain ⟨hnc, hpc⟩ := hI.links_exact.2.2.2 c hcnot
  refine ⟨hdisj, hc0, hcnot, hnc, hpc, fun x h1 h2 => hI.descriptor_exact.2 x fun r' hr' hin => ?_⟩
  have := hdisj r' hr'
  omega

theorem ne_head_of_not_mem {g : G} {c head : Nat} (hc : c ∉ g.lists.flatten) {l : List Nat}
    (hl : l ∈ g.lists) (hlh : l.head? = some head) : c ≠ head := by
  rintro rfl
  exact hc (List.mem_flatten.2 ⟨l, hl, List.mem_of_mem_head? hlh⟩)

theorem inv_allocate {lo hi : Nat} {g : G} {st : St} (hI : Inv lo hi g st) {debug : Bool}
    {d k head : Nat} {st' : St} {c : Nat} (hk : 1 ≤ k)
    (hhead : head = 0 ∨ ∃ l ∈ g.lists, l.head? = some head)
    (h : allocate debug st d k head = (st', .val c)) : Inv lo hi (g.alloc d k head c) st' := by
  rcases allocate_val_iff.1 h with ⟨_, rfl, rfl⟩ | ⟨hsome, -, -, hst⟩
  · rw [G.alloc_zero]; exact hI
  obtain ⟨s, hfree, hks, hflinv, hflmem⟩ := alloc_spec hI.fl hk hsome
  obtain ⟨hclo, hchi⟩ := hI.fl.free_in _ hfree rfl
  dsimp only at hclo hchi
  have hlo := hI.lo_pos
  obtain ⟨hdisj, hc, hcnot, hnc, hpc, -⟩ := hI.free_run_fresh hfree
  have hfl : st'.fl = (st.fl.alloc k).2 := by rw [hst]
  obtain ⟨hav, -⟩ := allocate_avail debug st st' d k head c h hc
  obtain ⟨-, hdesc⟩ := allocate_sets_descriptors debug st st' d k head c h hc
  have hl0 : head = 0 → st'.next = st.next ∧ st'.prev = st.prev := fun hh => by
    rw [hst]; exact ⟨if_pos hh, if_pos hh⟩
  have hl1 : head ≠ 0 → st'.next = upd st.next c head ∧ st'.prev = upd st.prev head c := fun hh => by
    rw [hst]; exact ⟨if_neg hh, if_neg hh⟩
  have hg := g.alloc_of_ne_zero d k head hc
  obtain ⟨hnd, hmem, hlk, hunl⟩ := hI.links_exact
  have hnew : ∀ r' ∈ g.regions, Reg.Disj ⟨c, k, d⟩ r' := fun r' hr' => Reg.disj_of_outside (hdisj r' hr') hks
  have hrd : RegionsDisjoint lo hi ⟨⟨c, k, d⟩ :: g.regions, pushList c head g.lists⟩ := by
    refine ⟨List.pairwise_cons.2 ⟨hnew, hI.regions_disjoint.1⟩, fun r' hr' => ?_⟩
    rcases List.mem_cons.1 hr' with rfl | hr'
    · exact ⟨hk, hclo, Nat.le_trans (Nat.add_le_add_left hks c) hchi⟩
    · exact hI.regions_disjoint.2 r' hr'
  rw [hg]
  -- the bullets follow the fields of `Inv` in order: `reg_run`, then from `descriptor_exact` on
  refine ⟨hlo, hfl ▸ hflinv, ?_, hrd, ⟨?_, ?_⟩, ⟨?_, ?_, ?_, ?_⟩, ?_⟩
  · intro r' hr'
    rw [hfl]
    rcases List.mem_cons.1 hr' with rfl | hr'
    · exact (hflmem _).2 (Or.inr (Or.inl rfl))
    · exact (hflmem _).2 (Or.inl ⟨hI.reg_run r' hr',
        (hnew r' hr').symm.start_ne (hI.regions_disjoint.2 r' hr').1 hk⟩)
  · intro r' hr' x hx1 hx2
    rw [hdesc x]
    rcases List.mem_cons.1 hr' with rfl | hr'
    · rw [if_pos ⟨hx1, hx2⟩]
    · rw [if_neg ((hnew r' hr').symm.not_mem hx1 hx2)]
      exact hI.descriptor_exact.1 r' hr' x hx1 hx2
  · intro x hx
    rw [hdesc x]
    have hxc := hx ⟨c, k, d⟩ (List.mem_cons_self ..)
    dsimp only at hxc
    rw [if_neg hxc]
    exact hI.descriptor_exact.2 x (fun r' hr' => hx r' (List.mem_cons_of_mem _ hr'))
  · exact nodup_flatten_pushList hnd hcnot
  · intro x
    show x ∈ (pushList c head g.lists).flatten ↔ ∃ r ∈ (⟨c, k, d⟩ : Reg) :: g.regions, r.start = x
    rw [mem_flatten_pushList, hmem, eq_comm]
    simp only [List.mem_cons, exists_eq_or_imp]
  · show ∀ l ∈ pushList c head g.lists, Linked st' 0 l
    by_cases hh : head = 0
    · obtain ⟨hn', hp'⟩ := hl0 hh
      rw [pushList_nohead fun l hl => by rw [hh]; exact hI.head?_ne_zero hl]
      intro l hl
      rcases List.mem_append.1 hl with hl | hl
      · exact Linked.frame (fun a _ => by rw [hn', hp']; exact ⟨rfl, rfl⟩) (hlk l hl)
      · have : l = [c] := by simpa using hl
        subst this
        exact ⟨by rw [hp']; exact hpc, by rw [hn']; exact hnc, trivial⟩
    · obtain ⟨hn', hp'⟩ := hl1 hh
      obtain ⟨l0, hl0, hlh⟩ := hhead.resolve_left hh
      exact linked_pushList hn' hp' hpc hnd hcnot hlk hl0 hlh
  · intro x hx
    have hx' : x ∉ (pushList c head g.lists).flatten := hx
    rw [mem_flatten_pushList] at hx'
    have hxc : x ≠ c := fun e => hx' (Or.inl e)
    have hxf : x ∉ g.lists.flatten := fun m => hx' (Or.inr m)
    obtain ⟨h1, h2⟩ := hunl x hxf
    by_cases hh : head = 0
    · obtain ⟨hn', hp'⟩ := hl0 hh
      rw [hn', hp']; exact ⟨h1, h2⟩
    · obtain ⟨hn', hp'⟩ := hl1 hh
      have hxh : x ≠ head := by
        obtain ⟨l, hl, hlh⟩ := hhead.resolve_left hh
        exact ne_head_of_not_mem hxf hl hlh
      rw [hn', hp']; simp [upd, hxc, hxh, h1, h2]
  · -- the regions still fit into the range, so `avail - k` does not underflow
    have hle : k + regSum g.regions ≤ hi - lo := regSum_le _ hrd.1 (fun r' hr' => (hrd.2 r' hr').2)
    have hex : st.avail + regSum g.regions = hi - lo := hI.avail_exact
    show st'.avail + (k + regSum g.regions) = hi - lo
    rw [hav]
    exact avail_alloc hex hle

/-- A strengthening `J` of the invariant that a single `free_contiguous_chunks` preserves: what the two
loops of `free_all_chunks` need (`freeAll_loop`, `freeAll_spec_gen`). -/
structure FreeStable (lo hi : Nat) (debug : Bool) (J : G → St → Prop) : Prop where
  inv : ∀ {g : G} {st : St}, J g st → Inv lo hi g st
  free : ∀ {g : G} {st : St} {r : Reg} {st' : St} {n : Nat}, J g st → r ∈ g.regions →
    freeNoLock debug st r.start = some (st', n) → J (g.free r.start) st'

/-- A strengthening `J` of the invariant that a single free and `allocate_contiguous_chunks` preserve: one
operation and a history are proved once for every such `J` (`Inv` itself, and `InvX` below). -/
structure Stable (lo hi : Nat) (debug : Bool) (J : G → St → Prop) : Prop
    extends FreeStable lo hi debug J where
  alloc : ∀ {g : G} {st : St} {d k head : Nat} {st' : St} {c : Nat}, J g st → 1 ≤ k →
    (head = 0 ∨ ∃ l ∈ g.lists, l.head? = some head) →
    allocate debug st d k head = (st', .val c) → J (g.alloc d k head c) st'

/-- One loop of `free_all_chunks(c)`.  `view todo` is the list of `c` while the regions `todo` are still
to be freed by this loop: `sel` reads the first of them off the links (`hsel`), and without it the list
is `view` of the rest (`hview`).  First loop: `view todo = l1 ++ c :: todo` (successors of `c`); second
loop, after the first has freed every successor: `view todo = todo.reverse ++ [c]` (predecessors, nearest
first). -/
theorem freeAll_loop {lo hi c : Nat} {debug : Bool} {J : G → St → Prop} (hJ : FreeStable lo hi debug J)
    (sel : St → Nat → Nat) (view : List Nat → List Nat)
    (hsel : ∀ {g : G} {st : St} {todo : List Nat}, Inv lo hi g st → view todo ∈ g.lists →
      sel st c = todo.headD 0)
    (hmemv : ∀ b t, b ∈ view (b :: t))
    (hview : ∀ b t, (view (b :: t)).Nodup → (view (b :: t)).filter (· != b) = view t) :
    ∀ (fuel : Nat) {g : G} {st : St} (todo : List Nat), J g st → view todo ∈ g.lists →
      todo.length ≤ fuel →
      ∃ st1, freeAllLoop debug sel fuel st c = some st1 ∧
        J (g.freeSet todo) st1 ∧ view [] ∈ (g.freeSet todo).lists := by
  intro fuel
  induction fuel with
  | zero =>
    intro g st todo hJg hmem hlen
    have : todo = [] := List.eq_nil_of_length_eq_zero (Nat.le_zero.1 hlen)
    subst this
    exact ⟨st, rfl, by rw [G.freeSet_nil]; exact hJg, by rw [G.freeSet_nil]; exact hmem⟩
  | succ fuel ih =>
    intro g st todo hJg hmem hlen
    have hI := hJ.inv hJg
    have hs := hsel hI hmem
    cases todo with
    | nil =>
      refine ⟨st, ?_, by rw [G.freeSet_nil]; exact hJg, by rw [G.freeSet_nil]; exact hmem⟩
      rw [freeAllLoop]; simp [hs]
    | cons b t =>
      have hbf : b ∈ g.lists.flatten := List.mem_flatten.2 ⟨_, hmem, hmemv b t⟩
      have hb0 : b ≠ 0 := fun e => hI.zero_not_mem (e ▸ hbf)
      obtain ⟨rb, hrb, hrbs⟩ := (hI.links_exact.2.1 b).1 hbf
      subst hrbs
      obtain ⟨st', n, hfree⟩ := freeNoLock_isSome hI hrb debug
      have hmem' : view t ∈ (g.free rb.start).lists := by
        rw [G.free_lists, List.mem_map]
        exact ⟨_, hmem, hview _ _ (nodup_of_mem_flatten hI.links_exact.1 hmem)⟩
      obtain ⟨st1, h1, hI1, hm1⟩ := ih t (hJ.free hJg hrb hfree) hmem' (by simpa using hlen)
      rw [G.free, G.freeSet_freeSet] at hI1 hm1
      refine ⟨st1, ?_, hI1, hm1⟩
      rw [freeAllLoop]
      simp only [hs, List.headD_cons, bne_iff_ne, ne_eq, hb0, not_false_eq_true, if_true, hfree]
      exact h1

theorem G.freeAll_eq {lo hi : Nat} {g : G} {st : St} (hI : Inv lo hi g st) {c : Nat} {l : List Nat}
    (hl : l ∈ g.lists) (hc : c ∈ l) : g.freeAll c = g.freeSet l := by
  unfold G.freeAll
  cases hf : g.lists.find? (fun l => l.contains c) with
  | none =>
    rw [List.find?_eq_none] at hf
    have := hf l hl
    simp [hc] at this
  | some l' =>
    have hl' := List.mem_of_find?_eq_some hf
    have hc' : c ∈ l' := by simpa using List.find?_some hf
    have : l' = l := by
      apply Classical.byContradiction
      intro hne
      exact disjoint_of_nodup_flatten hI.links_exact.1 hl' hl hne hc' hc
    rw [this]; rfl

theorem G.freeAll_zero {lo hi : Nat} {g : G} {st : St} (hI : Inv lo hi g st) : g.freeAll 0 = g := by
  unfold G.freeAll
  cases hf : g.lists.find? (fun l => l.contains 0) with
  | none => exact G.freeSet_nil g
  | some l' =>
    have hl' := List.mem_of_find?_eq_some hf
    have hc' : 0 ∈ l' := by simpa using List.find?_some hf
    exact absurd (List.mem_flatten.2 ⟨l', hl', hc'⟩) hI.zero_not_mem

/-- `free_all_chunks(c)` (`c = 0`, or `c` in a list of at most `fuel + 1` regions) does not hit an
assertion and re-establishes the invariant for the bookkeeping without the whole list of `c`. -/
theorem freeAll_spec_gen {lo hi : Nat} {debug : Bool} {J : G → St → Prop} (hJ : FreeStable lo hi debug J)
    {g : G} {st : St} (hJg : J g st) {c fuel : Nat}
    (hc : c = 0 ∨ ∃ l ∈ g.lists, c ∈ l ∧ l.length ≤ fuel + 1) :
    ∃ st', freeAll debug st c fuel = some st' ∧ J (g.freeAll c) st' := by
  have hI := hJ.inv hJg
  by_cases hc0 : c = 0
  · subst hc0
    exact ⟨st, by simp [freeAll], by rw [G.freeAll_zero hI]; exact hJg⟩
  obtain ⟨l, hl, hcl, hlen⟩ := hc.resolve_left hc0
  obtain ⟨l1, l2, rfl⟩ := List.append_of_mem hcl
  have hlen' : l1.length + l2.length ≤ fuel := by
    simp only [List.length_append, List.length_cons] at hlen; omega
  obtain ⟨st1, h1, hI1, hm1⟩ := freeAll_loop hJ (fun s x => s.next x) (fun todo => l1 ++ c :: todo)
    (fun hI hm => (Linked.suffix (hI.links_exact.2.2.1 _ hm)).2.1) (fun b t => by simp)
    (fun b t hnd => by
      have e : l1 ++ c :: b :: t = (l1 ++ [c]) ++ b :: t := by simp
      rw [e] at hnd ⊢
      rw [filter_ne_of_nodup hnd]; simp)
    fuel l2 hJg hl (by omega)
  obtain ⟨st2, h2, hI2, hm2⟩ := freeAll_loop hJ (fun s x => s.prev x) (fun todo => todo.reverse ++ [c])
    (fun {_ _ todo} hI hm => by
      have := (Linked.suffix (hI.links_exact.2.2.1 _ hm)).1
      rw [List.getLast?_reverse] at this
      rw [List.headD_eq_head?_getD]; exact this)
    (fun b t => by simp)
    (fun b t hnd => by
      have e : (b :: t).reverse ++ [c] = t.reverse ++ b :: [c] := by simp
      rw [e] at hnd ⊢
      rw [filter_ne_of_nodup hnd])
    fuel l1.reverse hI1 (by rw [List.reverse_reverse]; exact hm1) (by rw [List.length_reverse]; omega)
  have hcf : c ∈ ((g.freeSet l2).freeSet l1.reverse).lists.flatten :=
    List.mem_flatten.2 ⟨_, hm2, List.mem_cons_self ..⟩
  obtain ⟨rc, hrc, hrcs⟩ := ((hJ.inv hI2).links_exact.2.1 c).1 hcf
  subst hrcs
  obtain ⟨st3, n, h3⟩ := freeNoLock_isSome (hJ.inv hI2) hrc debug
  have hI3 := hJ.free hI2 hrc h3
  refine ⟨st3, ?_, ?_⟩
  · unfold freeAll
    have : (rc.start == 0) = false := by simpa using hc0
    simp only [this, Bool.false_eq_true, if_false, h1, h2, h3, Option.map_some]
  · rw [G.freeAll_eq hI hl hcl]
    rw [G.free, G.freeSet_freeSet, G.freeSet_freeSet] at hI3
    rw [G.freeSet_congr g (S := l1 ++ rc.start :: l2) (T := l2 ++ (l1.reverse ++ [rc.start]))]
    · exact hI3
    · intro x
      simp only [List.mem_append, List.mem_cons, List.mem_reverse, List.not_mem_nil, or_false]
      rw [← or_assoc, or_comm]

theorem inv_stable (lo hi : Nat) (debug : Bool) : Stable lo hi debug (Inv lo hi) :=
  ⟨⟨fun h => h, fun h hr hf => (inv_free h hr hf).2⟩, fun h hk hh ha => inv_allocate h hk hh ha⟩

theorem freeAll_spec {lo hi : Nat} {g : G} {st : St} (hI : Inv lo hi g st) {debug : Bool} {c fuel : Nat}
    (hc : c = 0 ∨ ∃ l ∈ g.lists, c ∈ l ∧ l.length ≤ fuel + 1) :
    ∃ st', freeAll debug st c fuel = some st' ∧ Inv lo hi (g.freeAll c) st' :=
  freeAll_spec_gen (inv_stable lo hi debug).1 hI hc

theorem inv_freeAll {lo hi : Nat} {g : G} {st : St} (hI : Inv lo hi g st) {debug : Bool} {c fuel : Nat}
    (hc : c = 0 ∨ ∃ l ∈ g.lists, c ∈ l ∧ l.length ≤ fuel + 1) {st' : St}
    (h : freeAll debug st c fuel = some st') : Inv lo hi (g.freeAll c) st' :=
  of_eq_some (freeAll_spec hI hc) h

/-- Under the invariant, `allocate_contiguous_chunks` (with `k ≥ 1` and `head` = `0` or a list head)
hits none of its assertions. -/
theorem allocate_ok {lo hi : Nat} {g : G} {st : St} (hI : Inv lo hi g st) (debug : Bool)
    (d : Nat) {k head : Nat} (hk : 1 ≤ k) (hhead : head = 0 ∨ ∃ l ∈ g.lists, l.head? = some head) :
    ∃ st' c, allocate debug st d k head = (st', .val c) := by
  cases ha : (st.fl.alloc k).1 with
  | none => exact ⟨_, 0, allocate_val_iff.2 (Or.inl ⟨ha, rfl, rfl⟩)⟩
  | some c =>
    obtain ⟨s, hfree, hks, -, -⟩ := alloc_spec hI.fl hk ha
    obtain ⟨-, hc, hcnot, hnc, hpc, hd0⟩ := hI.free_run_fresh hfree
    have hlink : if head = 0 then st.next c = 0 else c ≠ head := by
      by_cases hh : head = 0
      · rw [if_pos hh]; exact hnc
      · rw [if_neg hh]
        obtain ⟨l, hl, hlh⟩ := hhead.resolve_left hh
        exact ne_head_of_not_mem hcnot hl hlh
    exact ⟨_, c, allocate_val_iff.2
      (Or.inr ⟨ha, fun x h1 h2 => hd0 x h1 (by omega), fun _ => ⟨hc, hpc, hlink⟩, rfl⟩)⟩

/-- **The finalised state satisfies the invariant** (no region handed out yet), for every
`finalize_static_space_map(first, last)` with `0 < first ≤ last < maxChunks`.  `0 < first`: chunk 0 is the
null address (`lo_pos`), and `finalize` starts with `alloc(first)`.  For `last + 1 = maxChunks` the code's
`debug_assert!(alloced_chunk == unavail_start_chunk)` fires (the trailing `alloc(0)` fails); `finalize`
has no such exit, so the statement covers that case for release builds only. -/
theorem inv_init {M first last : Nat} (h1 : 0 < first) (h2 : first ≤ last) (h3 : last < M) :
    Inv first (last + 1) {} (finalize M first last) := by
  exact ⟨h1, (finalize_fl h1 h2 h3).1, nofun, ⟨.nil, nofun⟩, ⟨nofun, fun _ _ => rfl⟩,
    ⟨.nil, fun _ => ⟨nofun, fun ⟨_, h, _⟩ => nomatch h⟩, nofun, fun _ _ => ⟨rfl, rfl⟩⟩, rfl⟩

inductive Op
  /-- `allocate_contiguous_chunks(descriptor, chunks, head)` -/
  | alloc (d k head : Nat)
  /-- `free_contiguous_chunks(start)` -/
  | free (c : Nat)
  /-- `free_all_chunks(any_chunk)` -/
  | freeAll (c : Nat)
deriving Repr, DecidableEq

/-- The callers' protocol (what the generator of `checks/C29.py` respects): at least one chunk is
requested and `head` is `0` or the current head of a region list; only allocated regions are freed;
`free_all_chunks` gets `0` or a region of a list (of at most 4097 regions: the model's loops have
4096 units of fuel each — the code's loops are unbounded). -/
def Pre (g : G) : Op → Prop
  | .alloc _ k head => 1 ≤ k ∧ (head = 0 ∨ ∃ l ∈ g.lists, l.head? = some head)
  | .free c => ∃ r ∈ g.regions, r.start = c
  | .freeAll c => c = 0 ∨ ∃ l ∈ g.lists, c ∈ l ∧ l.length ≤ 4096 + 1

/-- One operation on the model together with the oracle's bookkeeping; `none` = panic. -/
def step (debug : Bool) (g : G) (st : St) : Op → Option (G × St)
  | .alloc d k head =>
    match allocate debug st d k head with
    | (st', .val c) => some (g.alloc d k head c, st')
    | _ => none
  | .free c =>
    match freeNoLock debug st c with
    | some (st', _) => some (g.free c, st')
    | none => none
  | .freeAll c =>
    match freeAll debug st c with
    | some st' => some (g.freeAll c, st')
    | none => none

def run (debug : Bool) : G → St → List Op → Option (G × St)
  | g, st, [] => some (g, st)
  | g, st, op :: ops =>
    match step debug g st op with
    | none => none
    | some (g', st') => run debug g' st' ops

def Valid (debug : Bool) : G → St → List Op → Prop
  | _, _, [] => True
  | g, st, op :: ops =>
    Pre g op ∧ match step debug g st op with
      | none => True
      | some (g', st') => Valid debug g' st' ops

/-- One step, for a `Stable J`: under the protocol it does not panic and `J` holds again. -/
theorem step_stable {lo hi : Nat} {debug : Bool} {J : G → St → Prop} (hJ : Stable lo hi debug J)
    {g : G} {st : St} (hJg : J g st) {op : Op} (hpre : Pre g op) :
    ∃ g' st', step debug g st op = some (g', st') ∧ J g' st' := by
  cases op with
  | alloc d k head =>
    obtain ⟨st', c, hal⟩ := allocate_ok (hJ.inv hJg) debug d hpre.1 hpre.2
    exact ⟨_, st', by simp only [step, hal], hJ.alloc hJg hpre.1 hpre.2 hal⟩
  | free c =>
    obtain ⟨r, hr, rfl⟩ := hpre
    obtain ⟨st', n, h⟩ := freeNoLock_isSome (hJ.inv hJg) hr debug
    exact ⟨_, st', by simp only [step, h], hJ.free hJg hr h⟩
  | freeAll c =>
    obtain ⟨st', h, hJ'⟩ := freeAll_spec_gen hJ.1 hJg hpre
    exact ⟨_, st', by simp only [step, h], hJ'⟩

theorem history_stable {lo hi : Nat} {debug : Bool} {J : G → St → Prop} (hJ : Stable lo hi debug J) :
    ∀ (ops : List Op) {g : G} {st : St}, J g st → Valid debug g st ops →
      ∃ g' st', run debug g st ops = some (g', st') ∧ J g' st' := by
  intro ops
  induction ops with
  | nil => exact fun hJg _ => ⟨_, _, rfl, hJg⟩
  | cons op ops ih =>
    intro g st hJg hv
    obtain ⟨g1, st1, hs, hJ1⟩ := step_stable hJ hJg hv.1
    have hrest := hv.2
    rw [hs] at hrest
    rw [run, hs]
    exact ih hJ1 hrest

theorem inv_step {lo hi : Nat} {g : G} {st : St} (hI : Inv lo hi g st) {debug : Bool} {op : Op}
    (hpre : Pre g op) {g' : G} {st' : St} (h : step debug g st op = some (g', st')) : Inv lo hi g' st' :=
  of_eq_some₂ (step_stable (inv_stable lo hi debug) hI hpre) h

theorem step_isSome {lo hi : Nat} {g : G} {st : St} (hI : Inv lo hi g st) (debug : Bool) {op : Op}
    (hpre : Pre g op) : ∃ g' st', step debug g st op = some (g', st') :=
  let ⟨g', st', h, _⟩ := step_stable (inv_stable lo hi debug) hI hpre
  ⟨g', st', h⟩

/-- **The history invariant**: the invariant holds after every protocol-respecting history of
`allocate_contiguous_chunks` / `free_contiguous_chunks` / `free_all_chunks`. -/
theorem history_inv {lo hi : Nat} {debug : Bool} : ∀ (ops : List Op) {g : G} {st : St}, Inv lo hi g st →
    Valid debug g st ops → ∀ {g' : G} {st' : St}, run debug g st ops = some (g', st') → Inv lo hi g' st' := by
  intro ops g st hI hv g' st' h
  exact of_eq_some₂ (history_stable (inv_stable lo hi debug) ops hI hv) h

theorem history_no_panic {lo hi : Nat} {debug : Bool} : ∀ (ops : List Op) {g : G} {st : St}, Inv lo hi g st →
    Valid debug g st ops → ∃ g' st', run debug g st ops = some (g', st') := by
  intro ops g st hI hv
  obtain ⟨g1, st1, h1, -⟩ := history_stable (inv_stable lo hi debug) ops hI hv
  exact ⟨g1, st1, h1⟩

/-- **C29**: after any protocol-respecting history from the finalised state the invariant
`regions_disjoint ∧ descriptor_exact ∧ links_exact ∧ avail_exact` holds. -/
theorem history_inv_init {M first last : Nat} (h1 : 0 < first) (h2 : first ≤ last) (h3 : last < M)
    {debug : Bool} {ops : List Op} (hv : Valid debug {} (finalize M first last) ops) {g : G} {st : St}
    (hr : run debug {} (finalize M first last) ops = some (g, st)) : Inv first (last + 1) g st :=
  history_inv ops (inv_init h1 h2 h3) hv hr

theorem history_regions_disjoint {M first last : Nat} (h1 : 0 < first) (h2 : first ≤ last) (h3 : last < M)
    {debug : Bool} {ops : List Op} (hv : Valid debug {} (finalize M first last) ops) {g : G} {st : St}
    (hr : run debug {} (finalize M first last) ops = some (g, st)) :
    g.regions.Pairwise Reg.Disj ∧
    ∀ r ∈ g.regions, 0 < r.size ∧ first ≤ r.start ∧ r.start + r.size ≤ last + 1 :=
  (history_inv_init h1 h2 h3 hv hr).regions_disjoint

/-- The descriptor map says exactly which space owns each chunk. -/
theorem history_descriptor_exact {M first last : Nat} (h1 : 0 < first) (h2 : first ≤ last) (h3 : last < M)
    {debug : Bool} {ops : List Op} (hv : Valid debug {} (finalize M first last) ops) {g : G} {st : St}
    (hr : run debug {} (finalize M first last) ops = some (g, st)) :
    (∀ r ∈ g.regions, ∀ x, r.start ≤ x → x < r.start + r.size → st.desc x = r.desc) ∧
    (∀ x, (∀ r ∈ g.regions, ¬ (r.start ≤ x ∧ x < r.start + r.size)) → st.desc x = 0) :=
  (history_inv_init h1 h2 h3 hv hr).descriptor_exact

/-- The `prev`/`next` links of every region list are exact; `get_contiguous_region_chunks` of
every allocated region is its size. -/
theorem history_links_exact {M first last : Nat} (h1 : 0 < first) (h2 : first ≤ last) (h3 : last < M)
    {debug : Bool} {ops : List Op} (hv : Valid debug {} (finalize M first last) ops) {g : G} {st : St}
    (hr : run debug {} (finalize M first last) ops = some (g, st)) :
    g.lists.flatten.Nodup ∧ (∀ c, c ∈ g.lists.flatten ↔ ∃ r ∈ g.regions, r.start = c) ∧
    (∀ l ∈ g.lists, Linked st 0 l) ∧ (∀ c, c ∉ g.lists.flatten → st.next c = 0 ∧ st.prev c = 0) ∧
    (∀ r ∈ g.regions, regionChunks st r.start = r.size) := by
  have hI := history_inv_init h1 h2 h3 hv hr
  obtain ⟨a, b, c, d⟩ := hI.links_exact
  exact ⟨a, b, c, d, fun r hr => hI.region_chunks hr⟩

theorem history_avail_exact {M first last : Nat} (h1 : 0 < first) (h2 : first ≤ last) (h3 : last < M)
    {debug : Bool} {ops : List Op} (hv : Valid debug {} (finalize M first last) ops) {g : G} {st : St}
    (hr : run debug {} (finalize M first last) ops = some (g, st)) :
    st.avail + regSum g.regions = last + 1 - first :=
  (history_inv_init h1 h2 h3 hv hr).avail_exact

/-- The chunks met by following `get_next_contiguous_region` from `c`, at most `fuel` of them
(`walk_linked`: from the head of a linked list these are the list). -/
def walk (st : St) : Nat → Nat → List Nat
  | 0, _ => []
  | fuel + 1, c => if c = 0 then [] else c :: walk st fuel (nextRegion st c)

theorem nextRegion_of_linked {st : St} {p a : Nat} {t : List Nat} (h : Linked st p (a :: t)) (ha : a ≠ 0) :
    nextRegion st a = t.headD 0 := by
  unfold nextRegion
  rw [h.2.1]
  generalize t.headD 0 = v
  by_cases e : v = 0
  · subst e; simp
  · simp [ha, e]

theorem walk_linked {st : St} : ∀ (l : List Nat) (p : Nat) (fuel : Nat), Linked st p l → 0 ∉ l →
    l.length ≤ fuel → walk st fuel (l.headD 0) = l
  | [], _, fuel, _, _, _ => by cases fuel <;> simp [walk]
  | a :: t, p, 0, _, _, hlen => by simp at hlen
  | a :: t, p, fuel + 1, h, h0, hlen => by
    have ha : a ≠ 0 := fun e => h0 (e ▸ List.mem_cons_self ..)
    have ht : 0 ∉ t := fun m => h0 (List.mem_cons_of_mem _ m)
    have ih := walk_linked t a fuel h.2.2 ht (by simpa using hlen)
    simp only [List.headD_cons, walk, ha, if_false, nextRegion_of_linked h ha, ih]

/-- `links_exact` as the oracle checks it: walking `get_next_contiguous_region` from the head of a
region list visits exactly the regions of that list, in order, once. -/
theorem history_walk {M first last : Nat} (h1 : 0 < first) (h2 : first ≤ last) (h3 : last < M)
    {debug : Bool} {ops : List Op} (hv : Valid debug {} (finalize M first last) ops) {g : G} {st : St}
    (hr : run debug {} (finalize M first last) ops = some (g, st)) {l : List Nat} (hl : l ∈ g.lists)
    {fuel : Nat} (hf : l.length ≤ fuel) : walk st fuel (l.headD 0) = l := by
  have hI := history_inv_init h1 h2 h3 hv hr
  exact walk_linked l 0 fuel (hI.links_exact.2.2.1 l hl)
    (fun m => hI.zero_not_mem (List.mem_flatten.2 ⟨l, hl, m⟩)) hf

/-- `Inv` and what exactness of a failed allocation needs beside it (header, last paragraph). -/
structure InvX (lo hi : Nat) (g : G) (st : St) : Prop where
  inv : Inv lo hi g st
  full : FLFull lo hi st.fl
  run_reg : ∀ r ∈ st.fl.runs, r.free = false → r.start + r.size ≤ lo ∨ hi ≤ r.start ∨
    ∃ reg ∈ g.regions, reg.start = r.start ∧ reg.size = r.size

theorem invX_init {M first last : Nat} (h1 : 0 < first) (h2 : first ≤ last) (h3 : last < M) :
    InvX first (last + 1) {} (finalize M first last) := by
  obtain ⟨hinv, honly, hF⟩ := finalize_fl h1 h2 h3
  refine ⟨inv_init h1 h2 h3, ⟨?_, ?_⟩, ?_⟩
  · intro x hx1 hx2
    exact ⟨_, hF, hx1, by dsimp only; omega⟩
  · intro a ha b hb haf hbf
    rw [honly a ha haf, honly b hb hbf]; dsimp only; omega
  · intro r hr hrf
    rcases hinv.eq_or_disj hr hF with e | d
    · rw [e] at hrf; cases hrf
    · unfold Disj at d; dsimp only at d
      rcases d with d | d
      · exact Or.inl d
      · exact Or.inr (Or.inl (by omega))

theorem invX_free {lo hi : Nat} {g : G} {st : St} (hX : InvX lo hi g st) {r : Reg} (hr : r ∈ g.regions)
    {debug : Bool} {st' : St} {n : Nat} (h : freeNoLock debug st r.start = some (st', n)) :
    InvX lo hi (g.free r.start) st' := by
  have hI := hX.inv
  have hrun := hI.reg_run r hr
  obtain ⟨_, hrlo, hrhi⟩ := hI.regions_disjoint.2 r hr
  obtain ⟨_, _, hflmem⟩ := freeRun_spec hI.fl hrun hrlo hrhi
  have hfl := freeNoLock_fl debug st st' r.start n h
  refine ⟨(inv_free hI hr h).2, hfl ▸ freeRun_full hI.fl hX.full hrun, ?_⟩
  intro r' hr' hrf'
  rw [hfl] at hr'
  obtain ⟨hr0, hne⟩ := (hflmem r' hrf').1 hr'
  -- only the last alternative speaks of the bookkeeping
  refine (hX.run_reg r' hr0 hrf').imp_right (Or.imp_right fun ⟨reg, hreg, hs, hz⟩ => ⟨reg, ?_, hs, hz⟩)
  rw [G.free_regions, List.mem_filter]
  exact ⟨hreg, by simpa [hs] using hne⟩

theorem invX_allocate {lo hi : Nat} {g : G} {st : St} (hX : InvX lo hi g st) {debug : Bool}
    {d k head : Nat} {st' : St} {c : Nat} (hk : 1 ≤ k)
    (hhead : head = 0 ∨ ∃ l ∈ g.lists, l.head? = some head)
    (h : allocate debug st d k head = (st', .val c)) : InvX lo hi (g.alloc d k head c) st' := by
  have hI := hX.inv
  have hI' := inv_allocate hI hk hhead h
  rcases allocate_val_iff.1 h with ⟨_, rfl, rfl⟩ | ⟨hsome, -, -, hst⟩
  · rw [G.alloc_zero]; exact hX
  obtain ⟨s, hfree, hks, _, hflmem⟩ := alloc_spec hI.fl hk hsome
  obtain ⟨-, hc, -⟩ := hI.free_run_fresh hfree
  have hfl : st'.fl = (st.fl.alloc k).2 := by rw [hst]
  have hg := g.alloc_of_ne_zero d k head hc
  refine ⟨hI', hfl ▸ alloc_full hI.fl hX.full hk hsome, ?_⟩
  intro r' hr' hrf'
  rw [hfl] at hr'
  rw [hg]
  rcases (hflmem r').1 hr' with ⟨hr0, _⟩ | rfl | ⟨_, rfl⟩
  · exact (hX.run_reg r' hr0 hrf').imp_right
      (Or.imp_right fun ⟨reg, hreg, hs, hz⟩ => ⟨reg, List.mem_cons_of_mem _ hreg, hs, hz⟩)
  · exact Or.inr (Or.inr ⟨⟨c, k, d⟩, List.mem_cons_self .., rfl, rfl⟩)
  · cases hrf'

theorem invX_stable (lo hi : Nat) (debug : Bool) : Stable lo hi debug (InvX lo hi) :=
  ⟨⟨fun h => h.inv, fun h hr hf => invX_free h hr hf⟩, fun h hk hh ha => invX_allocate h hk hh ha⟩

theorem invX_freeAll {lo hi : Nat} {g : G} {st : St} (hX : InvX lo hi g st) {debug : Bool} {c fuel : Nat}
    (hc : c = 0 ∨ ∃ l ∈ g.lists, c ∈ l ∧ l.length ≤ fuel + 1) {st' : St}
    (h : freeAll debug st c fuel = some st') : InvX lo hi (g.freeAll c) st' :=
  of_eq_some (freeAll_spec_gen (invX_stable lo hi debug).1 hX hc) h

theorem history_invX {lo hi : Nat} {debug : Bool} : ∀ (ops : List Op) {g : G} {st : St}, InvX lo hi g st →
    Valid debug g st ops → ∀ {g' : G} {st' : St}, run debug g st ops = some (g', st') → InvX lo hi g' st' := by
  intro ops g st hX hv g' st' h
  exact of_eq_some₂ (history_stable (invX_stable lo hi debug) ops hX hv) h

theorem InvX.free_span {lo hi : Nat} {g : G} {st : St} (hX : InvX lo hi g st) {a : Nat} (hlo : lo ≤ a) :
    ∀ j, 1 ≤ j → a + j ≤ hi →
      (∀ x, a ≤ x → x < a + j → ∀ reg ∈ g.regions, ¬ (reg.start ≤ x ∧ x < reg.start + reg.size)) →
      ∃ r ∈ st.fl.runs, r.free = true ∧ r.start ≤ a ∧ a + j ≤ r.start + r.size := by
  have hfreeAt : ∀ x, lo ≤ x → x < hi →
      (∀ reg ∈ g.regions, ¬ (reg.start ≤ x ∧ x < reg.start + reg.size)) →
      ∃ r ∈ st.fl.runs, r.free = true ∧ r.start ≤ x ∧ x < r.start + r.size := by
    intro x hx1 hx2 hun
    obtain ⟨r, hr, hr1, hr2⟩ := hX.full.cover x hx1 hx2
    refine ⟨r, hr, ?_, hr1, hr2⟩
    cases hrf : r.free with
    | true => rfl
    | false =>
      rcases hX.run_reg r hr hrf with o | o | ⟨reg, hreg, hs, hz⟩
      · exact absurd (Nat.lt_of_lt_of_le hr2 o) (Nat.not_lt.2 hx1)
      · exact absurd (Nat.lt_of_lt_of_le hx2 o) (Nat.not_lt.2 hr1)
      · exact absurd ⟨hs ▸ hr1, hs ▸ hz ▸ hr2⟩ (hun reg hreg)
  -- the free run at `a` reaches `a + j`: otherwise the chunk at its end is unallocated too, and the
  -- free run covering that chunk would be adjacent to it
  intro j hj hhi hun
  have haj : a < a + j := Nat.lt_add_of_pos_right hj
  obtain ⟨r, hr, hrf, hr1, hr2⟩ := hfreeAt a hlo (Nat.lt_of_lt_of_le haj hhi) (hun a (Nat.le_refl _) haj)
  refine ⟨r, hr, hrf, hr1, Nat.le_of_not_lt fun hlt => ?_⟩
  obtain ⟨r2, hr2m, hr2f, hr21, hr22⟩ := hfreeAt (r.start + r.size)
    (Nat.le_trans hlo (Nat.le_of_lt hr2)) (Nat.lt_of_lt_of_le hlt hhi) (hun _ (Nat.le_of_lt hr2) hlt)
  have hpos := hX.inv.fl.pos r hr
  rcases hX.inv.fl.eq_or_disj hr hr2m with e | dd
  · subst e
    exact Nat.lt_irrefl _ hr22
  · unfold Disj at dd
    exact hX.full.maximal r hr r2 hr2m hrf hr2f (by omega)

/-- **`allocate_contiguous_chunks` returns `0` only when it must**: after a `0` result there is no
window of `k` consecutive chunks of the range that are all unallocated. -/
theorem alloc_fails_exact {lo hi : Nat} {g : G} {st : St} (hX : InvX lo hi g st) {debug : Bool}
    {d k head : Nat} {st' : St} (hk : 1 ≤ k) (h : allocate debug st d k head = (st', .val 0)) :
    ¬ ∃ a, lo ≤ a ∧ a + k ≤ hi ∧
      ∀ x, a ≤ x → x < a + k → ∀ reg ∈ g.regions, ¬ (reg.start ≤ x ∧ x < reg.start + reg.size) := by
  rintro ⟨a, hlo, hhi, hun⟩
  have hI := hX.inv
  have hnone : (st.fl.alloc k).1 = none := by
    rcases allocate_val_iff.1 h with ⟨hn, -, -⟩ | ⟨hsome, -⟩
    · exact hn
    · obtain ⟨s, hfree, -⟩ := alloc_spec hI.fl hk hsome
      exact absurd rfl (hI.free_run_fresh hfree).2.1
  obtain ⟨r, hr, hrf, hr1, hr2⟩ := hX.free_span hlo k hk hhi hun
  have := (alloc_none_iff hI.fl).1 hnone r hr hrf
  omega

/-- The same from the finalised state, for every protocol-respecting history. -/
theorem history_alloc_fails_exact {M first last : Nat} (h1 : 0 < first) (h2 : first ≤ last) (h3 : last < M)
    {debug : Bool} {ops : List Op} (hv : Valid debug {} (finalize M first last) ops) {g : G} {st : St}
    (hr : run debug {} (finalize M first last) ops = some (g, st))
    {d k head : Nat} {st' : St} (hk : 1 ≤ k) (h : allocate debug st d k head = (st', .val 0)) :
    ¬ ∃ a, first ≤ a ∧ a + k ≤ last + 1 ∧
      ∀ x, a ≤ x → x < a + k → ∀ reg ∈ g.regions, ¬ (reg.start ≤ x ∧ x < reg.start + reg.size) :=
  alloc_fails_exact (history_invX ops (invX_init h1 h2 h3) hv hr) hk h

instance instDecidablePre (g : G) : (op : Op) → Decidable (Pre g op)
  | .alloc _ k head => inferInstanceAs (Decidable (1 ≤ k ∧ (head = 0 ∨ ∃ l ∈ g.lists, l.head? = some head)))
  | .free c => inferInstanceAs (Decidable (∃ r ∈ g.regions, r.start = c))
  | .freeAll c => inferInstanceAs (Decidable (c = 0 ∨ ∃ l ∈ g.lists, c ∈ l ∧ l.length ≤ 4096 + 1))

def validB (debug : Bool) : G → St → List Op → Bool
  | _, _, [] => true
  | g, st, op :: ops =>
    decide (Pre g op) && match step debug g st op with
      | none => true
      | some (g', st') => validB debug g' st' ops

theorem valid_of_validB {debug : Bool} : ∀ (ops : List Op) {g : G} {st : St},
    validB debug g st ops = true → Valid debug g st ops := by
  intro ops
  induction ops with
  | nil => exact fun _ => trivial
  | cons op ops ih =>
    intro g st h
    simp only [validB, Bool.and_eq_true, decide_eq_true_eq] at h
    refine ⟨h.1, ?_⟩
    cases hs : step debug g st op with
    | none => trivial
    | some p =>
      obtain ⟨g', st'⟩ := p
      rw [hs] at h
      exact ih h.2

/-- A history on the range `[2, 10)` of a 12-chunk map, two spaces (descriptors 4 and 8): pushes on
both lists, a free of a middle region, re-use of the freed chunks, `free_all_chunks` from the tail of a
list, an exhausted allocation, and an allocation after it. -/
def exOps : List Op :=
  [.alloc 4 3 0, .alloc 4 2 2, .alloc 8 1 0, .alloc 4 1 5, .free 5, .alloc 8 1 7, .freeAll 2, .alloc 4 9 0,
   .alloc 8 2 5]

structure View where
  regions : List Reg
  lists : List (List Nat)
  avail : Nat
  desc : List Nat
  next : List Nat
  prev : List Nat
deriving Repr, DecidableEq

def view (p : Option (G × St)) : Option View :=
  p.map fun (g, st) => ⟨g.regions, g.lists, st.avail, (List.range' 1 10).map st.desc,
    (List.range' 1 10).map st.next, (List.range' 1 10).map st.prev⟩

example : Valid true {} (finalize 12 2 9) exOps := valid_of_validB _ (by decide +kernel)
example : Valid false {} (finalize 12 2 9) exOps := valid_of_validB _ (by decide +kernel)

example : view (run true {} (finalize 12 2 9) (exOps.take 6)) =
    some ⟨[⟨5, 1, 8⟩, ⟨8, 1, 4⟩, ⟨7, 1, 8⟩, ⟨2, 3, 4⟩], [[8, 2], [5, 7]], 2,
      [0, 4, 4, 4, 8, 0, 8, 4, 0, 0], [0, 0, 0, 0, 7, 0, 0, 2, 0, 0], [0, 8, 0, 0, 0, 0, 5, 0, 0, 0]⟩ := by
  decide +kernel

/-- So `Inv` holds for a non-trivial state (`history_inv_init` applied to a concrete history). -/
example : ∃ g st, run true {} (finalize 12 2 9) exOps = some (g, st) ∧ Inv 2 10 g st ∧ g.regions.length = 3 := by
  have hv : Valid true {} (finalize 12 2 9) exOps := valid_of_validB _ (by decide +kernel)
  obtain ⟨g, st, h⟩ := history_no_panic (debug := true) exOps
    (inv_init (M := 12) (first := 2) (last := 9) (by decide) (by decide) (by decide)) hv
  refine ⟨g, st, h, history_inv_init (by decide) (by decide) (by decide) hv h, ?_⟩
  have : (run true {} (finalize 12 2 9) exOps).map (fun p => p.1.regions.length) = some 3 := by decide +kernel
  rw [h] at this
  simpa using this

/-- `alloc_fails_exact`'s hypothesis occurs: the eighth operation of `exOps` (`alloc 4 9 0`) returns `0`. -/
example : (run true {} (finalize 12 2 9) (exOps.take 7)).map (fun p => (allocate true p.2 4 9 0).2) =
    some (.val 0) := by decide +kernel

/-- The harness's instance (`maxChunks = 2^25`, chunks `100 ..= 131`) satisfies `inv_init`'s hypotheses. -/
example : Inv 100 (131 + 1) {} (finalize (2 ^ 25) 100 131) :=
  inv_init (by decide) (by decide) (by omega)

end Mmtk.Map32
