import MmtkModel.Model.BlockPoolTie
import MmtkModel.Lemmas.Sums
/-!
# C19 — the block pool never loses or duplicates a block

For **any number of workers `n`, poppers `m`, any queue capacity `cap ≥ 1`** and **every interleaving**
of the atomic steps of `Model/BlockPool.lean`: every block pushed is — counted as a multiset — either
popped, or held in exactly one queue, or in the hands of exactly one thread (`conservation`); no block
is popped that was not pushed, and none more often than it was pushed (`pop_only_pushed`,
`popped_le_pushed`); if no block is pushed twice, none is popped twice (`popped_nodup`); `count`
equals the number of blocks held plus those in flight, so at quiescence `len()` is exact
(`len_exact`); every queue in `global` is non-empty, so the `unwrap` in `pop` cannot panic
(`global_nonempty`, `pop_never_panics`); the head queue is only ever replaced when it is empty
(`install_over_empty_head`); and after `flush_all` at quiescence (no thread inside a call), `len()`
successive `pop`s bring `count` to 0 and add to `popped` exactly the held blocks
(`flush_makes_poppable`).

All but the last is read off one invariant `Inv`, kept by every step.  Its arithmetic part is a
ledger: for a weight `wt` on blocks, `ledger` adds up what the queues hold and what the threads have
in their hands.
With `wt` the indicator of a block it gives conservation as multisets, with `wt = 1` and the poppers
past their `fetch_sub` left out it gives `count`; a step moves it by the few summands it touches.
Its structural part: every queue bound for `global` is non-empty (`Q`), and the head lock is held
exactly by the popper inside its critical section, who installs a new head only over an empty one (`K`).
The global lock obeys the same discipline (`Lock`); nothing in `Inv` needs it, so it is a separate
invariant `GL`, used only to run `flush_all` and `pop` to completion from a quiescent state.
The popper's step function is inverted once, into the relation `PStep`; what the invariants need of a
popper's step is a case analysis on it.  The sequential runs of the last part (`pop_succeeds`,
`flush_loop`) evaluate `step` along their one concrete path instead.
-/
namespace Mmtk.BlockPool

def wsum (wt : Nat → Nat) : List Nat → Nat
  | [] => 0
  | x :: xs => wt x + wsum wt xs

def one : Nat → Nat := fun _ => 1

def indicator (b : Nat) : Nat → Nat := fun x => if x = b then 1 else 0

def wsumL (wt : Nat → Nat) : List (List Nat) → Nat
  | [] => 0
  | q :: qs => wsum wt q + wsumL wt qs

def sumTo : Nat → (Nat → Nat) → Nat
  | 0, _ => 0
  | n + 1, h => sumTo n h + h n

theorem sumTo_eq (n : Nat) (h : Nat → Nat) : sumTo n h = ((List.range n).map h).sum := by
  induction n with
  | zero => rfl
  | succ n ih => rw [Sums.sum_range_succ, ← ih]; rfl

theorem sumTo_update {α : Type} (n : Nat) (f f' : Nat → α) (g : α → Nat) (i : Nat) (hi : i < n)
    (h : ∀ x, x ≠ i → f' x = f x) :
    sumTo n (fun x => g (f' x)) + g (f i) = sumTo n (fun x => g (f x)) + g (f' i) := by
  rw [sumTo_eq, sumTo_eq]
  exact Sums.sum_range_update n (fun x => g (f x)) (fun x => g (f' x)) i hi fun x hx => by rw [h x hx]

theorem sumTo_ge (n : Nat) (h : Nat → Nat) (i : Nat) (hi : i < n) : h i ≤ sumTo n h :=
  sumTo_eq n h ▸ Sums.le_sum_range n h i hi

theorem sumTo_zero (n : Nat) (h : Nat → Nat) (hz : ∀ i, i < n → h i = 0) : sumTo n h = 0 :=
  (sumTo_eq n h).trans (Sums.sum_range_zero n h hz)

@[simp] theorem wsum_nil (wt : Nat → Nat) : wsum wt [] = 0 := rfl
@[simp] theorem wsum_cons (wt : Nat → Nat) (x : Nat) (xs : List Nat) : wsum wt (x :: xs) = wt x + wsum wt xs := rfl
@[simp] theorem wsumL_nil (wt : Nat → Nat) : wsumL wt [] = 0 := rfl
@[simp] theorem wsumL_cons (wt : Nat → Nat) (q : List Nat) (qs : List (List Nat)) :
    wsumL wt (q :: qs) = wsum wt q + wsumL wt qs := rfl

theorem wsum_eq (wt : Nat → Nat) (xs : List Nat) : wsum wt xs = (xs.map wt).sum := by
  induction xs with
  | nil => rfl
  | cons x xs ih => rw [wsum_cons, ih, List.map_cons, List.sum_cons]

theorem wsum_indicator (b : Nat) (xs : List Nat) : wsum (indicator b) xs = xs.count b := by
  have := Sums.sum_map_indicator id b xs
  rw [List.map_id] at this
  exact (wsum_eq _ xs).trans this

theorem wsum_one (xs : List Nat) : wsum one xs = xs.length := (wsum_eq one xs).trans (Sums.sum_map_one xs)

theorem wsum_append (wt : Nat → Nat) (xs ys : List Nat) : wsum wt (xs ++ ys) = wsum wt xs + wsum wt ys := by
  rw [wsum_eq, wsum_eq, wsum_eq, List.map_append, List.sum_append]

theorem wsum_flatten (wt : Nat → Nat) (qs : List (List Nat)) : wsum wt qs.flatten = wsumL wt qs := by
  induction qs with
  | nil => rfl
  | cons q qs ih => simp only [List.flatten_cons, wsum_append, ih, wsumL_cons]

theorem wsum_flatMap_range (wt : Nat → Nat) (f : Nat → List Nat) (n : Nat) :
    wsum wt ((List.range n).flatMap f) = sumTo n (fun i => wsum wt (f i)) := by
  induction n with
  | zero => rfl
  | succ n ih => simp only [List.range_succ, List.flatMap_append, wsum_append, ih, sumTo]; simp

def wW (wt : Nat → Nat) : WPC → Nat
  | .idle => 0
  | .counted b => wt b
  | .pushGlobal old => wsum wt old

/-- `cnt = true`: only blocks still counted in `count` (a popper past its `fetch_sub` no longer is). -/
def wP (cnt : Bool) (wt : Nat → Nat) : PPC → Nat
  | .gotHead1 b | .decr2 b => wt b
  | .rel1 b | .rel2 b => if cnt then 0 else wt b
  | .install b rest => wt b + wsum wt rest
  | _ => 0

def wF (wt : Nat → Nat) : FPC → Nat
  | .pushG _ q => wsum wt q
  | _ => 0

@[simp] theorem wW_idle (wt : Nat → Nat) : wW wt .idle = 0 := rfl
@[simp] theorem wW_counted (wt : Nat → Nat) (b : Nat) : wW wt (.counted b) = wt b := rfl
@[simp] theorem wW_pushGlobal (wt : Nat → Nat) (q : List Nat) : wW wt (.pushGlobal q) = wsum wt q := rfl
@[simp] theorem wP_idle (c : Bool) (wt : Nat → Nat) : wP c wt .idle = 0 := rfl
@[simp] theorem wP_checked (c : Bool) (wt : Nat → Nat) : wP c wt .checked = 0 := rfl
@[simp] theorem wP_tryHead1 (c : Bool) (wt : Nat → Nat) : wP c wt .tryHead1 = 0 := rfl
@[simp] theorem wP_wantGlobal (c : Bool) (wt : Nat → Nat) : wP c wt .wantGlobal = 0 := rfl
@[simp] theorem wP_tryHead2 (c : Bool) (wt : Nat → Nat) : wP c wt .tryHead2 = 0 := rfl
@[simp] theorem wP_popGlobal (c : Bool) (wt : Nat → Nat) : wP c wt .popGlobal = 0 := rfl
@[simp] theorem wP_gotHead1 (c : Bool) (wt : Nat → Nat) (b : Nat) : wP c wt (.gotHead1 b) = wt b := rfl
@[simp] theorem wP_decr2 (c : Bool) (wt : Nat → Nat) (b : Nat) : wP c wt (.decr2 b) = wt b := rfl
@[simp] theorem wP_rel1 (c : Bool) (wt : Nat → Nat) (b : Nat) : wP c wt (.rel1 b) = if c then 0 else wt b := rfl
@[simp] theorem wP_rel2 (c : Bool) (wt : Nat → Nat) (b : Nat) : wP c wt (.rel2 b) = if c then 0 else wt b := rfl
@[simp] theorem wP_install (c : Bool) (wt : Nat → Nat) (b : Nat) (r : List Nat) :
    wP c wt (.install b r) = wt b + wsum wt r := rfl
@[simp] theorem wF_idle (wt : Nat → Nat) : wF wt .idle = 0 := rfl
@[simp] theorem wF_at (wt : Nat → Nat) (i : Nat) : wF wt (.at i) = 0 := rfl
@[simp] theorem wF_pushG (wt : Nat → Nat) (i : Nat) (q : List Nat) : wF wt (.pushG i q) = wsum wt q := rfl

def headW (wt : Nat → Nat) (s : State) : Nat :=
  match s.head with
  | some q => wsum wt q
  | none => 0

def held (n : Nat) (wt : Nat → Nat) (s : State) : Nat :=
  headW wt s + wsumL wt s.global + sumTo n (fun i => wsum wt (s.locals i))

def inflight (n m : Nat) (cnt : Bool) (wt : Nat → Nat) (s : State) : Nat :=
  sumTo n (fun i => wW wt (s.pcW i)) + sumTo m (fun j => wP cnt wt (s.pcP j)) + wF wt s.pcF

def ledger (n m : Nat) (cnt : Bool) (wt : Nat → Nat) (s : State) : Nat :=
  held n wt s + inflight n m cnt wt s

-- the head lock is taken on entering `tryHead1` and held at every later pc, until `pop` returns
def holdsHead : PPC → Bool
  | .idle | .checked => false
  | _ => true

def headEmpty' (head : Option (List Nat)) : Prop := head = none ∨ head = some []

structure Lock (hold : PPC → Bool) (m : Nat) (pcP : Nat → PPC) (lk : Option Nat) : Prop where
  holder : ∀ p, lk = some p → p < m ∧ hold (pcP p) = true
  lock : ∀ p, p < m → hold (pcP p) = true → lk = some p

/-- The upgradeable read lock on `head`: `lockHolder` and `holderLock` are `Lock holdsHead m pcP hl`
(`K.lock`); `emptyHead`: a popper about to take a queue from `global` / install it saw the head empty. -/
structure K (m : Nat) (pcP : Nat → PPC) (hl : Option Nat) (head : Option (List Nat)) : Prop where
  lockHolder : ∀ p, hl = some p → p < m ∧ holdsHead (pcP p) = true
  holderLock : ∀ p, p < m → holdsHead (pcP p) = true → hl = some p
  emptyHead : ∀ p, p < m → (pcP p = .popGlobal ∨ ∃ b r, pcP p = .install b r) → headEmpty' head

theorem K.lock {m : Nat} {pcP : Nat → PPC} {hl : Option Nat} {head : Option (List Nat)} (hk : K m pcP hl head) :
    Lock holdsHead m pcP hl := ⟨hk.lockHolder, hk.holderLock⟩

structure Q (n : Nat) (s : State) : Prop where
  gne : ∀ q, q ∈ s.global → q ≠ []
  wne : ∀ w old, w < n → s.pcW w = .pushGlobal old → old ≠ []
  fne : ∀ i q, s.pcF = .pushG i q → q ≠ []

structure Str (n m : Nat) (s : State) : Prop where
  q : Q n s
  k : K m s.pcP s.headLock s.head

/-- `cons`: with every block in a thread's hands counted (`cnt = false`) the ledger balances `pushed`
against `popped`, at every weight.  `len`: with the blocks past a `fetch_sub` left out (`cnt = true`) the
ledger at weight 1 is `count`. -/
structure Inv (n m : Nat) (s : State) : Prop where
  str : Str n m s
  cons : ∀ wt, wsum wt s.pushed = wsum wt s.popped + ledger n m false wt s
  len : s.count = ledger n m true one s

section steps
variable {n m cap : Nat} {cnt : Bool} {wt : Nat → Nat} {s s' : State} {p w : Nat} {pc : PPC}

theorem headEmpty_or (h : Option (List Nat)) : headEmpty' h ∨ ∃ b rest, h = some (b :: rest) :=
  match h with
  | none => .inl (.inl rfl)
  | some [] => .inl (.inr rfl)
  | some (b :: rest) => .inr ⟨b, rest, rfl⟩

theorem getD_headEmpty {h : Option (List Nat)} (e : headEmpty' h) : h.getD [] = [] := by
  rcases e with e | e <;> rw [e] <;> rfl

/-- `PStep s p pc s'`: popper `p`, standing at `pc`, takes `s` to `s'`.  One constructor per leaf of
`stepP`, under the name of what `pop` does there. -/
inductive PStep (s : State) (p : Nat) : PPC → State → Prop
  | lenZero : s.count = 0 → PStep s p .idle { s with rets := none :: s.rets }
  | enter : s.count ≠ 0 → PStep s p .idle { s with pcP := setP s p .checked }
  | lockHead : s.headLock = none → PStep s p .checked { s with headLock := some p, pcP := setP s p .tryHead1 }
  | headBusy : s.headLock ≠ none → PStep s p .checked s
  | popHead1 (b rest) : s.head = some (b :: rest) →
      PStep s p .tryHead1 { s with head := some rest, pcP := setP s p (.gotHead1 b) }
  | missHead1 : headEmpty' s.head → PStep s p .tryHead1 { s with pcP := setP s p .wantGlobal }
  | fetchSub1 (b) : PStep s p (.gotHead1 b) { s with count := s.count - 1, pcP := setP s p (.rel1 b) }
  | ret1 (b) : PStep s p (.rel1 b)
      { s with headLock := none, pcP := setP s p .idle, popped := b :: s.popped, rets := some b :: s.rets }
  | lockGlobal : s.globalLock = none → PStep s p .wantGlobal { s with globalLock := some p, pcP := setP s p .tryHead2 }
  | globalBusy : s.globalLock ≠ none → PStep s p .wantGlobal s
  | popHead2 (b rest) : s.head = some (b :: rest) →
      PStep s p .tryHead2 { s with head := some rest, pcP := setP s p (.decr2 b) }
  | missHead2 : headEmpty' s.head → PStep s p .tryHead2 { s with pcP := setP s p .popGlobal }
  | noQueue : s.global = [] →
      PStep s p .popGlobal { s with headLock := none, globalLock := none, pcP := setP s p .idle, rets := none :: s.rets }
  | panic (gs) : s.global = [] :: gs → PStep s p .popGlobal s
  | takeQueue (b rest gs) : s.global = (b :: rest) :: gs →
      PStep s p .popGlobal { s with global := gs, pcP := setP s p (.install b rest) }
  | setHead (b rest) : PStep s p (.install b rest)
      { s with head := if rest = [] then s.head else some rest, pcP := setP s p (.decr2 b) }
  | fetchSub2 (b) : PStep s p (.decr2 b) { s with count := s.count - 1, pcP := setP s p (.rel2 b) }
  | ret2 (b) : PStep s p (.rel2 b)
      { s with headLock := none, globalLock := none, pcP := setP s p .idle, popped := b :: s.popped,
               rets := some b :: s.rets }

theorem stepP_pstep (s : State) (p : Nat) : PStep s p (s.pcP p) (stepP s p) := by
  have miss : (∀ b rest, s.head = some (b :: rest) → False) → headEmpty' s.head :=
    fun h => (headEmpty_or s.head).resolve_right fun ⟨b, rest, hh⟩ => h b rest hh
  unfold stepP
  cases s.pcP p with
  | idle => simp only []; split; exact .lenZero ‹_›; exact .enter ‹_›
  | checked => simp only []; split; exact .lockHead ‹_›; exact .headBusy ‹_›
  | tryHead1 => simp only []; split; exact .popHead1 _ _ ‹_›; exact .missHead1 (miss ‹_›)
  | gotHead1 b => exact .fetchSub1 b
  | rel1 b => exact .ret1 b
  | wantGlobal => simp only []; split; exact .lockGlobal ‹_›; exact .globalBusy ‹_›
  | tryHead2 => simp only []; split; exact .popHead2 _ _ ‹_›; exact .missHead2 (miss ‹_›)
  | popGlobal => simp only []; split; exact .noQueue ‹_›; exact .panic _ ‹_›; exact .takeQueue _ _ _ ‹_›
  | install b rest => exact .setHead b rest
  | decr2 b => exact .fetchSub2 b
  | rel2 b => exact .ret2 b

/-! ### what a step leaves alone

A worker's and the flusher's step rewrite three fields; whatever they do not touch is read off these
equations (`rw`, then `rfl`); `runF_frame` is the same for the flusher's run.  A popper writes most
fields: for it `PFrame`. -/

theorem stepW_shape (cap : Nat) (s : State) (w : Nat) :
    ∃ g l pw, stepW cap s w = { s with global := g, locals := l, pcW := pw } := by
  unfold stepW
  split
  · exact ⟨_, _, _, rfl⟩
  · split <;> exact ⟨_, _, _, rfl⟩
  · split <;> exact ⟨_, _, _, rfl⟩

theorem stepF_shape (n : Nat) (s : State) :
    ∃ g l pf, stepF n s = { s with global := g, locals := l, pcF := pf } := by
  unfold stepF
  split
  · split <;> exact ⟨_, _, _, rfl⟩
  · split
    · split <;> exact ⟨_, _, _, rfl⟩
    · exact ⟨_, _, _, rfl⟩
  · split <;> exact ⟨_, _, _, rfl⟩

structure PFrame (p : Nat) (s s' : State) : Prop where
  locals : s'.locals = s.locals
  pcW : s'.pcW = s.pcW
  pcF : s'.pcF = s.pcF
  pushed : s'.pushed = s.pushed
  others : ∀ q, q ≠ p → s'.pcP q = s.pcP q
  global : ∀ q, q ∈ s'.global → q ∈ s.global

theorem PFrame.refl (p : Nat) (s : State) : PFrame p s s := ⟨rfl, rfl, rfl, rfl, fun _ _ => rfl, fun _ h => h⟩

theorem PFrame.trans {p : Nat} {s t u : State} (f : PFrame p s t) (g : PFrame p t u) : PFrame p s u :=
  ⟨g.locals.trans f.locals, g.pcW.trans f.pcW, g.pcF.trans f.pcF, g.pushed.trans f.pushed,
    fun q h => (g.others q h).trans (f.others q h), fun q h => f.global q (g.global q h)⟩

theorem PStep.frame (h : PStep s p pc s') : PFrame p s s' := by
  cases h with
  | lenZero | headBusy | globalBusy | panic => exact ⟨rfl, rfl, rfl, rfl, fun _ _ => rfl, fun _ h => h⟩
  | takeQueue b rest gs hg => exact ⟨rfl, rfl, rfl, rfl, fun _ hq => if_neg hq, fun _ h => hg ▸ List.mem_cons_of_mem _ h⟩
  | _ => exact ⟨rfl, rfl, rfl, rfl, fun _ hq => if_neg hq, fun _ h => h⟩

theorem step_pop_frame (n m cap : Nat) (s : State) (p : Nat) : PFrame p s (step n m cap s (.pop p)) := by
  simp only [step]
  split
  · exact (stepP_pstep s p).frame
  · exact .refl p s

theorem headW_eq (wt : Nat → Nat) (s : State) : headW wt s = wsum wt (s.head.getD []) := by
  unfold headW; cases s.head <;> rfl

/-- A popper's step rewrites the head, `global` and its own pc: if these summands lose `x`, the ledger loses `x`. -/
theorem ledger_popper (hp : p < m) (hpc : s.pcP p = pc)
    {c : Nat} {h : Option (List Nat)} {g : List (List Nat)} {v : PPC} {hl gl : Option Nat} {po : List Nat}
    {r : List (Option Nat)} {x : Nat}
    (bal : wsum wt (h.getD []) + wsumL wt g + wP cnt wt v + x
      = wsum wt (s.head.getD []) + wsumL wt s.global + wP cnt wt pc) :
    ledger n m cnt wt ⟨c, h, g, s.locals, s.pcW, setP s p v, s.pcF, hl, gl, s.pushed, po, r⟩ + x
      = ledger n m cnt wt s := by
  subst hpc
  have := sumTo_update m s.pcP (setP s p v) (wP cnt wt) p hp (fun x hx => if_neg hx)
  rw [show setP s p v p = v from if_pos rfl] at this
  simp only [ledger, held, inflight, headW_eq]
  omega

/-- A worker's step at slot `i`, or the flusher's, rewrites `global`, `locals i`, `pcW i`, `pcF`: if these
summands gain `y`, the ledger gains `y`. -/
theorem ledger_slot {i : Nat} (y : Nat) (hi : i < n)
    {c : Nat} {g : List (List Nat)} {l : Nat → List Nat} {pw : Nat → WPC} {pf : FPC} {pu : List Nat}
    (hl : ∀ x, x ≠ i → l x = s.locals x) (hpw : ∀ x, x ≠ i → pw x = s.pcW x)
    (bal : wsumL wt g + wsum wt (l i) + wW wt (pw i) + wF wt pf
      = wsumL wt s.global + wsum wt (s.locals i) + wW wt (s.pcW i) + wF wt s.pcF + y) :
    ledger n m cnt wt ⟨c, s.head, g, l, pw, s.pcP, pf, s.headLock, s.globalLock, pu, s.popped, s.rets⟩
      = ledger n m cnt wt s + y := by
  have h1 := sumTo_update n s.locals l (wsum wt) i hi hl
  have h2 := sumTo_update n s.pcW pw (wW wt) i hi hpw
  simp only [ledger, held, inflight, headW]
  omega

/-- what a popper's step takes out (`cnt = true`: out of `count`, at the `fetch_sub`; `cnt = false`: out
of the pool, when `pop` returns) -/
def lossP (cnt : Bool) (wt : Nat → Nat) : PPC → Nat
  | .gotHead1 b | .decr2 b => if cnt then wt b else 0
  | .rel1 b | .rel2 b => if cnt then 0 else wt b
  | _ => 0

theorem PStep.balance (h : PStep s p pc s') (hpc : s.pcP p = pc) (hp : p < m)
    (hk : K m s.pcP s.headLock s.head) (cnt : Bool) (wt : Nat → Nat) :
    ledger n m cnt wt s' + lossP cnt wt pc = ledger n m cnt wt s := by
  cases h with
  | lenZero | headBusy | globalBusy | panic => rfl
  | enter | lockHead | missHead1 | lockGlobal | missHead2 | noQueue => exact ledger_popper hp hpc rfl
  | popHead1 b rest hh | popHead2 b rest hh =>
    exact ledger_popper hp hpc (by simp only [hh, Option.getD_some, wP, wsum, lossP]; omega)
  | fetchSub1 b | fetchSub2 b => exact ledger_popper hp hpc (by cases cnt <;> simp [wP, lossP])
  | ret1 b | ret2 b => exact ledger_popper hp hpc (by simp only [wP, lossP]; omega)
  | takeQueue b rest gs hg => exact ledger_popper hp hpc (by simp only [hg, wP, wsumL, wsum, lossP]; omega)
  | setHead b rest =>
    -- the head that `rest` replaces carries no weight: it was seen empty under the lock
    have he := getD_headEmpty (hk.emptyHead p hp (Or.inr ⟨b, rest, hpc⟩))
    exact ledger_popper hp hpc (by cases rest <;> simp [wP, lossP, he] <;> omega)

/-- `popped` gains what leaves the pool.  `count` loses what leaves the count, provided it is at least
what the popper holds counted (`fetch_sub` is truncated subtraction here; `Inv.len` supplies the bound). -/
theorem PStep.ghost (h : PStep s p pc s') :
    (∀ wt, wsum wt s'.popped = wsum wt s.popped + lossP false wt pc) ∧
    (wP true one pc ≤ s.count → s'.count + lossP true one pc = s.count) := by
  cases h with
  | fetchSub1 | fetchSub2 =>
    -- the `fetch_sub`: the block is counted, so `count ≥ 1`
    exact ⟨fun _ => rfl, fun (h : 1 ≤ s.count) => Nat.sub_add_cancel h⟩
  | ret1 | ret2 => exact ⟨fun _ => Nat.add_comm _ _, fun _ => rfl⟩
  | _ => exact ⟨fun _ => rfl, fun _ => rfl⟩

theorem Q.setW (hq : Q n s) (w : Nat) {v : WPC} (hv : ∀ old, v = .pushGlobal old → old ≠ []) :
    ∀ w' old, w' < n → setW s w v w' = .pushGlobal old → old ≠ [] := by
  intro w' old hw' h
  unfold BlockPool.setW at h
  split at h
  · exact hv old h
  · exact hq.wne w' old hw' h

theorem push_inv (b : Nat) (hg : w < n ∧ s.pcW w = .idle ∧ s.pcF = .idle) (h : Inv n m s) :
    Inv n m { s with count := s.count + 1, pcW := setW s w (.counted b), pushed := b :: s.pushed } := by
  have hl : ∀ cnt wt, ledger n m cnt wt { s with count := s.count + 1, pcW := setW s w (.counted b), pushed := b :: s.pushed }
      = ledger n m cnt wt s + wt b := fun cnt wt =>
    ledger_slot (wt b) hg.1 (fun _ _ => rfl) (fun _ hx => if_neg hx) (by simp only [setW, ↓reduceIte, hg.2.1, wW]; omega)
  refine ⟨⟨⟨h.str.q.gne, h.str.q.setW w nofun, h.str.q.fne⟩, h.str.k⟩, fun wt => ?_, ?_⟩
  · have := h.cons wt; rw [hl]; simp only [wsum]; omega
  · have := h.len; rw [hl]; simp only [one]; omega

/-- A worker's step past its `fetch_add`, and the flusher's, write `global`, `locals`, `pcW`, `pcF` only and move no
block in or out of the pool: `Inv` holds again if `Q` does and the ledger is what it was. -/
theorem Inv.slot (h : Inv n m s) {g : List (List Nat)} {l : Nat → List Nat} {pw : Nat → WPC} {pf : FPC}
    (e : s' = { s with global := g, locals := l, pcW := pw, pcF := pf }) (hq : Q n s')
    (hl : ∀ cnt wt, ledger n m cnt wt s' = ledger n m cnt wt s) : Inv n m s' := by
  subst e
  exact ⟨⟨hq, h.str.k⟩, fun wt => (h.cons wt).trans (by rw [hl]), h.len.trans (hl _ _).symm⟩

theorem stepW_inv (hcap : 0 < cap) (hw : w < n) (h : Inv n m s) : Inv n m (stepW cap s w) := by
  have hq := h.str.q
  unfold stepW
  split
  · exact h
  · rename_i b hpc
    split
    · exact h.slot rfl ⟨hq.gne, hq.setW w nofun, hq.fne⟩ fun cnt wt =>
        ledger_slot 0 hw (fun _ hx => if_neg hx) (fun _ hx => if_neg hx)
          (by simp only [setW, setL, ↓reduceIte, hpc, wW, wsum]; omega)
    · rename_i hfull
      -- the queue handed on is full, and `cap ≥ 1`
      refine h.slot rfl ⟨hq.gne, hq.setW w fun old h hnil => ?_, hq.fne⟩ fun cnt wt =>
        ledger_slot 0 hw (fun _ hx => if_neg hx) (fun _ hx => if_neg hx)
          (by simp only [setW, setL, ↓reduceIte, hpc, wW, wsum]; omega)
      injection h with h
      rw [h, hnil] at hfull
      exact hfull hcap
  · rename_i old hpc
    split
    · exact h.slot rfl ⟨List.forall_mem_cons.mpr ⟨hq.wne w old hw hpc, hq.gne⟩, hq.setW w nofun, hq.fne⟩ fun cnt wt =>
        ledger_slot 0 hw (fun _ _ => rfl) (fun _ hx => if_neg hx)
          (by simp only [setW, ↓reduceIte, hpc, wW, wsumL]; omega)
    · exact h

theorem stepF_inv (h : Inv n m s) : Inv n m (stepF n s) := by
  have hq := h.str.q
  unfold stepF
  cases hpc : s.pcF with
  | idle =>
    simp only []
    split
    · exact h.slot rfl ⟨hq.gne, hq.wne, nofun⟩ fun _ _ => by simp only [ledger, inflight, hpc, wF]; rfl
    · exact h
  | «at» i =>
    simp only []
    split
    · rename_i hi
      split
      · exact h.slot rfl ⟨hq.gne, hq.wne, nofun⟩ fun _ _ => by simp only [ledger, inflight, hpc, wF]; rfl
      · rename_i hne
        refine h.slot rfl ⟨hq.gne, hq.wne, fun i' q h => ?_⟩ fun cnt wt =>
          ledger_slot 0 hi (fun _ hx => if_neg hx) (fun _ _ => rfl)
            (by simp only [setL, ↓reduceIte, hpc, wF, wsum]; omega)
        injection h with _ h2
        rw [← h2]; exact hne
    · exact h.slot rfl ⟨hq.gne, hq.wne, nofun⟩ fun _ _ => by simp only [ledger, inflight, hpc, wF]; rfl
  | pushG i q =>
    simp only []
    split
    · exact h.slot rfl ⟨List.forall_mem_cons.mpr ⟨hq.fne i q hpc, hq.gne⟩, hq.wne, nofun⟩ fun _ _ => by
        simp only [ledger, held, inflight, headW, hpc, wF, wsumL]; omega
    · exact h

def holdsGlobal : PPC → Bool
  | .tryHead2 | .popGlobal | .install _ _ | .decr2 _ | .rel2 _ => true
  | _ => false

def LockMove (hold : PPC → Bool) (p : Nat) (pc pc' : PPC) (lk lk' : Option Nat) : Prop :=
  (lk' = lk ∧ hold pc' = hold pc) ∨ (lk = none ∧ lk' = some p ∧ hold pc' = true) ∨
  (lk' = none ∧ hold pc' = false ∧ hold pc = true)

section lock
variable {hold : PPC → Bool} {m : Nat} {pcP pcP' : Nat → PPC} {lk lk' : Option Nat} {p q : Nat}

theorem Lock.unique (hL : Lock hold m pcP lk) (hp : p < m) (hq : q < m) (h1 : hold (pcP p) = true)
    (h2 : hold (pcP q) = true) : p = q :=
  Option.some.inj ((hL.lock p hp h1).symm.trans (hL.lock q hq h2))

theorem Lock.free (hL : Lock hold m pcP lk) (h : ∀ p, p < m → hold (pcP p) = false) : lk = none := by
  cases hl : lk with
  | none => rfl
  | some p =>
    have := hL.holder p hl
    rw [h p this.1] at this; cases this.2

theorem Lock.move (hL : Lock hold m pcP lk) (hp : p < m) (ho : ∀ q, q ≠ p → pcP' q = pcP q)
    (hm : LockMove hold p (pcP p) (pcP' p) lk lk') : Lock hold m pcP' lk' := by
  rcases hm with ⟨rfl, hv⟩ | ⟨rfl, rfl, hv⟩ | ⟨rfl, hv, hh⟩
  · have hold' : ∀ q, hold (pcP' q) = hold (pcP q) := fun q => by
      by_cases e : q = p
      · rw [e, hv]
      · rw [ho q e]
    exact ⟨fun q hq => ⟨(hL.holder q hq).1, (hold' q).trans (hL.holder q hq).2⟩,
      fun q hq hh => hL.lock q hq ((hold' q).symm.trans hh)⟩
  · refine ⟨fun q hq => ?_, fun q hq hh => ?_⟩
    · injection hq with hq; rw [← hq]; exact ⟨hp, hv⟩
    · by_cases e : q = p
      · rw [e]
      · rw [ho q e] at hh; cases hL.lock q hq hh
  · refine ⟨nofun, fun q hq hq' => ?_⟩
    by_cases e : q = p
    · rw [e, hv] at hq'; cases hq'
    · rw [ho q e] at hq'; exact absurd (hL.unique hq hp hq' hh) e

end lock

/-- Only the holder of the head lock writes `head`; a popper arrives at `popGlobal` only past a failed
`head.pop()` and goes on to `install` with the head untouched. -/
theorem PStep.locks (h : PStep s p pc s') (hpc : s.pcP p = pc) :
    LockMove holdsHead p pc (s'.pcP p) s.headLock s'.headLock ∧
    LockMove holdsGlobal p pc (s'.pcP p) s.globalLock s'.globalLock ∧
    (holdsHead pc = false → s'.head = s.head) ∧
    ((pc = .popGlobal → headEmpty' s.head) →
      (s'.pcP p = .popGlobal ∨ ∃ b r, s'.pcP p = .install b r) → headEmpty' s'.head) := by
  unfold LockMove
  cases h <;> simp [setP, holdsHead, holdsGlobal, *]

theorem K.pstep (hk : K m s.pcP s.headLock s.head) (h : PStep s p (s.pcP p) s') (hp : p < m) :
    K m s'.pcP s'.headLock s'.head := by
  obtain ⟨hmove, _, hhead, hempty⟩ := h.locks rfl
  have hL := hk.lock.move hp h.frame.others hmove
  refine ⟨hL.holder, hL.lock, fun q hq he => ?_⟩
  by_cases e : q = p
  · rw [e] at he; exact hempty (fun h => hk.emptyHead p hp (.inl h)) he
  · rw [h.frame.others q e] at he
    have hqh : holdsHead (s.pcP q) = true := by rcases he with h | ⟨b, r, h⟩ <;> rw [h] <;> rfl
    have hph : holdsHead (s.pcP p) = false :=
      Bool.eq_false_iff.mpr fun hph => e (hk.lock.unique hq hp hqh hph)
    rw [hhead hph]; exact hk.emptyHead q hq he

end steps

theorem inflight_quiescent {n m : Nat} {s : State} (hq : Quiescent n m s) (cnt : Bool) (wt : Nat → Nat) : inflight n m cnt wt s = 0 := by
  have z1 : sumTo n (fun i => wW wt (s.pcW i)) = 0 := sumTo_zero _ _ (fun i hi => by rw [hq.1 i hi]; rfl)
  have z2 : sumTo m (fun j => wP cnt wt (s.pcP j)) = 0 := sumTo_zero _ _ (fun i hi => by rw [hq.2.1 i hi]; rfl)
  rw [inflight, z1, z2, hq.2.2]; rfl

theorem ledger_init (n m : Nat) (cnt : Bool) (wt : Nat → Nat) : ledger n m cnt wt init = 0 := by
  have z : sumTo n (fun i => wsum wt (init.locals i)) = 0 := sumTo_zero _ _ (fun _ _ => rfl)
  rw [ledger, inflight_quiescent ⟨fun _ _ => rfl, fun _ _ => rfl, rfl⟩, held, z]
  rfl

theorem init_inv (n m : Nat) : Inv n m init :=
  ⟨⟨⟨nofun, nofun, nofun⟩, ⟨nofun, nofun, nofun⟩⟩, fun wt => by rw [ledger_init]; rfl, by rw [ledger_init]; rfl⟩

theorem Inv.pstep {n m : Nat} {s s' : State} {p : Nat} (h : Inv n m s) (hs : PStep s p (s.pcP p) s') (hp : p < m) :
    Inv n m s' := by
  have f := hs.frame
  obtain ⟨hpo, hc⟩ := hs.ghost
  refine ⟨⟨⟨fun q hm => h.str.q.gne q (f.global q hm), f.pcW ▸ h.str.q.wne, f.pcF ▸ h.str.q.fne⟩, h.str.k.pstep hs hp⟩,
    fun wt => ?_, ?_⟩
  · have h1 := hs.balance (n := n) rfl hp h.str.k false wt
    have h2 := h.cons wt
    rw [f.pushed, hpo wt]
    omega
  · have h1 := hs.balance (n := n) rfl hp h.str.k true one
    have h2 := h.len
    -- `count ≥ 1` at a `fetch_sub`: the block about to be taken off is still counted
    have hge := sumTo_ge m (fun j => wP true one (s.pcP j)) p hp
    have := hc (by simp only [ledger, inflight] at h2; omega)
    omega

theorem step_inv (n m cap : Nat) (hcap : 0 < cap) (s : State) (h : Inv n m s) (a : Act) :
    Inv n m (step n m cap s a) := by
  cases a with
  | push w b =>
    simp only [step]
    split
    · exact push_inv b ‹_› h
    · exact h
  | w w =>
    simp only [step]
    split
    · exact stepW_inv hcap ‹_› h
    · exact h
  | pop p =>
    simp only [step]
    split
    · rename_i hp; exact h.pstep (stepP_pstep s p) hp
    · exact h
  | flush => exact stepF_inv h

theorem exec_preserves {n m cap : Nat} {P : State → Prop} (hstep : ∀ s a, P s → P (step n m cap s a)) :
    ∀ (run : List Act) (s : State), P s → P (exec n m cap s run)
  | [], _, h => h
  | a :: rest, s, h => exec_preserves hstep rest _ (hstep s a h)

theorem exec_inv (n m cap : Nat) (hcap : 0 < cap) (s : State) (run : List Act) (h : Inv n m s) :
    Inv n m (exec n m cap s run) :=
  exec_preserves (fun s a h => step_inv n m cap hcap s h a) run s h

theorem reachable_inv {n m cap : Nat} (hcap : 0 < cap) {s : State} (h : Reachable n m cap s) : Inv n m s := by
  obtain ⟨run, rfl⟩ := h
  exact exec_inv n m cap hcap _ run (init_inv n m)

/-- The global lock is held exactly by the popper from `tryHead2` to `rel2`.  Nothing in `Inv` or its proof
needs this, and `gl_step` needs neither `Inv` nor `0 < cap`: hence a separate invariant. -/
def GL (m : Nat) (s : State) : Prop := Lock holdsGlobal m s.pcP s.globalLock

theorem gl_step (n m cap : Nat) (s : State) (a : Act) (hg : GL m s) : GL m (step n m cap s a) := by
  cases a with
  | push w b => simp only [step]; split <;> exact hg
  | w w =>
    obtain ⟨g, l, pw, e⟩ := stepW_shape cap s w
    simp only [step]; split
    · rw [e]; exact hg
    · exact hg
  | flush => obtain ⟨g, l, pf, e⟩ := stepF_shape n s; simp only [step]; rw [e]; exact hg
  | pop p =>
    simp only [step]
    split
    · rename_i hp; exact hg.move hp (stepP_pstep s p).frame.others ((stepP_pstep s p).locks rfl).2.1
    · exact hg

theorem reachable_gl {n m cap : Nat} {s : State} (h : Reachable n m cap s) : GL m s := by
  obtain ⟨run, rfl⟩ := h
  exact exec_preserves (gl_step n m cap) run init ⟨nofun, fun p _ h => by cases h⟩

/-- The blocks a thread has in its hands, as lists; `wW`, `wP false`, `wF` are their weighted sums (`wsum_wList` …). -/
def wList : WPC → List Nat
  | .idle => []
  | .counted b => [b]
  | .pushGlobal old => old
def pList : PPC → List Nat
  | .gotHead1 b | .rel1 b | .decr2 b | .rel2 b => [b]
  | .install b rest => b :: rest
  | _ => []
def fList : FPC → List Nat
  | .pushG _ q => q
  | _ => []

def heldList (n : Nat) (s : State) : List Nat :=
  s.head.getD [] ++ s.global.flatten ++ (List.range n).flatMap s.locals

/-- all blocks in flight: taken out of / not yet put into a queue by a thread inside `push`, `pop`, `flush_all` -/
def inflightList (n m : Nat) (s : State) : List Nat :=
  (List.range n).flatMap (fun i => wList (s.pcW i)) ++ (List.range m).flatMap (fun j => pList (s.pcP j)) ++ fList s.pcF

theorem wsum_wList (wt : Nat → Nat) (pc : WPC) : wsum wt (wList pc) = wW wt pc := by
  cases pc <;> simp [wList]
theorem wsum_pList (wt : Nat → Nat) (pc : PPC) : wsum wt (pList pc) = wP false wt pc := by
  cases pc <;> simp [pList]
theorem wsum_fList (wt : Nat → Nat) (pc : FPC) : wsum wt (fList pc) = wF wt pc := by
  cases pc <;> simp [fList]

theorem wsum_heldList (wt : Nat → Nat) (n : Nat) (s : State) : wsum wt (heldList n s) = held n wt s := by
  simp only [heldList, wsum_append, wsum_flatten, wsum_flatMap_range, held, headW]
  cases s.head <;> simp

theorem wsum_inflightList (wt : Nat → Nat) (n m : Nat) (s : State) :
    wsum wt (inflightList n m s) = inflight n m false wt s := by
  simp only [inflightList, wsum_append, wsum_flatMap_range, inflight, wsum_wList, wsum_pList, wsum_fList]

variable {n m cap : Nat} {s : State}

theorem Inv.perm (inv : Inv n m s) : s.pushed.Perm (s.popped ++ heldList n s ++ inflightList n m s) := by
  rw [List.perm_iff_count]
  intro b
  have := inv.cons (indicator b)
  simp only [List.count_append, ← wsum_indicator, wsum_heldList, wsum_inflightList]
  simp only [ledger] at this
  omega

/-- **C19 (1) conservation.** As multisets: the blocks pushed so far are exactly the blocks popped so
far, plus the blocks held in the queues, plus the blocks in some thread's hands.  Nothing is lost,
nothing duplicated, nothing invented. -/
theorem conservation (hcap : 0 < cap) (h : Reachable n m cap s) :
    s.pushed.Perm (s.popped ++ heldList n s ++ inflightList n m s) :=
  (reachable_inv hcap h).perm

theorem conservation_count (hcap : 0 < cap) (h : Reachable n m cap s) (b : Nat) :
    s.pushed.count b = s.popped.count b + (heldList n s).count b + (inflightList n m s).count b := by
  have := (conservation hcap h).count_eq b
  simp only [List.count_append] at this
  exact this

/-- **C19 (2)** no block is popped that was not pushed … -/
theorem pop_only_pushed (hcap : 0 < cap) (h : Reachable n m cap s) (b : Nat) (hb : b ∈ s.popped) : b ∈ s.pushed :=
  (conservation hcap h).mem_iff.mpr (by simp [hb])

/-- … and none more often than it was pushed. -/
theorem popped_le_pushed (hcap : 0 < cap) (h : Reachable n m cap s) (b : Nat) : s.popped.count b ≤ s.pushed.count b := by
  have := conservation_count hcap h b; omega

/-- If no block is pushed twice (`pushed.Nodup`: not even again after it was popped), then nothing is
ever in two places: the popped blocks, the held blocks and the in-flight blocks are pairwise disjoint
and duplicate-free. -/
theorem no_duplication (hcap : 0 < cap) (h : Reachable n m cap s) (hnd : s.pushed.Nodup) :
    (s.popped ++ heldList n s ++ inflightList n m s).Nodup :=
  (conservation hcap h).nodup_iff.mp hnd

theorem popped_nodup (hcap : 0 < cap) (h : Reachable n m cap s) (hnd : s.pushed.Nodup) : s.popped.Nodup := by
  have := no_duplication hcap h hnd
  rw [List.append_assoc] at this
  exact (List.nodup_append.mp this).1

/-- **C19 (3)** `count` is the number of blocks held plus the in-flight blocks that are counted
(`inflight … true one`: all in-flight blocks but those a popper holds past its `fetch_sub`) … -/
theorem len_counts (hcap : 0 < cap) (h : Reachable n m cap s) :
    s.count = (heldList n s).length + inflight n m true one s := by
  rw [(reachable_inv hcap h).len, ledger, ← wsum_one, wsum_heldList]

/-- … so `len()` never under-reports the queues, … -/
theorem len_ge_held (hcap : 0 < cap) (h : Reachable n m cap s) : (heldList n s).length ≤ s.count := by
  have := len_counts hcap h; omega

/-- … and at quiescence `len()` is exactly the number of blocks held. -/
theorem len_exact (hcap : 0 < cap) (h : Reachable n m cap s) (hq : Quiescent n m s) :
    s.count = (heldList n s).length := by
  rw [len_counts hcap h, inflight_quiescent hq]; rfl

theorem conservation_quiescent (hcap : 0 < cap) (h : Reachable n m cap s) (hq : Quiescent n m s) :
    s.pushed.Perm (s.popped ++ heldList n s) := by
  have hc := conservation hcap h
  have e : inflightList n m s = [] := by
    apply List.eq_nil_of_length_eq_zero
    rw [← wsum_one, wsum_inflightList, inflight_quiescent hq]
  rw [e, List.append_nil] at hc
  exact hc

theorem global_nonempty (hcap : 0 < cap) (h : Reachable n m cap s) (q : List Nat) (hq : q ∈ s.global) : q ≠ [] :=
  (reachable_inv hcap h).str.q.gne q hq

/-- **C19 (4)** the `blocks.pop().unwrap()` in `pop` cannot panic. -/
theorem pop_never_panics (hcap : 0 < cap) (h : Reachable n m cap s) (gs : List (List Nat)) : s.global ≠ [] :: gs := by
  intro e
  exact global_nonempty hcap h [] (by rw [e]; exact List.mem_cons_self) rfl

/-- the `debug_assert!` in `pop` -/
theorem install_over_empty_head (hcap : 0 < cap) (h : Reachable n m cap s) (p b : Nat) (r : List Nat) (hp : p < m)
    (hpc : s.pcP p = .install b r) : s.head = none ∨ s.head = some [] :=
  (reachable_inv hcap h).str.k.emptyHead p hp (Or.inr ⟨b, r, hpc⟩)

/-- the upgradeable read lock serialises the poppers -/
theorem head_lock_exclusive (hcap : 0 < cap) (h : Reachable n m cap s) (p q : Nat) (hp : p < m) (hq : q < m)
    (h1 : holdsHead (s.pcP p) = true) (h2 : holdsHead (s.pcP q) = true) : p = q :=
  (reachable_inv hcap h).str.k.lock.unique hp hq h1 h2

/-- **C19 (tie)** the first two conjuncts of `raceOk`, the executable verdict on real-thread histories
(`Model/BlockPoolTie.lean`): at quiescence, if the blocks pushed were `0 … N-1` (each once, in any order by
any workers), the popped and the held blocks partition them (`partitionOk`) and `len()` is the number held. -/
theorem race_outcome_sound (hcap : 0 < cap) (h : Reachable n m cap s) (hq : Quiescent n m s) (N : Nat)
    (hp : s.pushed.Perm (List.range N)) :
    partitionOk N s.popped (heldList n s) = true ∧ s.count = (heldList n s).length := by
  refine ⟨?_, len_exact hcap h hq⟩
  have perm := (conservation_quiescent hcap h hq).symm.trans hp
  unfold partitionOk
  simp only [Bool.and_eq_true, beq_iff_eq, List.all_eq_true, List.mem_range]
  refine ⟨by rw [perm.length_eq, List.length_range], ?_⟩
  intro b hb
  rw [perm.count_eq b, List.count_range]; simp [hb]

theorem locks_free (hcap : 0 < cap) (h : Reachable n m cap s) (hq : Quiescent n m s) :
    s.headLock = none ∧ s.globalLock = none :=
  have idle : ∀ (hold : PPC → Bool), hold .idle = false → ∀ p, p < m → hold (s.pcP p) = false :=
    fun _ h0 p hp => by rw [hq.2.1 p hp]; exact h0
  ⟨(reachable_inv hcap h).str.k.lock.free (idle _ rfl), (reachable_gl h).free (idle _ rfl)⟩

theorem reachable_step (h : Reachable n m cap s) (a : Act) : Reachable n m cap (step n m cap s a) := by
  obtain ⟨run, rfl⟩ := h
  refine ⟨run ++ [a], ?_⟩
  have : ∀ (t : State), exec n m cap t (run ++ [a]) = step n m cap (exec n m cap t run) a := by
    induction run with
    | nil => intro t; rfl
    | cons x rest ih => intro t; exact ih _
  exact (this init).symm

theorem reachable_runP (p k : Nat) : ∀ {s : State}, Reachable n m cap s → Reachable n m cap (runP n m cap p k s) := by
  induction k with
  | zero => intro s h; exact h
  | succ k ih =>
    intro s h
    simp only [runP]
    split
    · exact h
    · exact ih (reachable_step h _)

theorem reachable_runF (k : Nat) : ∀ {s : State}, Reachable n m cap s → Reachable n m cap (runF n m cap k s) := by
  induction k with
  | zero => intro s h; exact h
  | succ k ih =>
    intro s h
    simp only [runF]
    split
    · exact h
    · exact ih (reachable_step h _)

theorem reachable_popSeq (h : Reachable n m cap s) (p : Nat) : Reachable n m cap (popSeq n m cap s p) :=
  reachable_runP p 12 (reachable_step h _)  -- 12: the fuel in `popSeq`; the longest path of `pop` has 9 steps

theorem reachable_flushSeq (h : Reachable n m cap s) : Reachable n m cap (flushSeq n m cap s) :=
  reachable_runF _ (reachable_step h _)

structure PopDone (m : Nat) (s s' : State) (b : Nat) : Prop where
  rets : s'.rets = some b :: s.rets
  popped : s'.popped = b :: s.popped
  pushed : s'.pushed = s.pushed
  count : s'.count = s.count - 1
  idle : ∀ q, q < m → s'.pcP q = .idle
  locals : s'.locals = s.locals
  pcW : s'.pcW = s.pcW
  pcF : s'.pcF = s.pcF

theorem runP_frame (n m cap p : Nat) : ∀ (k : Nat) (s : State), PFrame p s (runP n m cap p k s)
  | 0, s => .refl p s
  | k + 1, s => by
    simp only [runP]
    split
    · exact .refl p s
    · exact (step_pop_frame n m cap s p).trans (runP_frame n m cap p k _)

/-- `PopDone`/`FlushDone` say what a completed sequential `pop()`/`flush_all()` did; `popAll` repeats `pop()`,
`drain` is its induction.  A caller of `of_run` computes the four fields the call writes (`ev`) by evaluating
its path; the frame of the run (`PFrame`) gives the other four.  12 is the fuel of `popSeq`. -/
theorem PopDone.of_run {n m cap p b : Nat} {s : State} (hidle : ∀ q, q < m → s.pcP q = .idle)
    (ev : (popSeq n m cap s p).rets = some b :: s.rets ∧ (popSeq n m cap s p).popped = b :: s.popped ∧
      (popSeq n m cap s p).count = s.count - 1 ∧ (popSeq n m cap s p).pcP p = .idle) :
    PopDone m s (popSeq n m cap s p) b := by
  have f : PFrame p s (popSeq n m cap s p) := (step_pop_frame n m cap s p).trans (runP_frame n m cap p 12 _)
  refine ⟨ev.1, ev.2.1, f.pushed, ev.2.2.1, fun q hq => ?_, f.locals, f.pcW, f.pcF⟩
  by_cases hqp : q = p
  · rw [hqp]; exact ev.2.2.2
  · rw [f.others q hqp]; exact hidle q hq

/-- At quiescence, with the worker-local queues empty (e.g. after `flush_all`) and `len() > 0`,
a `pop` returns a block. -/
theorem pop_succeeds (hcap : 0 < cap) (h : Reachable n m cap s) (hq : Quiescent n m s)
    (hloc : ∀ i, i < n → s.locals i = []) (hc : s.count ≠ 0) (p : Nat) (hp : p < m) :
    ∃ b, PopDone m s (popSeq n m cap s p) b := by
  obtain ⟨hl, hgl⟩ := locks_free hcap h hq
  have hi := hq.2.1 p hp
  rcases headEmpty_or s.head with he | ⟨b, rest, hh⟩
  · have hlen := len_exact hcap h hq
    rw [heldList, List.flatMap_eq_nil_iff.2 fun i hi => hloc i (List.mem_range.1 hi), getD_headEmpty he] at hlen
    match hg : s.global with
    | [] => rw [hg] at hlen; exact absurd hlen hc
    | [] :: gs => exact absurd hg (pop_never_panics hcap h gs)
    | (b :: rest) :: gs =>
      -- head empty: both locks, a queue from `global`, its first block
      refine ⟨b, .of_run hq.2.1 ?_⟩
      rcases he with he | he <;> simp [popSeq, runP, step, stepP, setP, hp, hi, hc, hl, hgl, he, hg]
  · exact ⟨b, .of_run hq.2.1 (by simp [popSeq, runP, step, stepP, setP, hp, hi, hc, hl, hh])⟩

def popAll (n m cap p : Nat) : Nat → State → State
  | 0, s => s
  | k + 1, s => popAll n m cap p k (popSeq n m cap s p)

theorem drain (hcap : 0 < cap) (p : Nat) (hp : p < m) : ∀ (k : Nat) (t : State), Reachable n m cap t → Quiescent n m t →
    (t.count ≠ 0 → ∀ i, i < n → t.locals i = []) → t.count = k →
    Reachable n m cap (popAll n m cap p k t) ∧ Quiescent n m (popAll n m cap p k t) ∧
    (popAll n m cap p k t).count = 0 ∧ (popAll n m cap p k t).popped.length = t.popped.length + k ∧
    (popAll n m cap p k t).pushed = t.pushed := by
  intro k
  induction k with
  | zero => intro t h hq _ hc; exact ⟨h, hq, hc, rfl, rfl⟩
  | succ k ih =>
    intro t h hq hloc hc
    have hloc := hloc (by omega)
    obtain ⟨b, d⟩ := pop_succeeds hcap h hq hloc (by omega) p hp
    have hq' : Quiescent n m (popSeq n m cap t p) := ⟨by rw [d.pcW]; exact hq.1, d.idle, by rw [d.pcF]; exact hq.2.2⟩
    have := ih (popSeq n m cap t p) (reachable_popSeq h p) hq' (by rw [d.locals]; exact fun _ => hloc) (by rw [d.count]; omega)
    refine ⟨this.1, this.2.1, this.2.2.1, ?_, ?_⟩
    · rw [popAll, this.2.2.2.1, d.popped, List.length_cons]; omega
    · rw [popAll, this.2.2.2.2, d.pushed]

theorem runF_idle {k : Nat} {t : State} (h : t.pcF = .idle) : runF n m cap k t = t := by
  cases k with
  | zero => rfl
  | succ k => rw [runF, if_pos h]

theorem runF_busy {k : Nat} {t : State} (hk : 0 < k) (h : t.pcF ≠ .idle) :
    runF n m cap k t = runF n m cap (k - 1) (step n m cap t .flush) := by
  cases k with
  | zero => omega
  | succ k => rw [runF, if_neg h]; rfl

theorem runF_frame (n m cap : Nat) : ∀ (k : Nat) (s : State),
    ∃ g l pf, runF n m cap k s = { s with global := g, locals := l, pcF := pf } := by
  intro k
  induction k with
  | zero => exact fun s => ⟨_, _, _, rfl⟩
  | succ k ih =>
    intro s
    simp only [runF]
    split
    · exact ⟨_, _, _, rfl⟩
    · obtain ⟨g, l, pf, e⟩ := ih (step n m cap s .flush)
      obtain ⟨g', l', pf', e'⟩ : ∃ g l pf, step n m cap s .flush = _ := stepF_shape n s
      exact ⟨g, l, pf, by rw [e, e']⟩

structure FlushDone (n : Nat) (t t' : State) : Prop where
  idle : t'.pcF = .idle
  locals : ∀ j, j < n → t'.locals j = []
  pcW : t'.pcW = t.pcW
  pcP : t'.pcP = t.pcP
  count : t'.count = t.count
  pushed : t'.pushed = t.pushed
  popped : t'.popped = t.popped

theorem FlushDone.of_run {n m cap k : Nat} {t : State} (hidle : (runF n m cap k t).pcF = .idle)
    (hloc : ∀ j, j < n → (runF n m cap k t).locals j = []) : FlushDone n t (runF n m cap k t) := by
  obtain ⟨g, l, pf, e⟩ := runF_frame n m cap k t
  exact ⟨hidle, hloc, by rw [e], by rw [e], by rw [e], by rw [e], by rw [e]⟩

/-- The loop of `flush_all` from index `i` on, with the global lock free: two steps per non-empty
local queue, one per empty one, one to leave. -/
theorem flush_loop (n m cap : Nat) : ∀ (d i : Nat) (t : State), i + d = n → t.pcF = .at i → t.globalLock = none →
    (∀ j, j < i → t.locals j = []) → ∀ k, 2 * d + 1 ≤ k →
    (runF n m cap k t).pcF = .idle ∧ ∀ j, j < n → (runF n m cap k t).locals j = [] := by
  intro d
  induction d with
  | zero =>
    intro i t hi hpc _ hloc k hk
    rw [runF_busy (by omega) (by rw [hpc]; nofun)]
    simp only [step, stepF, hpc, if_neg (show ¬ i < n by omega)]
    rw [runF_idle rfl]
    exact ⟨rfl, fun j hj => hloc j (by omega)⟩
  | succ d ih =>
    intro i t hi hpc hgl hloc k hk
    have hin : i < n := by omega
    rw [runF_busy (by omega) (by rw [hpc]; nofun)]
    by_cases hl : t.locals i = []
    · simp only [step, stepF, hpc, if_pos hin, if_pos hl]
      exact ih (i + 1) { t with pcF := .at (i + 1) } (by omega) rfl hgl
        (fun j hj => by by_cases e : j = i; rw [e]; exact hl; exact hloc j (by omega)) (k - 1) (by omega)
    · simp only [step, stepF, hpc, if_pos hin, if_neg hl]
      rw [runF_busy (by omega) (by intro h; cases h)]
      simp only [step, stepF, if_pos hgl]
      refine ih (i + 1) { t with locals := setL t i [], global := t.locals i :: t.global, pcF := .at (i + 1) }
        (by omega) rfl hgl (fun j hj => ?_) (k - 1 - 1) (by omega)
      simp only [setL]
      split
      · rfl
      · exact hloc j (by omega)

/-- `flush_all` at quiescence: returns, leaves every worker-local queue empty (if `len() > 0`;
otherwise it returns at once — then nothing is held at all), and changes neither `len()` nor `pushed`, `popped`. -/
theorem flush_done (hcap : 0 < cap) (h : Reachable n m cap s) (hq : Quiescent n m s) :
    let s' := flushSeq n m cap s
    Quiescent n m s' ∧ s'.count = s.count ∧ s'.pushed = s.pushed ∧ s'.popped = s.popped ∧
    (s.count ≠ 0 → ∀ j, j < n → s'.locals j = []) := by
  have hlocks := locks_free hcap h hq
  have hwi : workersIdle n s = true := by
    simp only [workersIdle, List.all_eq_true, List.mem_range]
    intro i hi; rw [hq.1 i hi]; rfl
  by_cases hc : s.count = 0
  · have e : step n m cap s .flush = s := by simp [step, stepF, hq.2.2, hc]
    simp only [flushSeq, e, runF_idle hq.2.2]
    exact ⟨hq, trivial, trivial, trivial, fun h => absurd hc h⟩
  · have e : step n m cap s .flush = { s with pcF := .at 0 } := by simp [step, stepF, hq.2.2, hc, hwi]
    simp only [flushSeq, e]
    have lp := flush_loop n m cap n 0 { s with pcF := .at 0 } (by omega) rfl hlocks.2 (by intro j hj; omega) (2 * n + 2) (by omega)
    have this := FlushDone.of_run lp.1 lp.2
    refine ⟨⟨?_, ?_, this.idle⟩, this.count, this.pushed, this.popped, fun _ => this.locals⟩
    · rw [this.pcW]; exact hq.1
    · rw [this.pcP]; exact hq.2.1

/-- **C19 (5) `flush_makes_poppable`.** From any quiescent reachable state (no thread inside a call):
`flush_all` leaves `len()` unchanged; `len()` successive `pop`s by one popper then add `len()` blocks to
`popped` and leave `count = 0` and no block held; as multisets, the popped blocks are exactly the blocks
popped before plus all the blocks that were held — every held block was poppable. -/
theorem flush_makes_poppable (hcap : 0 < cap) (h : Reachable n m cap s) (hq : Quiescent n m s) (p : Nat) (hp : p < m) :
    let s1 := flushSeq n m cap s
    let s2 := popAll n m cap p s1.count s1
    s1.count = s.count ∧ s2.popped.length = s.popped.length + s.count ∧ s2.count = 0 ∧ heldList n s2 = [] ∧
    s2.popped.Perm (s.popped ++ heldList n s) := by
  obtain ⟨hq1, hc1, hpu1, hpo1, hloc1⟩ := flush_done hcap h hq
  have hr1 := reachable_flushSeq (n := n) (m := m) (cap := cap) h
  obtain ⟨hr2, hq2, hc2, hl2, hpu2⟩ := drain hcap p hp _ _ hr1 hq1 (fun hc => hloc1 (hc1 ▸ hc)) rfl
  have hheld : heldList n (popAll n m cap p (flushSeq n m cap s).count (flushSeq n m cap s)) = [] := by
    have := len_exact hcap hr2 hq2
    rw [hc2] at this
    exact List.eq_nil_of_length_eq_zero this.symm
  refine ⟨hc1, by rw [hl2, hpo1, hc1], hc2, hheld, ?_⟩
  have c2 := conservation_quiescent hcap hr2 hq2
  rw [hheld, List.append_nil, hpu2, hpu1] at c2
  exact c2.symm.trans (conservation_quiescent hcap h hq)

/-- Worker 0 pushes 0,1,2, worker 1 pushes 10; worker 0 overflows its queue of capacity 2 (the full queue
goes to `global`); then a popper takes a queue from `global` and installs the rest as head; then the
flusher flushes.  The state is reachable by definition. -/
example :
    let s := exec 2 1 2 init
      [.push 0 0, .w 0, .push 1 10, .push 0 1, .w 0, .w 1, .push 0 2, .w 0, .w 0,
       .pop 0, .pop 0, .pop 0, .pop 0, .pop 0, .pop 0, .pop 0, .pop 0, .pop 0,
       .flush, .flush, .flush, .flush, .flush, .flush]
    s.count = 3 ∧ s.head = some [0] ∧ s.global = [[10], [2]] ∧ s.popped = [1] ∧ s.pcF = .idle ∧
    s.locals 0 = [] ∧ s.locals 1 = [] := by
  decide

/-- a state in flight: worker 0 holds its full old queue, the popper holds a block and the head lock -/
example :
    let s := exec 1 2 1 init [.push 0 5, .w 0, .push 0 6, .w 0, .w 0, .push 0 7, .w 0, .pop 0, .pop 0, .pop 0, .pop 0, .pop 0, .pop 0]
    s.pcW 0 = .pushGlobal [6] ∧ s.pcP 0 = .install 5 [] ∧ s.headLock = some 0 ∧ s.count = 3 ∧
    inflightList 1 2 s = [6, 5] ∧ heldList 1 s = [7] := by
  decide

end Mmtk.BlockPool
