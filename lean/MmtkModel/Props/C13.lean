import MmtkModel.Props.C15Stages  -- `checks/C13.py` audits `open_only_when_quiescent` through this module; the proofs need `Lemmas.Sched` only
/-!
# C13 (ordering part) — VM weak-reference rounds run only after the closure is complete

`VMProcessWeakRefs` is the *sentinel* of the `VMRefClosure` bucket (`schedule_common_work`); when
`process_weak_refs` returns `true` the packet installs itself as the sentinel again
(`plan/tracing/gc_work/weakref.rs`).  In the model (`Model/Sched.lean`) a sentinel is a packet parked in
`Bucket.sentinel`; it becomes runnable only through `maybe_schedule_sentinel`.

* `sentinel_only_when_drained` — a sentinel leaves its slot only in the `park` transition of the last
  parked worker, with every other worker parked, a Gc goal current, **every open ∧ enabled bucket
  empty and no designated work** (`assert_all_open_buckets_are_empty`, `has_designated_work`) — i.e.
  after everything that was runnable, including the transitive closure spawned from earlier stages and
  from the previous round of the same sentinel, has finished.  Every other action keeps the slot or
  fills an empty one.
* together with C15 (`open_only_when_quiescent`: the sentinel's own bucket was opened only after all
  earlier enabled stages were empty) this is "weak-reference processing runs after the closure"; "it repeats until
  `process_weak_refs` returns false" is the same theorem applied to the re-installed sentinel
  (`sentinel_installed_by_packet`).
* "objects it traced survive with updated addresses" and "`forward_weak_refs` is called once iff the
  plan forwards after liveness" are checked on real GCs by the monitor / oracle
  (`gc:weak-before-closure`, `gc:weak-after-false`, `gc:weak-not-finished`, `gc:forward-weak-count`);
  they are statements about concrete packets the abstract-packet model cannot name.
-/
namespace Mmtk.Sched

theorem sentinel_only_when_drained {c : Cfg} {s s' : State} {a : Act} (hr : Reachable c s)
    (hs : step c s a = some s') (b : Nat) (p : Pkt) (h1 : (s.bkt b).sentinel = some p)
    (h2 : (s'.bkt b).sentinel ≠ some p) :
    ∃ w tag, a = .park w tag ∧ w < c.n ∧ s.pc w = .parking ∧
      (∀ x, x < c.n → x ≠ w → (s.pc x).isParked = true) ∧
      s.current = some .gc ∧ allOpenEmpty c s = true ∧ hasDesignated c s = false := by
  have hA := reachable_invA hr
  rcases step_other_sentinel c s s' a hs with ⟨w, tag, rfl⟩ | hsame
  · obtain ⟨hw, hpc, hcase⟩ := step_park_eff hs
    refine ⟨w, tag, rfl, hw, hpc, ?_⟩
    rcases hcase with ⟨_, rfl⟩ | ⟨hlast, s1, r, pcs, k, hl, _, rfl⟩
    · exact absurd h1 h2
    · have hne : (s1.bkt b).sentinel ≠ (s.bkt b).sentinel := by
        intro e; apply h2; show (s1.bkt b).sentinel = _; rw [e, h1]
      obtain ⟨g1, g2, g3⟩ := onLastParked_sentinel c _ s1 tag r hl b hne
      exact ⟨others_parked_when_last hA hw hpc hlast, g1, g2, g3⟩
  · rcases hsame b with e | e
    · rw [e, h1] at h2; exact absurd rfl h2
    · rw [h1] at e; cases e

/-- a sentinel is installed only by a running packet, and in the model only into an empty slot (the guard of `setSentinel`;
`WorkBucket::set_sentinel` itself overwrites); together with `sentinel_only_when_drained`: each installed sentinel is
scheduled at most once. -/
theorem sentinel_installed_by_packet {c : Cfg} {s s' : State} {w b tag : Nat} (hs : step c s (.setSentinel w b tag) = some s') :
    (s.pc w).isExec = true ∧ (s.bkt b).sentinel = none ∧ (s'.bkt b).sentinel = some (newPkt s b tag) := by
  obtain ⟨hg, e⟩ := Option.ite_none_right_eq_some.1 hs; cases e
  exact ⟨hg.2.1, hg.2.2.2, congrArg Bucket.sentinel (if_pos rfl)⟩

end Mmtk.Sched
