import MmtkModel.Lemmas.SideFind
/-!
# C22 — Side-metadata search and scan agree with a naive scan

For a general `MapEnv`: the word-at-a-time scan and the two word-at-a-time searches return what the
region-by-region versions return (`scan_fast_eq_naive`, `findNext_fast_eq_simple`, `findPrev_fast_eq_simple`), both
are characterised (`scan_spec`, `findNext_spec`, `findPrev_spec`), and the public entries never trip their
`assert_eq!(fast, naive)` (`scan_public_spec`, `findNext_public`, `findPrev_public`).
The backward theorems are about `findPrevFast`, whose quick check applies the limit. `findPrevFastOld` is
`find_prev_non_zero_value_fast` before the `fix:` commit of mmtk-core that added that test; the last section shows
where it disagrees with the naive search (`findPrev_own_region_defect`: mapped origin, `limit ≤ a mod region`; with
a `decide` witness) and that it agrees when the own region's start is inside the limit or its field is zero
(`findPrevOld_fast_eq_simple`). The two cases do not exhaust the inputs: `a = 5`, `limit = 7`, 8-byte regions, own
field non-zero is in neither (`a - limit` saturates), and there `findPrevFastOld` and the naive search differ.

Hypotheses of the search theorems (each set has an `example` with a non-trivial instance: an unmapped data
chunk inside the searched range):
  `env.ok` (granule = positive multiple of 8, mapped-ness per granule), `2^logRegion ∣ gran`, `s.ok`,
  `ByteMem m`, table start aligned to the field size (`s.start % 2^(logBits-3) = 0`), `logBits ≤ logRegion` for
  sub-byte fields (the code computes `log_bytes_in_region - log_num_of_bits` on `usize`), `0 < limit`,
  `MapConsistent env s m lo hi dir` on the searched regions (`Lemmas/SideFind.lean`: a mapped data region has
  mapped metadata; at and behind an unmapped data region every readable metadata bit is zero);
  forward: `0 < s.start`, `alignUp (a+limit) R < 2^64`, and for fast = naive `mapped a ∨ R ≤ a` — the naive loop
  never asks whether address 0 is mapped (`findNext_region0_witness` shows the model needs it);
  backward: `0 < a`, `a + 1 < 2^64`, `metaAddr s a < 2^64 - 1` (the loops' caches start at `usize::MAX`).
  Scans: 1-bit spec for the fast path, region-aligned `start ≤ end < 2^64`, and in a debug build the visited region
  starts mapped.

Idea of the proofs: every range finder is the first stop, in visiting order, over the bit positions of its range
(`firstHit`); `break_bit_range` tiles the fields of the searched regions (`meta_tiles`), so the fast search is the
first stop over all their bits; under `MapConsistent` that is the first stop over the regions (`regionHit`), which
is also what the naive loop computes. Scans are the same with "all set bits" (`ScanOk`) in place of "first stop".

Outside the property's scope there are `decide`-checked counter-models (no `MapConsistent`, stated for
`findPrevFastOld` on an input where it equals `findPrevFast`; region-unaligned scan end). The theorems are
additionally tied to the code by the exact differential of all three variants (fast / naive / public with the debug
build's own `assert_eq!(fast, naive)`) and the independent naive-scan oracle of `checks/C22.py`.
-/
namespace Mmtk.SideMeta
open Mmtk.Mem
open Mmtk.HeaderMeta (ByteMem)

theorem ctzF_spec (f n : Nat) (h0 : n ≠ 0) (hlt : n < 2 ^ f) :
    n.testBit (ctzF f n) = true ∧ ∀ i, i < ctzF f n → n.testBit i = false := by
  induction f generalizing n with
  | zero => simp at hlt; omega
  | succ f ih =>
    unfold ctzF
    by_cases h : n % 2 = 1
    · simp only [h, if_true]
      exact ⟨by simp [Nat.testBit_zero, h], fun i hi => by omega⟩
    · simp only [h, if_false]
      have hn2 : n / 2 ≠ 0 := by omega
      have hl2 : n / 2 < 2 ^ f := by rw [Nat.pow_succ] at hlt; omega
      obtain ⟨a, b⟩ := ih (n / 2) hn2 hl2
      refine ⟨?_, ?_⟩
      · rw [Nat.add_comm, Nat.testBit_succ]; exact a
      · intro i hi
        cases i with
        | zero => simp [Nat.testBit_zero]; omega
        | succ j => rw [Nat.testBit_succ]; exact b j (by omega)

/-- **`trailing_zeros`**: the selected bit is set and is the lowest set bit. -/
theorem ctz_spec (n : Nat) (h0 : n ≠ 0) (hlt : n < 2 ^ 64) :
    n.testBit (ctz n) = true ∧ ∀ i, i < ctz n → n.testBit i = false := ctzF_spec 64 n h0 hlt

theorem log2F_spec (f n : Nat) (h0 : n ≠ 0) (hlt : n < 2 ^ f) :
    n.testBit (log2F f n) = true ∧ ∀ i, log2F f n < i → n.testBit i = false := by
  induction f generalizing n with
  | zero => simp at hlt; omega
  | succ f ih =>
    unfold log2F
    by_cases h : n < 2
    · have : n = 1 := by omega
      subst this
      simp only [h, if_true]
      refine ⟨by decide, fun i hi => ?_⟩
      exact Nat.testBit_lt_two_pow (Nat.lt_of_lt_of_le (by decide : 1 < 2 ^ 1) (Nat.pow_le_pow_right (by omega) hi))
    · simp only [h, if_false]
      have hn2 : n / 2 ≠ 0 := by omega
      have hl2 : n / 2 < 2 ^ f := by rw [Nat.pow_succ] at hlt; omega
      obtain ⟨a, b⟩ := ih (n / 2) hn2 hl2
      refine ⟨?_, ?_⟩
      · rw [Nat.add_comm, Nat.testBit_succ]; exact a
      · intro i hi
        cases i with
        | zero => omega
        | succ j => rw [Nat.testBit_succ]; exact b j (by omega)

/-- **`bits − leading_zeros − 1`**: the selected bit is set and is the highest set bit. -/
theorem hiBit_spec (n : Nat) (h0 : n ≠ 0) (hlt : n < 2 ^ 64) :
    n.testBit (hiBit n) = true ∧ ∀ i, hiBit n < i → n.testBit i = false := log2F_spec 64 n h0 hlt

/-- the mask of `find_*_non_zero_bit::<T>(_, start, end)` selects exactly the bits `start ≤ i < end`. -/
theorem testBit_rangeMask (tb st en i : Nat) (h1 : st ≤ en) (h2 : en ≤ tb) :
    (rangeMask tb st en).testBit i = (decide (st ≤ i) && decide (i < en)) := by
  unfold rangeMask
  by_cases h : en - st < tb
  · simp only [h, if_true]
    rw [Nat.testBit_mod_two_pow, Nat.testBit_shiftLeft, Nat.testBit_two_pow_sub_one]
    by_cases a : st ≤ i <;> by_cases b : i < en <;> simp [a, b] <;> omega
  · simp only [h, if_false]
    have e1 : st = 0 := by omega
    have e2 : en = tb := by omega
    subst e1; subst e2
    rw [Nat.testBit_mod_two_pow, Nat.testBit_shiftLeft, Nat.testBit_two_pow_sub_one]
    by_cases b : i < en <;> simp [b]

theorem masked_lt (tb v st en : Nat) (htb : tb ≤ 64) : v &&& rangeMask tb st en < 2 ^ 64 := by
  apply Nat.lt_of_le_of_lt Nat.and_le_right
  have : rangeMask tb st en < 2 ^ tb := by
    unfold rangeMask; split <;> exact Nat.mod_lt _ (Nat.two_pow_pos _)
  exact Nat.lt_of_lt_of_le this (Nat.pow_le_pow_right (by omega) htb)

theorem masked_clear {tb v st en i : Nat} (h1 : st ≤ en) (h2 : en ≤ tb) (hi1 : st ≤ i) (hi2 : i < en)
    (h : (v &&& rangeMask tb st en).testBit i = false) : v.testBit i = false := by
  rw [Nat.testBit_and, testBit_rangeMask tb st en i h1 h2, decide_eq_true hi1, decide_eq_true hi2] at h
  simpa using h

/-- **`find_first_non_zero_bit`** returns the lowest set bit of `value` inside `[start, end)`, or
`None` iff there is none. -/
theorem findFirstBit_spec (tb v st en : Nat) (h1 : st ≤ en) (h2 : en ≤ tb) (htb : tb ≤ 64) :
    match findFirstBit tb v st en with
    | some b => st ≤ b ∧ b < en ∧ v.testBit b = true ∧ ∀ i, st ≤ i → i < b → v.testBit i = false
    | none => ∀ i, st ≤ i → i < en → v.testBit i = false := by
  unfold findFirstBit
  by_cases h0 : v &&& rangeMask tb st en = 0
  · simp only [h0, if_true]
    exact fun i hi1 hi2 => masked_clear h1 h2 hi1 hi2 (by rw [h0]; exact Nat.zero_testBit i)
  · simp only [h0, if_false]
    obtain ⟨a, b⟩ := ctz_spec _ h0 (masked_lt tb v st en htb)
    rw [Nat.testBit_and, testBit_rangeMask tb st en _ h1 h2] at a
    simp only [Bool.and_eq_true, decide_eq_true_eq] at a
    exact ⟨a.2.1, a.2.2, a.1, fun i hi1 hi2 => masked_clear h1 h2 hi1 (by omega) (b i hi2)⟩

/-- **`find_last_non_zero_bit`** returns the highest set bit of `value` inside `[start, end)`, or
`None` iff there is none. -/
theorem findLastBit_spec (tb v st en : Nat) (h1 : st ≤ en) (h2 : en ≤ tb) (htb : tb ≤ 64) :
    match findLastBit tb v st en with
    | some b => st ≤ b ∧ b < en ∧ v.testBit b = true ∧ ∀ i, b < i → i < en → v.testBit i = false
    | none => ∀ i, st ≤ i → i < en → v.testBit i = false := by
  unfold findLastBit
  by_cases h0 : v &&& rangeMask tb st en = 0
  · simp only [h0, if_true]
    exact fun i hi1 hi2 => masked_clear h1 h2 hi1 hi2 (by rw [h0]; exact Nat.zero_testBit i)
  · simp only [h0, if_false]
    obtain ⟨a, b⟩ := hiBit_spec _ h0 (masked_lt tb v st en htb)
    rw [Nat.testBit_and, testBit_rangeMask tb st en _ h1 h2] at a
    simp only [Bool.and_eq_true, decide_eq_true_eq] at a
    exact ⟨a.2.1, a.2.2, a.1, fun i hi1 hi2 => masked_clear h1 h2 (by omega) hi2 (b i hi1)⟩

/-- `word & (word - 1)` clears the lowest set bit `c`, i.e. keeps exactly the bits above it. Bit by bit: an odd `w` loses
bit 0 and nothing else; an even one borrows, `(w - 1) / 2 = w / 2 - 1`, and the rest is the same statement about `w / 2`. -/
theorem testBit_clear_lowest (w c : Nat) (hc : w.testBit c = true) (hlow : ∀ i, i < c → w.testBit i = false) (i : Nat) :
    (w &&& (w - 1)).testBit i = (decide (c < i) && w.testBit i) := by
  rw [Nat.testBit_and]
  induction c generalizing w i with
  | zero =>
    have hodd : w % 2 = 1 := by simpa [Nat.testBit_zero] using hc
    cases i with
    | zero => simp [Nat.testBit_zero]; omega
    | succ j => rw [Nat.testBit_succ, Nat.testBit_succ, show (w - 1) / 2 = w / 2 by omega]; simp
  | succ c ih =>
    have hev : w % 2 = 0 := by simpa [Nat.testBit_zero] using hlow 0 (Nat.succ_pos c)
    cases i with
    | zero => simp [Nat.testBit_zero, hev]
    | succ j =>
      rw [Nat.testBit_succ, Nat.testBit_succ, show (w - 1) / 2 = w / 2 - 1 by omega,
        ih (w / 2) (by rwa [← Nat.testBit_succ]) (fun i hi => by rw [← Nat.testBit_succ]; exact hlow (i + 1) (by omega))]
      simp

theorem scanWord_eq (ma N : Nat) (hN : N ≤ 64) : ∀ fuel word k, (∀ i, i < k → word.testBit i = false) →
    word < 2 ^ N → N ≤ fuel + k →
    scanWord ma fuel word = ((up k N).filter (fun i => word.testBit i)).map (fun i => (ma, i)) := by
  intro fuel
  induction fuel with
  | zero =>
    intro word k _ _ hf
    rw [up, show N - k = 0 by omega]; rfl
  | succ f ih =>
    intro word k hlow hlt hf
    simp only [scanWord]
    by_cases h0 : word = 0
    · subst h0; simp
    · simp only [h0, if_false]
      obtain ⟨hc, hb⟩ := ctz_spec word h0 (Nat.lt_of_lt_of_le hlt (Nat.pow_le_pow_right (by omega) hN))
      generalize ctz word = c at hc hb ⊢
      have hck : k ≤ c := Nat.le_of_not_lt fun h => by rw [hlow c h] at hc; cases hc
      have hcN : c < N := Nat.lt_of_not_le fun h => by
        rw [Nat.testBit_lt_two_pow (Nat.lt_of_lt_of_le hlt (Nat.pow_le_pow_right (by omega) h))] at hc; cases hc
      have hclr := testBit_clear_lowest word c hc hb
      rw [ih (word &&& (word - 1)) (c + 1) (fun i hi => by rw [hclr i, decide_eq_false (by omega)]; rfl)
        (Nat.lt_of_le_of_lt Nat.and_le_left hlt) (by omega)]
      rw [← up_append hck (Nat.le_of_lt hcN), up_cons hcN, List.filter_append, List.filter_cons]
      have e1 : (up k c).filter (fun i => word.testBit i) = [] :=
        List.filter_eq_nil_iff.2 (fun i hi => by simp [hb i (mem_up.1 hi).2])
      have e2 : (up (c + 1) N).filter (fun i => (word &&& (word - 1)).testBit i) =
          (up (c + 1) N).filter (fun i => word.testBit i) :=
        List.filter_congr (fun i hi => by rw [hclr i, decide_eq_true (show c < i from (mem_up.1 hi).1)]; rfl)
      rw [e1, e2, hc]; rfl

theorem testBit_readLE8 (m : Mem) (hm : ByteMem m) (c i : Nat) (hi : i < 64) :
    (readLE m c 8).testBit i = bitAt m (8 * c + i) := by
  rw [HeaderMeta.testBit_readLE m hm]
  have h1 : (8 * c + i) / 8 = c + i / 8 := by omega
  have h2 : (8 * c + i) % 8 = i % 8 := by omega
  have h3 : i < 8 * 8 := by omega
  unfold bitAt
  rw [h1, h2]; simp [h3]

theorem readLE8_lt (m : Mem) (hm : ByteMem m) (c : Nat) : readLE m c 8 < 2 ^ 64 := by
  exact (show (256 : Nat) ^ 8 = 2 ^ 64 by decide) ▸ HeaderMeta.readLE_lt m hm c 8

theorem scanWord_byte_ok (m : Mem) (hm : ByteMem m) (a : Nat) : ScanOk m (8 * a) (8 * (a + 1)) (scanWord a 8 (m a)) := by
  rw [scanWord_eq a 8 (by omega) 8 (m a) 0 (fun i hi => by omega) (hm a) (by omega)]
  exact scanOk_bits m a 0 8 _ (by omega) (by omega) (fun i _ hi => (bitAt_mk m a i hi).symm)

theorem scanWord_word_ok (m : Mem) (hm : ByteMem m) (a : Nat) :
    ScanOk m (8 * a) (8 * (a + 8)) (scanWord a 64 (readLE m a 8)) := by
  rw [scanWord_eq a 64 (by omega) 64 _ 0 (fun i hi => by omega) (readLE8_lt m hm a) (by omega)]
  exact scanOk_bits m a 0 64 _ (by omega) (by omega) (fun i _ hi => testBit_readLE8 m hm a i hi)

theorem scanHead_ok (m : Mem) (hm : ByteMem m) (E : Nat) : ∀ fuel cursor, cursor ≤ E →
    cursor ≤ (scanHead m E fuel cursor).2 ∧ (scanHead m E fuel cursor).2 ≤ E ∧
    ScanOk m (8 * cursor) (8 * (scanHead m E fuel cursor).2) (scanHead m E fuel cursor).1 := by
  intro fuel
  induction fuel with
  | zero => intro c hc; simp only [scanHead]; exact ⟨Nat.le_refl _, hc, scanOk_nil m _⟩
  | succ f ih =>
    intro c hc
    simp only [scanHead]
    by_cases h : c < E ∧ c % 8 ≠ 0
    · rw [if_pos h]
      obtain ⟨h1, h2, h3⟩ := ih (c + 1) (by omega)
      exact ⟨by omega, h2, scanOk_append m (by omega) (by omega) (scanWord_byte_ok m hm c) h3⟩
    · rw [if_neg h]
      exact ⟨Nat.le_refl _, hc, scanOk_nil m _⟩

theorem scanWords_ok (m : Mem) (hm : ByteMem m) (E : Nat) : ∀ fuel cursor, cursor ≤ E → E - cursor < fuel * 8 + 8 →
    cursor ≤ (scanWords m E fuel cursor).2 ∧ (scanWords m E fuel cursor).2 ≤ E ∧
    E ≤ (scanWords m E fuel cursor).2 + 8 ∧
    ScanOk m (8 * cursor) (8 * (scanWords m E fuel cursor).2) (scanWords m E fuel cursor).1 := by
  intro fuel
  induction fuel with
  | zero => intro c hc hf; simp only [scanWords]; exact ⟨Nat.le_refl _, hc, by omega, scanOk_nil m _⟩
  | succ f ih =>
    intro c hc hf
    simp only [scanWords]
    by_cases h : c + 8 < E
    · rw [if_pos h]
      obtain ⟨h1, h2, h3, h4⟩ := ih (c + 8) (by omega) (by omega)
      exact ⟨by omega, h2, h3, scanOk_append m (by omega) (by omega) (scanWord_word_ok m hm c) h4⟩
    · rw [if_neg h]
      exact ⟨Nat.le_refl _, hc, by omega, scanOk_nil m _⟩

theorem scanTail_ok (m : Mem) (hm : ByteMem m) (E : Nat) : ∀ fuel cursor, cursor ≤ E → E - cursor ≤ fuel →
    ScanOk m (8 * cursor) (8 * E) (scanTail m E fuel cursor) := by
  intro fuel
  induction fuel with
  | zero =>
    intro c hc hf
    rw [show c = E by omega]; exact scanOk_nil m _
  | succ f ih =>
    intro c hc hf
    simp only [scanTail]
    by_cases h : c < E
    · rw [if_pos h]
      exact scanOk_append m (by omega) (by omega) (scanWord_byte_ok m hm c) (ih (c + 1) (by omega) (by omega))
    · rw [if_neg h, show c = E by omega]; exact scanOk_nil m _

/-- The fuels of `scanBytes`: at most 7 bytes up to a word boundary (8), at most `(E - S) / 8` whole words, and
at most 8 bytes left when `cursor + 8 < E` fails (9). `E - cursor < fuel * 8 + 8` in `scanWords_ok` says the fuel
covers the words that remain. -/
theorem scanBytes_ok (m : Mem) (hm : ByteMem m) (S E : Nat) (h : S ≤ E) : ScanOk m (8 * S) (8 * E) (scanBytes m S E) := by
  obtain ⟨a1, a2, a3⟩ := scanHead_ok m hm E 8 S h
  obtain ⟨b1, b2, b3, b4⟩ := scanWords_ok m hm E ((E - S) / 8 + 1) (scanHead m E 8 S).2 a2 (by omega)
  have c := scanTail_ok m hm E 9 (scanWords m E ((E - S) / 8 + 1) (scanHead m E 8 S).2).2 b2 (by omega)
  exact scanOk_append m (by omega) (by omega) (scanOk_append m (by omega) (by omega) a3 b4) c

theorem and_two_pow_ne_zero (x k : Nat) : decide (x &&& 2 ^ k ≠ 0) = x.testBit k := by
  rw [Bits.and_two_pow_eq]; cases x.testBit k <;> simp

theorem scanBits_ok (m : Mem) (a bs be : Nat) (h1 : bs < be) (h2 : be ≤ 8) :
    ScanOk m (8 * a + bs) (8 * a + be) (scanBits m a bs be) := by
  unfold scanBits
  have e0 : (List.range (be - bs)).map (· + bs) = up bs be := by
    rw [up, List.range'_eq_map_range]
    exact List.map_congr_left (fun i _ => Nat.add_comm i bs)
  rw [e0, filterMap_ite (fun bit => (m a &&& ((1 <<< bit) % 256)) ≠ 0) (fun bit => (a, bit))]
  refine scanOk_bits m a bs be _ (by omega) (by omega) (fun i _ hi => ?_)
  have hlt : i < 8 := by omega
  rw [bitAt_mk m a _ hlt, Nat.one_shiftLeft,
    Nat.mod_eq_of_lt (Nat.lt_of_lt_of_le (Nat.pow_lt_pow_right (by omega) hlt) (by decide : 2 ^ 8 ≤ 256)),
    and_two_pow_ne_zero]

theorem scanRange_ok (m : Mem) (hm : ByteMem m) (r : BBR) (hw : r.wf) : ScanOk m r.lo r.hi (scanRange m r) := by
  cases r with
  | bytes s e => exact scanBytes_ok m hm s e (Nat.le_of_lt hw)
  | bits a bs be => exact scanBits_ok m a bs be hw.1 hw.2

theorem scanFast_eq_flat (s : Spec) (m : Mem) (a b : Nat) :
    scanFast s m a b = ((breakBitRange (metaAddr s a) (lshift s a) (metaAddr s b) (lshift s b) true).flatMap
      (scanRange m)).map (fun ab => metaToData s ab.1 ab.2) := by
  unfold scanFast
  rw [List.map_flatMap]
  congr 1

/-- **the fast scan computes the specification** — for *any* `start ≤ end` (the regions visited are
`⌊start/R⌋ … ⌊end/R⌋ − 1`; they are the regions of `[start, end)` when both are region-aligned). -/
theorem scanFast_eq_scanSpec (s : Spec) (hs : s.ok) (h0 : s.logBits = 0) (m : Mem) (hm : ByteMem m)
    (dStart dEnd : Nat) (hle : dStart ≤ dEnd) (h64 : dEnd < 2 ^ 64) :
    scanFast s m dStart dEnd = scanSpec s m dStart dEnd := by
  have hR := Nat.two_pow_pos s.logRegion
  obtain ⟨k1, k2⟩ := scanOk_tiles m (scanRange_ok m hm) (meta_tiles s hs dStart dEnd hle h64)
  simp only [Nat.shiftRight_eq_div_pow] at k1 k2
  have hq1 : dEnd / 2 ^ s.logRegion * 2 ^ s.logRegion ≤ dEnd := Nat.div_mul_le_self ..
  rw [scanFast_eq_flat]
  unfold scanSpec
  generalize dStart / 2 ^ s.logRegion = q0 at k1 k2 ⊢
  generalize dEnd / 2 ^ s.logRegion = q1 at k1 k2 hq1 ⊢
  generalize (breakBitRange (metaAddr s dStart) (lshift s dStart) (metaAddr s dEnd) (lshift s dEnd) true).flatMap (scanRange m) = l at k1 k2
  have hfb : ∀ r, fieldBase s r = 8 * s.start + r := by intro r; unfold fieldBase; rw [h0]; simp
  refine Eq.trans ?_ (bits_to_regions s hs h0 m hm q0 q1 (by omega))
  rw [← k1, List.map_map]
  apply List.map_congr_left
  intro ab hab
  have hp : pos ab ∈ bitsIn m (fieldBase s q0) (fieldBase s q1) := by
    rw [← k1]; exact List.mem_map_of_mem hab
  obtain ⟨_, p2, _⟩ := (mem_bitsIn m _ _ _).1 hp
  obtain ⟨p3, _⟩ := k2 ab hab
  rw [hfb] at p2 p3
  unfold pos at p2
  have hst : s.start ≤ ab.1 := by omega
  have hlt : (ab.1 - s.start) * 8 + ab.2 < q1 := by omega
  rw [metaToData_bit s h0 ab.1 ab.2 (Nat.lt_of_lt_of_le (Nat.mul_lt_mul_of_pos_right hlt hR) (by omega))]
  simp only [Function.comp, pos]
  congr 1
  omega

theorem mem_scanSpec (s : Spec) (m : Mem) (dStart dEnd : Nat)
    (h1 : dStart % 2 ^ s.logRegion = 0) (h2 : dEnd % 2 ^ s.logRegion = 0) (x : Nat) :
    x ∈ scanSpec s m dStart dEnd ↔ (dStart ≤ x ∧ x < dEnd ∧ x % 2 ^ s.logRegion = 0 ∧ load s m x ≠ 0) := by
  have hR := Nat.two_pow_pos s.logRegion
  obtain ⟨q0, rfl⟩ := aligned_mul h1
  obtain ⟨q1, rfl⟩ := aligned_mul h2
  unfold scanSpec
  rw [Nat.mul_div_cancel _ hR, Nat.mul_div_cancel _ hR]
  simp only [List.mem_filter, List.mem_map, List.mem_range'_1, decide_eq_true_eq]
  constructor
  · rintro ⟨⟨r, ⟨a, b⟩, rfl⟩, c⟩
    exact ⟨Nat.mul_le_mul_right _ a, Nat.mul_lt_mul_of_pos_right (by omega) hR, Nat.mul_mod_left .., c⟩
  · rintro ⟨a, b, c, d⟩
    obtain ⟨r, rfl⟩ := aligned_mul c
    have a' := Nat.le_of_mul_le_mul_right a hR
    have b' := Nat.lt_of_mul_lt_mul_right b
    exact ⟨⟨r, ⟨a', by omega⟩, rfl⟩, d⟩

theorem scanSpec_sorted (s : Spec) (m : Mem) (dStart dEnd : Nat) : (scanSpec s m dStart dEnd).Pairwise (· < ·) := by
  have hR := Nat.two_pow_pos s.logRegion
  unfold scanSpec
  apply List.Pairwise.filter
  rw [List.pairwise_map]
  exact (List.pairwise_lt_range' (s := _) (n := _)).imp (fun h => Nat.mul_lt_mul_of_pos_right h hR)

/-- **C22 (scan, fast = naive)**: for a 1-bit spec and region-aligned `start ≤ end` the word-at-a-time
scan returns exactly what the region-by-region scan returns (whose `debug_assert!` needs the visited
region starts mapped in a debug build). -/
theorem scan_fast_eq_naive (debug : Bool) (env : MapEnv) (s : Spec) (hs : s.ok) (h0 : s.logBits = 0)
    (m : Mem) (hm : ByteMem m) (dStart dEnd : Nat)
    (h1 : dStart % 2 ^ s.logRegion = 0) (h2 : dEnd % 2 ^ s.logRegion = 0) (hle : dStart ≤ dEnd) (h64 : dEnd < 2 ^ 64)
    (hmap : debug = true → ∀ x, dStart ≤ x → x < dEnd → x % 2 ^ s.logRegion = 0 → env.mapped x = true) :
    scanSimple debug env s m dStart dEnd = some (scanFast s m dStart dEnd) := by
  rw [scanFast_eq_scanSpec s hs h0 m hm dStart dEnd hle h64]
  exact scanSimple_eq_spec debug env s m dStart dEnd h1 h2 hle hmap

/-- **C22 (scan, specification)**: the fast scan visits exactly the region starts of `[start, end)`
whose field is non-zero, in strictly ascending order (hence once each). -/
theorem scan_spec (s : Spec) (hs : s.ok) (h0 : s.logBits = 0) (m : Mem) (hm : ByteMem m) (dStart dEnd : Nat)
    (h1 : dStart % 2 ^ s.logRegion = 0) (h2 : dEnd % 2 ^ s.logRegion = 0) (hle : dStart ≤ dEnd) (h64 : dEnd < 2 ^ 64) :
    (∀ x, x ∈ scanFast s m dStart dEnd ↔ (dStart ≤ x ∧ x < dEnd ∧ x % 2 ^ s.logRegion = 0 ∧ load s m x ≠ 0)) ∧
    (scanFast s m dStart dEnd).Pairwise (· < ·) := by
  rw [scanFast_eq_scanSpec s hs h0 m hm dStart dEnd hle h64]
  exact ⟨mem_scanSpec s m dStart dEnd h1 h2, scanSpec_sorted s m dStart dEnd⟩

/-- **C22 (public `scan_non_zero_values`, every field width)**: the result is the specification list. -/
theorem scan_public_spec (debug : Bool) (env : MapEnv) (s : Spec) (hs : s.ok) (m : Mem) (hm : ByteMem m) (dStart dEnd : Nat)
    (h1 : dStart % 2 ^ s.logRegion = 0) (h2 : dEnd % 2 ^ s.logRegion = 0) (hle : dStart ≤ dEnd) (h64 : dEnd < 2 ^ 64)
    (hmap : debug = true → ∀ x, dStart ≤ x → x < dEnd → x % 2 ^ s.logRegion = 0 → env.mapped x = true) :
    scan debug env s m dStart dEnd = some (scanSpec s m dStart dEnd) ∧
    (∀ x, x ∈ scanSpec s m dStart dEnd ↔ (dStart ≤ x ∧ x < dEnd ∧ x % 2 ^ s.logRegion = 0 ∧ load s m x ≠ 0)) ∧
    (scanSpec s m dStart dEnd).Pairwise (· < ·) := by
  refine ⟨?_, mem_scanSpec s m dStart dEnd h1 h2, scanSpec_sorted s m dStart dEnd⟩
  unfold scan
  by_cases h0 : s.logBits = 0
  · rw [if_pos h0, scanFast_eq_scanSpec s hs h0 m hm dStart dEnd hle h64]
  · rw [if_neg h0]; exact scanSimple_eq_spec debug env s m dStart dEnd h1 h2 hle hmap

/-- An instance (8-byte regions, bits of regions 8, 9, 17 set): the hypotheses on `s` and the bounds hold, and
fast scan and specification are evaluated. -/
example : let s : Spec := { start := 1000, logBits := 0, logRegion := 3 }
    let m : Mem := fun x => if x = 1001 then 3 else if x = 1002 then 2 else 0
    s.ok ∧ s.logBits = 0 ∧ (64 % 2 ^ s.logRegion = 0) ∧ (160 % 2 ^ s.logRegion = 0) ∧
    scanFast s m 64 160 = [64, 72, 136] ∧ scanSpec s m 64 160 = [64, 72, 136] := by decide

/-- A region-unaligned scan end (caller precondition violated): the fast scan stops before the region
cut by `end`, the naive one still visits it. -/
theorem scan_fast_ne_simple_unaligned_end_witness :
    let env : MapEnv := { mapped := fun _ => true, gran := 64 }
    let s : Spec := { start := 1000, logBits := 0, logRegion := 3 }
    let m : Mem := fun x => if x = 1001 then 3 else 0
    scanFast s m 64 76 = [64] ∧ scanSimple true env s m 64 76 = some [64, 72] ∧
    scanFast s m 64 80 = [64, 72] ∧ scanSimple true env s m 64 80 = some [64, 72] := by
  decide

/-- Mapped-ness is constant on a chunk of `k` bytes from `c`: one byte, or the eight bytes of an aligned word. -/
theorem chunk_block (env : MapEnv) (henv : env.ok) (c k i : Nat) (hk : k = 1 ∨ k = 8 ∧ c % 8 = 0) (hi : i < k) :
    env.mapped (c + i) = env.mapped c := by
  apply henv.const
  obtain ⟨j, hj⟩ := henv.gran8
  have hjpos : 0 < j := by
    have := henv.gpos; rw [hj] at this; omega
  rw [hj, ← Nat.div_div_eq_div_mul, ← Nat.div_div_eq_div_mul]
  congr 1
  omega

theorem shows_byte (env : MapEnv) (m : Mem) (c sb eb : Nat) (hmc : env.mapped c = true) (h2 : eb ≤ 8)
    (l : List Nat) (hmem : ∀ p, p ∈ l ↔ 8 * c + sb ≤ p ∧ p < 8 * c + eb) : Shows env m l (m c) (8 * c) sb eb :=
  ⟨hmem, fun i _ i2 => by rw [show (8 * c + i) / 8 = c by omega]; exact hmc,
    fun i _ i2 => bitAt_mk m c i (by omega)⟩

theorem shows_word (env : MapEnv) (henv : env.ok) (m : Mem) (hm : ByteMem m) (c : Nat) (hc8 : c % 8 = 0)
    (hmc : env.mapped c = true) (l : List Nat) (hmem : ∀ p, p ∈ l ↔ 8 * c ≤ p ∧ p < 8 * c + 64) :
    Shows env m l (readLE m c 8) (8 * c) 0 64 :=
  ⟨hmem, fun i _ i2 => by
      rw [show (8 * c + i) / 8 = c + i / 8 by omega, chunk_block env henv c 8 _ (Or.inr ⟨rfl, hc8⟩) (by omega)]; exact hmc,
    fun i _ i2 => (testBit_readLE8 m hm c i i2).symm⟩

theorem readLE8_eq_zero (m : Mem) (hm : ByteMem m) (c : Nat)
    (h : ∀ i, 0 ≤ i → i < 64 → (readLE m c 8).testBit i = false) : readLE m c 8 = 0 := by
  apply Nat.eq_of_testBit_eq
  intro i
  rw [Nat.zero_testBit]
  by_cases hi : i < 64
  · exact h i (Nat.zero_le _) hi
  · exact Nat.testBit_lt_two_pow (Nat.lt_of_lt_of_le (readLE8_lt m hm c) (Nat.pow_le_pow_right (by omega) (by omega)))

theorem ne_zero_of_testBit {v b : Nat} (h : v.testBit b = true) : v ≠ 0 := by
  rintro rfl; rw [Nat.zero_testBit] at h; cases h

theorem found_byte (c bit : Nat) (h : bit < 8) : FindRes.found c bit = (PosRes.found (8 * c + bit)).toFind := by
  rw [PosRes.toFind, show (8 * c + bit) / 8 = c by omega, show (8 * c + bit) % 8 = bit by omega]

/-- how the word finders report a position (`cursor + (bit >> 3)`, `bit - ((bit >> 3) << 3)`). -/
theorem found_word (c bit : Nat) :
    FindRes.found (c + (bit >>> 3)) (bit - ((bit >>> 3) <<< 3)) = (PosRes.found (8 * c + bit)).toFind := by
  rw [PosRes.toFind, Nat.shiftRight_eq_div_pow, Nat.shiftLeft_eq,
    show (8 * c + bit) / 8 = c + bit / 2 ^ 3 by omega, show (8 * c + bit) % 8 = bit - bit / 2 ^ 3 * 2 ^ 3 by omega]

/-- `fb` answers for the bits `st … en-1` of a loaded value what `firstHit` answers for the positions showing them,
listed by `L`: `findFirstBit` with `up` (`shows_first`), `findLastBit` with `down` (`shows_last`). -/
def Finds (env : MapEnv) (m : Mem) (fb : Nat → Nat → Nat → Nat → Option Nat) (L : Nat → Nat → List Nat) : Prop :=
  ∀ {v base st en}, Shows env m (L (base + st) (base + en)) v base st en → ∀ tb, st ≤ en → en ≤ tb → tb ≤ 64 →
    match fb tb v st en with
    | some bit => bit < en ∧ v ≠ 0 ∧ firstHit env m (L (base + st) (base + en)) = .found (base + bit)
    | none => (∀ i, st ≤ i → i < en → v.testBit i = false) ∧
        firstHit env m (L (base + st) (base + en)) = .notFound

theorem shows_first {env : MapEnv} {m : Mem} : Finds env m findFirstBit up := by
  intro v base st en sh tb h1 h2 htb
  have hspec := findFirstBit_spec tb v st en h1 h2 htb
  cases h : findFirstBit tb v st en with
  | some bit =>
    rw [h] at hspec
    obtain ⟨a1, a2, a3, a4⟩ := hspec
    exact ⟨a2, ne_zero_of_testBit a3,
      sh.some (pairwise_up ..) a1 a2 a3 (fun i i1 _ hR => a4 i i1 (Nat.lt_of_add_lt_add_left hR))⟩
  | none => rw [h] at hspec; exact ⟨hspec, sh.none hspec⟩

theorem shows_last {env : MapEnv} {m : Mem} : Finds env m findLastBit down := by
  intro v base st en sh tb h1 h2 htb
  have hspec := findLastBit_spec tb v st en h1 h2 htb
  cases h : findLastBit tb v st en with
  | some bit =>
    rw [h] at hspec
    obtain ⟨a1, a2, a3, a4⟩ := hspec
    exact ⟨a2, ne_zero_of_testBit a3,
      sh.some (pairwise_down ..) a1 a2 a3 (fun i _ i2 hR => a4 i (Nat.lt_of_add_lt_add_left hR) i2)⟩
  | none => rw [h] at hspec; exact ⟨hspec, sh.none hspec⟩

/-- One iteration of a byte loop on the chunk of `k` bytes from `c` (`k = 8`: one load of an aligned word; `k = 1`: a
byte), in either direction: the first stop among the chunk's positions, else `next`. -/
theorem chunk_eq {env : MapEnv} (henv : env.ok) {m : Mem} (hm : ByteMem m) {fb : Nat → Nat → Nat → Nat → Option Nat}
    {L : Nat → Nat → List Nat} (hF : Finds env m fb L) (hL : ∀ {x y p}, p ∈ L x y ↔ x ≤ p ∧ p < y)
    (c k : Nat) (hk : k = 1 ∨ k = 8 ∧ c % 8 = 0) (hmp : env.mapped c = true) (next : PosRes) :
    (if k = 8 then
      if readLE m c 8 ≠ 0 then
        match fb 64 (readLE m c 8) 0 64 with
        | some bit => .found (c + (bit >>> 3)) (bit - ((bit >>> 3) <<< 3))
        | none => .notFound
      else next.toFind
    else
      match fb 8 (m c) 0 8 with
      | some bit => .found c bit
      | none => next.toFind) = ((firstHit env m (L (8 * c) (8 * c + 8 * k))).orElse next).toFind := by
  rcases hk with rfl | ⟨rfl, hc8⟩
  · have hb := hF (shows_byte env m c 0 8 hmp (Nat.le_refl _) _ (fun _ => hL)) 8 (Nat.zero_le _) (Nat.le_refl _) (by decide)
    rw [Nat.add_zero] at hb
    rw [if_neg (by decide)]
    cases hfb : fb 8 (m c) 0 8 with
    | some bit => rw [hfb] at hb; rw [hb.2.2]; exact found_byte c bit hb.1
    | none => rw [hfb] at hb; rw [hb.2]; rfl
  · have hw := hF (shows_word env henv m hm c hc8 hmp _ (fun _ => hL)) 64 (Nat.zero_le _) (Nat.le_refl _) (Nat.le_refl _)
    rw [Nat.add_zero] at hw
    rw [if_pos rfl]
    cases hfb : fb 64 (readLE m c 8) 0 64 with
    | some bit => rw [hfb] at hw; rw [if_pos hw.2.1, hw.2.2]; exact found_word c bit
    | none => rw [hfb] at hw; rw [if_neg (not_not_intro (readLE8_eq_zero m hm c hw.1)), hw.2]; rfl

theorem findFirstInBytesLoop_eq (env : MapEnv) (henv : env.ok) (m : Mem) (hm : ByteMem m) (E : Nat) :
    ∀ fuel cursor grain, cursor ≤ E → E - cursor ≤ fuel →
    (∀ x, cursor ≤ x → x ≤ grain → env.mapped x = true) →
    findFirstInBytesLoop env m E fuel cursor grain = (firstHit env m (up (8 * cursor) (8 * E))).toFind := by
  intro fuel
  induction fuel with
  | zero =>
    intro cursor grain h1 h2 _
    rw [show cursor = E by omega, up_self]; rfl
  | succ f ih =>
    intro cursor grain h1 h2 hc
    simp only [findFirstInBytesLoop]
    by_cases hlt : cursor < E
    · simp only [hlt, not_true_eq_false, if_false]
      rcases chkFwd env henv cursor grain hc with ⟨e, hmp⟩ | ⟨g', e, hmp, hv⟩
      · rw [e, up_cons (by omega), firstHit, probe_unmapped (by rw [Nat.mul_div_cancel_left cursor (by decide)]; exact hmp)]
        rfl
      · rw [e]
        dsimp only
        generalize hk : (if cursor % 8 = 0 ∧ cursor + 8 ≤ E then 8 else 1) = k
        obtain ⟨a0, a1, a2⟩ : (k = 1 ∨ k = 8 ∧ cursor % 8 = 0) ∧ cursor + k ≤ E ∧ E - (cursor + k) ≤ f := by
          split at hk <;> omega
        rw [ih (cursor + k) g' a1 a2 (fun x a b => hv x (Nat.le_trans (Nat.le_add_right _ _) a) b), Nat.mul_add,
          ← up_append (Nat.le_add_right (8 * cursor) (8 * k)) (by omega), firstHit_append]
        exact chunk_eq henv hm shows_first mem_up cursor k a0 hmp _
    · simp only [hlt, not_false_eq_true, if_true]
      rw [show cursor = E by omega, up_self]; rfl

theorem findFirstInBits_eq (env : MapEnv) (m : Mem) (a sb eb : Nat) (h1 : sb < eb) (h2 : eb ≤ 8) :
    findFirstInBits env m a sb eb = (firstHit env m (up (8 * a + sb) (8 * a + eb))).toFind := by
  unfold findFirstInBits
  by_cases hmp : env.mapped a = true
  · simp only [hmp, Bool.not_true, Bool.false_eq_true, if_false]
    have hb := shows_first (shows_byte env m a sb eb hmp h2 _ (fun _ => mem_up)) 8 (Nat.le_of_lt h1) h2 (by decide)
    cases hfb : findFirstBit 8 (m a) sb eb with
    | some bit => rw [hfb] at hb; rw [hb.2.2]; exact found_byte a bit (Nat.lt_of_lt_of_le hb.1 h2)
    | none => rw [hfb] at hb; rw [hb.2]; rfl
  · have hmp' : env.mapped a = false := by simpa using hmp
    simp only [hmp', Bool.not_false, if_true]
    rw [up_cons (by omega), firstHit, probe_unmapped (by rw [show (8 * a + sb) / 8 = a by omega]; exact hmp')]
    rfl

theorem findLastInBytesLoop_eq (env : MapEnv) (henv : env.ok) (m : Mem) (hm : ByteMem m) (S : Nat) :
    ∀ fuel cur grain, S ≤ cur → cur - S ≤ fuel →
    (∀ x, grain ≤ x → x < cur → env.mapped x = true) →
    findLastInBytesLoop env m S fuel cur grain = (firstHit env m (down (8 * S) (8 * cur))).toFind := by
  intro fuel
  induction fuel with
  | zero =>
    intro cur grain h1 h2 _
    rw [show cur = S by omega, down, up_self]; rfl
  | succ f ih =>
    intro cur grain h1 h2 hc
    simp only [findLastInBytesLoop]
    by_cases hlt : cur > S
    · simp only [hlt, not_true_eq_false, if_false]
      generalize hk : (if cur % 8 = 0 ∧ cur - 8 ≥ S ∧ cur ≥ 8 then 8 else 1) = k
      obtain ⟨b1, b2⟩ : S + k ≤ cur ∧ 0 < k := by split at hk <;> omega
      -- the loop steps down to the chunk's first byte `c` before it checks and loads
      obtain ⟨c, rfl⟩ : ∃ c, cur = c + k := ⟨cur - k, by omega⟩
      obtain ⟨a1, a2, a3, a4⟩ : S ≤ c ∧ c - S ≤ f ∧ 8 * S < 8 * c + 8 * k ∧ (8 * c + 8 * k - 1) / 8 = c + (k - 1) := by
        omega
      have a0 : k = 1 ∨ k = 8 ∧ c % 8 = 0 := by split at hk <;> omega
      rw [Nat.add_sub_cancel, Nat.mul_add]
      rcases chkBwd env henv c grain (fun x a b => hc x a (Nat.lt_of_le_of_lt b (Nat.lt_add_of_pos_right b2)))
        with ⟨e, hmp⟩ | ⟨g', e, hmp, hv⟩
      · rw [e, down_cons a3, firstHit,
          probe_unmapped (by rw [a4, chunk_block env henv c k _ a0 (Nat.sub_lt b2 Nat.one_pos)]; exact hmp)]
        rfl
      · rw [e]
        dsimp only
        rw [ih c g' a1 a2 (fun x a b => hv x a (Nat.le_of_lt b)),
          ← down_append (Nat.mul_le_mul_left 8 a1) (Nat.le_add_right (8 * c) (8 * k)), firstHit_append]
        exact chunk_eq henv hm shows_last mem_down c k a0 hmp _
    · simp only [hlt, not_false_eq_true, if_true]
      rw [show cur = S by omega, down, up_self]; rfl

theorem findLastInBits_eq (env : MapEnv) (m : Mem) (a sb eb : Nat) (h1 : sb < eb) (h2 : eb ≤ 8) :
    findLastInBits env m a sb eb = (firstHit env m (down (8 * a + sb) (8 * a + eb))).toFind := by
  unfold findLastInBits
  by_cases hmp : env.mapped a = true
  · simp only [hmp, Bool.not_true, Bool.false_eq_true, if_false]
    have hb := shows_last (shows_byte env m a sb eb hmp h2 _ (fun _ => mem_down)) 8 (Nat.le_of_lt h1) h2 (by decide)
    cases hfb : findLastBit 8 (m a) sb eb with
    | some bit => rw [hfb] at hb; rw [hb.2.2]; exact found_byte a bit (Nat.lt_of_lt_of_le hb.1 h2)
    | none => rw [hfb] at hb; rw [hb.2]; rfl
  · have hmp' : env.mapped a = false := by simpa using hmp
    simp only [hmp', Bool.not_false, if_true]
    rw [down_cons (by omega), firstHit, probe_unmapped (by rw [show (8 * a + eb - 1) / 8 = a by omega]; exact hmp')]
    rfl

theorem ceilDiv_le_iff {R : Nat} (hR : 0 < R) (S q : Nat) : (S + R - 1) / R ≤ q ↔ S ≤ q * R := by
  rw [Nat.div_le_iff_le_mul_add_pred hR, Nat.mul_comm]; omega

/-- The forward range in region numbers, `r0 = ⌊a/R⌋` and `r1 = ⌈(a+limit)/R⌉` (`next_bounds`). The numbers are
parameters: the `_eq_region` lemmas hold for any numbers with these bounds, and a proof about the quotients themselves can
`generalize` them. -/
structure NextBounds (R a limit r0 r1 : Nat) : Prop where
  down_eq : alignDown a R = r0 * R
  up_eq : alignUp (a + limit) R = r1 * R
  lt : r0 < r1
  end_le : a + limit ≤ r1 * R
  /-- the loop's test `cursor < a + limit`, read on region numbers -/
  cut : ∀ q, q < r1 ↔ q * R < a + limit
  floor : a / R = r0
  /-- the fuel `limit / R + 2` of `findNextSimple` covers the range -/
  fuel : r1 - r0 ≤ limit / R + 2

theorem next_bounds (a limit lr : Nat) (hlim : 0 < limit) :
    NextBounds (2 ^ lr) a limit (a / 2 ^ lr) ((a + limit + 2 ^ lr - 1) / 2 ^ lr) := by
  have hR := Nat.two_pow_pos lr
  generalize 2 ^ lr = R at *
  have hc := ceilDiv_le_iff hR (a + limit)
  have f1 : a / R * R ≤ a := Nat.div_mul_le_self a R
  have f2 : a < a / R * R + R := Nat.lt_div_mul_add hR
  have f6 : limit < limit / R * R + R := Nat.lt_div_mul_add hR
  refine ⟨alignDown_eq_div a R, by unfold alignUp; exact alignDown_eq_div _ R,
    Nat.lt_of_not_le (fun h => by have := (hc _).1 h; omega), (hc _).1 (Nat.le_refl _),
    fun q => by rw [← Nat.not_le, ← Nat.not_le, hc], rfl, ?_⟩
  have : (a + limit + R - 1) / R ≤ a / R + limit / R + 2 := by
    rw [hc, Nat.add_mul, Nat.add_mul]; omega
  generalize (a + limit + R - 1) / R = r1 at *
  generalize a / R = r0 at *
  generalize limit / R = L at *
  omega

theorem findNextFast_eq_region (env : MapEnv) (henv : env.ok) (s : Spec) (hs : s.ok)
    (hal : s.start % 2 ^ (s.logBits - 3) = 0) (hlr : s.logBits < 3 → s.logBits ≤ s.logRegion) (hst : 0 < s.start)
    (hgran : 2 ^ s.logRegion ∣ env.gran) (m : Mem) (hm : ByteMem m) (a limit : Nat) {r0 r1 : Nat}
    (B : NextBounds (2 ^ s.logRegion) a limit r0 r1) (hend : r1 * 2 ^ s.logRegion < 2 ^ 64)
    (hmc : MapConsistent env s m r0 r1 true) :
    findNextFast env s m a limit = regionHit env s m (up r0 r1) := by
  have hR := Nat.two_pow_pos s.logRegion
  have hmap0 := B.floor ▸ region_block env henv s.logRegion hgran a
  have ha64 : a < 2 ^ 64 := by have := B.end_le; omega
  have hlabs : load s m a = absArr m s r0 := by rw [load_eq_absArr s hs m a ha64, Nat.shiftRight_eq_div_pow, B.floor]
  rw [up_cons B.lt]
  unfold findNextFast
  by_cases hmapa : env.mapped a = true
  · simp only [hmapa, Bool.not_true, Bool.false_eq_true, if_false]
    rw [hmapa] at hmap0
    by_cases hload : load s m a ≠ 0
    · rw [if_pos hload, B.down_eq, regionHit_found _ hmap0 (hlabs ▸ hload)]
    · rw [if_neg hload, B.down_eq, B.up_eq, ← up_cons B.lt]
      have hle : r0 * 2 ^ s.logRegion ≤ r1 * 2 ^ s.logRegion := Nat.mul_le_mul_right _ (Nat.le_of_lt B.lt)
      have ht := meta_tiles s hs (r0 * 2 ^ s.logRegion) (r1 * 2 ^ s.logRegion) hle hend
      rw [shiftRight_mul_pow, shiftRight_mul_pow] at ht
      rw [findVisit_flatMap env s m _ (fun r => up r.lo r.hi) _ ?_, tiles_up ht,
        fwd_fast_region env s hal hlr m hm r0 r1 (Nat.le_of_lt B.lt) (Nat.le_of_lt hend) hmc]
      · cases hres : regionHit env s m (up r0 r1) with
        | none => rfl
        | some x =>
          obtain ⟨r', q1, q2, q3, _⟩ := (regionHit_up_iff env s m _ _ _).1 hres
          subst q3
          have g1 : r' * 2 ^ s.logRegion ≥ r0 * 2 ^ s.logRegion := Nat.mul_le_mul_right _ q1
          have g2 : r' * 2 ^ s.logRegion < r1 * 2 ^ s.logRegion := Nat.mul_lt_mul_of_pos_right q2 hR
          simp [alignDown_mul, g1, g2]
      · intro r hr
        obtain ⟨hlo, _, hw⟩ := tiles_bounds ht r hr
        have hfb : 8 * s.start ≤ fieldBase s r0 := by unfold fieldBase; omega
        cases r with
        | bytes st en =>
          simp only [BBR.lo, BBR.hi, BBR.wf] at hw hlo ⊢
          -- the loop's cache starts at 0, below the table (`hst`): no address is assumed mapped
          exact findFirstInBytesLoop_eq env henv m hm en _ st 0 (Nat.le_of_lt hw) (by omega) (fun x a b => by omega)
        | bits ad bs be => exact findFirstInBits_eq env m ad bs be hw.1 hw.2
  · have hmapa' : env.mapped a = false := by simpa using hmapa
    rw [hmapa'] at hmap0
    simp only [hmapa', Bool.not_false, if_true, regionHit_unmapped _ hmap0]

/-- The naive loop never asks whether address 0 is mapped (its cache starts at 0), hence the side condition `h0`. -/
theorem findNextSimple_eq_region (env : MapEnv) (henv : env.ok) (s : Spec) (hs : s.ok)
    (hgran : 2 ^ s.logRegion ∣ env.gran) (m : Mem) (a limit : Nat) {r0 r1 : Nat}
    (B : NextBounds (2 ^ s.logRegion) a limit r0 r1) (hend : r1 * 2 ^ s.logRegion < 2 ^ 64)
    (h0 : env.mapped a = true ∨ 2 ^ s.logRegion ≤ a) :
    findNextSimple env s m a limit = regionHit env s m (up r0 r1) := by
  have hR := Nat.two_pow_pos s.logRegion
  have hmap0 := B.floor ▸ region_block env henv s.logRegion hgran a
  have hr0 : 2 ^ s.logRegion ≤ a → 1 ≤ r0 := fun h => B.floor ▸ (Nat.le_div_iff_mul_le hR).2 (by omega)
  unfold findNextSimple
  simp only
  rw [B.down_eq]
  apply findNextSimpleLoop_eq env henv s hs m (a + limit) r1 (Nat.le_of_lt hend) B.cut _ r0 0
    (Nat.le_of_lt B.lt) B.fuel
  · intro x x1 x2
    obtain rfl := Nat.le_zero.1 x2
    rcases h0 with h | h
    · rw [← Nat.le_zero.1 x1, hmap0]; exact h
    · have := Nat.mul_le_mul_right (2 ^ s.logRegion) (hr0 h)
      omega

/-- **C22 (forward search, fast = naive)**: under `MapConsistent` on the searched regions
`⌊a/R⌋ … ⌈(a+limit)/R⌉ − 1` the word-at-a-time search and the region-by-region search return the same. -/
theorem findNext_fast_eq_simple (env : MapEnv) (henv : env.ok) (s : Spec) (hs : s.ok)
    (hal : s.start % 2 ^ (s.logBits - 3) = 0) (hlr : s.logBits < 3 → s.logBits ≤ s.logRegion) (hst : 0 < s.start)
    (hgran : 2 ^ s.logRegion ∣ env.gran) (m : Mem) (hm : ByteMem m) (a limit : Nat) (hlim : 0 < limit)
    (hend : alignUp (a + limit) (2 ^ s.logRegion) < 2 ^ 64)
    (h0 : env.mapped a = true ∨ 2 ^ s.logRegion ≤ a)
    (hmc : MapConsistent env s m (a / 2 ^ s.logRegion) ((a + limit + 2 ^ s.logRegion - 1) / 2 ^ s.logRegion) true) :
    findNextFast env s m a limit = findNextSimple env s m a limit := by
  have B := next_bounds a limit s.logRegion hlim
  rw [findNextFast_eq_region env henv s hs hal hlr hst hgran m hm a limit B (B.up_eq ▸ hend) hmc,
    findNextSimple_eq_region env henv s hs hgran m a limit B (B.up_eq ▸ hend) h0]

/-- `none` would be the `assert_eq!(fast, naive)` of the public entry tripping (likewise `findPrev_public`). -/
theorem findNext_public (debug : Bool) (env : MapEnv) (henv : env.ok) (s : Spec) (hs : s.ok)
    (hal : s.start % 2 ^ (s.logBits - 3) = 0) (hlr : s.logBits < 3 → s.logBits ≤ s.logRegion) (hst : 0 < s.start)
    (hgran : 2 ^ s.logRegion ∣ env.gran) (m : Mem) (hm : ByteMem m) (a limit : Nat) (hlim : 0 < limit)
    (hend : alignUp (a + limit) (2 ^ s.logRegion) < 2 ^ 64)
    (h0 : env.mapped a = true ∨ 2 ^ s.logRegion ≤ a)
    (hmc : MapConsistent env s m (a / 2 ^ s.logRegion) ((a + limit + 2 ^ s.logRegion - 1) / 2 ^ s.logRegion) true) :
    findNext debug env s m a limit = some (findNextFast env s m a limit) := by
  have h := findNext_fast_eq_simple env henv s hs hal hlr hst hgran m hm a limit hlim hend h0 hmc
  have hl : (limit == 0) = false := by simp; omega
  unfold findNext
  simp [hl, h]

/-- **C22 (forward search, specification)**: the result is the least region start `x ≥ ⌊a⌋` with a
non-zero field and `x < a + limit`, provided no data region from `⌊a⌋` up to and including `x` is
unmapped; otherwise nothing. -/
theorem findNext_spec (env : MapEnv) (henv : env.ok) (s : Spec) (hs : s.ok)
    (hal : s.start % 2 ^ (s.logBits - 3) = 0) (hlr : s.logBits < 3 → s.logBits ≤ s.logRegion) (hst : 0 < s.start)
    (hgran : 2 ^ s.logRegion ∣ env.gran) (m : Mem) (hm : ByteMem m) (a limit : Nat) (hlim : 0 < limit)
    (hend : alignUp (a + limit) (2 ^ s.logRegion) < 2 ^ 64)
    (hmc : MapConsistent env s m (a / 2 ^ s.logRegion) ((a + limit + 2 ^ s.logRegion - 1) / 2 ^ s.logRegion) true)
    (x : Nat) :
    findNextFast env s m a limit = some x ↔
      (x % 2 ^ s.logRegion = 0 ∧ alignDown a (2 ^ s.logRegion) ≤ x ∧ x < a + limit ∧ load s m x ≠ 0 ∧
        (∀ y, alignDown a (2 ^ s.logRegion) ≤ y → y < x → y % 2 ^ s.logRegion = 0 → load s m y = 0) ∧
        (∀ y, alignDown a (2 ^ s.logRegion) ≤ y → y ≤ x → y % 2 ^ s.logRegion = 0 → env.mapped y = true)) := by
  have hR := Nat.two_pow_pos s.logRegion
  have B := next_bounds a limit s.logRegion hlim
  rw [B.up_eq] at hend
  rw [findNextFast_eq_region env henv s hs hal hlr hst hgran m hm a limit B hend hmc, regionHit_up_iff, B.down_eq]
  generalize a / 2 ^ s.logRegion = r0 at *
  generalize (a + limit + 2 ^ s.logRegion - 1) / 2 ^ s.logRegion = r1 at *
  have hld : ∀ q, q < r1 → load s m (q * 2 ^ s.logRegion) = absArr m s q := fun q hq =>
    load_region s hs m q (Nat.lt_of_lt_of_le ((B.cut q).1 hq) (Nat.le_trans B.end_le (Nat.le_of_lt hend)))
  constructor
  · rintro ⟨r', q1, q2, rfl, q4, q5, q6⟩
    refine ⟨Nat.mul_mod_left .., Nat.mul_le_mul_right _ q1, (B.cut r').1 q2, by rw [hld r' q2]; exact q4, ?_, ?_⟩
    · intro y y1 y2 y3
      obtain ⟨q, rfl⟩ := aligned_mul y3
      have c2 := Nat.lt_of_mul_lt_mul_right y2
      rw [hld q (Nat.lt_trans c2 q2)]; exact q5 q (Nat.le_of_mul_le_mul_right y1 hR) c2
    · intro y y1 y2 y3
      obtain ⟨q, rfl⟩ := aligned_mul y3
      exact q6 q (Nat.le_of_mul_le_mul_right y1 hR) (Nat.le_of_mul_le_mul_right y2 hR)
  · rintro ⟨x1, x2, x3, x4, x5, x6⟩
    obtain ⟨r', rfl⟩ := aligned_mul x1
    have c2 := (B.cut r').2 x3
    refine ⟨r', Nat.le_of_mul_le_mul_right x2 hR, c2, rfl, by rw [← hld r' c2]; exact x4, fun q d1 d2 => ?_, fun q d1 d2 => ?_⟩
    · rw [← hld q (Nat.lt_trans d2 c2)]
      exact x5 _ (Nat.mul_le_mul_right _ d1) (Nat.mul_lt_mul_of_pos_right d2 hR) (Nat.mul_mod_left ..)
    · exact x6 _ (Nat.mul_le_mul_right _ d1) (Nat.mul_le_mul_right _ d2) (Nat.mul_mod_left ..)

/-- the side condition `h0` cannot be dropped from the *model*: nothing mapped, origin in the region at
address 0 whose field is non-zero — the fast version asks `is_mapped(3)` and gives up, the naive loop's
cache (`mapped_grain = 0`) skips the question for cursor 0. (No heap contains address 0.) -/
theorem findNext_region0_witness :
    let env : MapEnv := { mapped := fun _ => false, gran := 64 }
    let s : Spec := { start := 1024, logBits := 0, logRegion := 3 }
    let m : Mem := fun x => if x = 1024 then 1 else 0
    findNextFast env s m 3 8 = none ∧ findNextSimple env s m 3 8 = some 0 := by
  decide

/-- the hypotheses of the forward theorems are satisfiable by a non-trivial state: data `[0,128)` mapped,
`[128, 1024)` not, metadata (from 1024) mapped, the bit of region 10 (address 80) set; searching from 20
over 200 bytes crosses the unmapped chunk boundary at region 16. -/
example :
    let env : MapEnv := { mapped := fun x => decide (x < 128) || decide (1024 ≤ x), gran := 64 }
    let s : Spec := { start := 1024, logBits := 0, logRegion := 3 }
    let m : Mem := fun x => if x = 1025 then 4 else 0
    env.ok ∧ s.ok ∧ s.start % 2 ^ (s.logBits - 3) = 0 ∧ (s.logBits < 3 → s.logBits ≤ s.logRegion) ∧ 0 < s.start ∧
    2 ^ s.logRegion ∣ env.gran ∧ ByteMem m ∧ alignUp (20 + 200) (2 ^ s.logRegion) < 2 ^ 64 ∧
    MapConsistent env s m (20 / 2 ^ s.logRegion) ((20 + 200 + 2 ^ s.logRegion - 1) / 2 ^ s.logRegion) true ∧
    findNextFast env s m 20 200 = some 80 ∧ findNextFast env s m 100 200 = none := by
  intro env s m
  refine ⟨⟨by decide, by decide, ?_⟩, by decide, by decide, by decide, by decide, by decide, ?_, by decide, ?_, by decide, by decide⟩
  · intro x y h
    show (decide (x < 128) || decide (1024 ≤ x)) = (decide (y < 128) || decide (1024 ≤ y))
    have h' : x / 64 = y / 64 := h
    have e1 : (x < 128) ↔ (y < 128) := by omega
    have e2 : (1024 ≤ x) ↔ (1024 ≤ y) := by omega
    simp [e1, e2]
  · intro x; show (if x = 1025 then 4 else 0) < 256; split <;> omega
  · exact mapConsistent_of_check (by decide)

/-- The backward range in region numbers, with `S = a - limit + 1`, `rs = ⌊S/R⌋`, `t = ⌈S/R⌉`, `ra = ⌊a/R⌋`
(`prev_bounds`): the fast search reads the regions `rs … ra`, the naive one `t … ra`. The numbers are parameters, as in
`NextBounds`. -/
structure PrevBounds (R a limit S rs t ra : Nat) : Prop where
  down_eq : alignDown a R = ra * R
  start_le : S ≤ a
  rs_le_ra : rs ≤ ra
  rs_le_t : rs ≤ t
  t_le : t ≤ ra + 1
  /-- the loop's test `cursor ≥ S`, read on region numbers -/
  cut : ∀ q, q * R ≥ S ↔ t ≤ q
  floor_le : ra * R ≤ a
  /-- the fuel `limit / R + 2` of `findPrevSimple` covers the range -/
  fuel : ra + 1 - t ≤ limit / R + 2
  /-- so `cursor -= R` does not underflow inside the range -/
  t_pos : 1 ≤ t
  floor : a / R = ra
  start_floor : S / R = rs

theorem prev_bounds (a limit lr : Nat) (hlim : 0 < limit) (ha0 : 0 < a) :
    PrevBounds (2 ^ lr) a limit (a - limit + 1) ((a - limit + 1) / 2 ^ lr) ((a - limit + 1 + 2 ^ lr - 1) / 2 ^ lr)
      (a / 2 ^ lr) := by
  have hR := Nat.two_pow_pos lr
  generalize 2 ^ lr = R at *
  obtain ⟨hS, hS1, hSl⟩ : a - limit + 1 ≤ a ∧ 1 ≤ a - limit + 1 ∧ a < a - limit + 1 + limit := by omega
  generalize a - limit + 1 = S at *
  have hc := ceilDiv_le_iff hR S
  have f4 : S < (S / R + 1) * R := by rw [Nat.succ_mul]; exact Nat.lt_div_mul_add hR
  have f6 : limit < limit / R * R + R := Nat.lt_div_mul_add hR
  have ht := (hc _).1 (Nat.le_refl _)
  refine ⟨alignDown_eq_div a R, hS, Nat.div_le_div_right hS, Nat.div_le_div_right (by omega),
    Nat.le_trans ((hc _).2 (Nat.le_of_lt f4)) (Nat.succ_le_succ (Nat.div_le_div_right hS)), fun q => (hc q).symm,
    Nat.div_mul_le_self a R, ?_, (Nat.le_div_iff_mul_le hR).2 (by omega), rfl, rfl⟩
  -- `a < S + limit ≤ ⌈S/R⌉·R + limit < (⌈S/R⌉ + ⌊limit/R⌋ + 1)·R`
  have : a / R < (S + R - 1) / R + limit / R + 1 := by
    rw [Nat.div_lt_iff_lt_mul hR, Nat.add_mul, Nat.add_mul, Nat.one_mul]; omega
  generalize (S + R - 1) / R = t at *
  generalize a / R = ra at *
  generalize limit / R = L at *
  omega

/-- the region-level effect of the final range filter of `find_prev_non_zero_value_fast`: the fast
version also looks at the region cut by `S = a - limit + 1` and then discards it. -/
theorem regionHit_down_filter (env : MapEnv) (s : Spec) (m : Mem) (rs t ra S a : Nat)
    (hrs : rs ≤ t)
    (hcut : ∀ q, q * 2 ^ s.logRegion ≥ S ↔ t ≤ q) (hra : ra * 2 ^ s.logRegion ≤ a)
    (hz : absArr m s ra = 0) (hmp : env.mapped (ra * 2 ^ s.logRegion) = true) :
    ((regionHit env s m (down rs ra)).map fun x => alignDown x (2 ^ s.logRegion)).filter
      (fun x => decide (x ≥ S) && decide (x < a)) = regionHit env s m (down t (ra + 1)) := by
  have hR := Nat.two_pow_pos s.logRegion
  have hiffL := regionHit_down_iff env s m rs ra
  have hiffR := regionHit_down_iff env s m t (ra + 1)
  cases hL : regionHit env s m (down rs ra) with
  | none =>
    symm
    apply Option.eq_none_iff_forall_ne_some.2
    intro x hx
    obtain ⟨r', a1, a2, a3, a4, a5, a6⟩ := (hiffR x).1 hx
    have hne : r' ≠ ra := by intro e; rw [e] at a4; exact a4 hz
    have : regionHit env s m (down rs ra) = some x :=
      (hiffL x).2 ⟨r', Nat.le_trans hrs a1, Nat.lt_of_le_of_ne (Nat.le_of_lt_succ a2) hne, a3, a4,
        fun q q1 q2 => a5 q q1 (Nat.lt_succ_of_lt q2), fun q q1 q2 => a6 q q1 (Nat.lt_succ_of_lt q2)⟩
    rw [hL] at this; cases this
  | some y =>
    obtain ⟨r', a1, a2, a3, a4, a5, a6⟩ := (hiffL y).1 hL
    subst a3
    have hlt : r' * 2 ^ s.logRegion < a := Nat.lt_of_lt_of_le (Nat.mul_lt_mul_of_pos_right a2 hR) hra
    by_cases hge : t ≤ r'
    · have hS : r' * 2 ^ s.logRegion ≥ S := (hcut r').2 hge
      have : regionHit env s m (down t (ra + 1)) = some (r' * 2 ^ s.logRegion) :=
        (hiffR _).2 ⟨r', hge, Nat.lt_succ_of_lt a2, rfl, a4, fun q q1 q2 => by
          by_cases e : q = ra
          · rw [e]; exact hz
          · exact a5 q q1 (Nat.lt_of_le_of_ne (Nat.le_of_lt_succ q2) e), fun q q1 q2 => by
          by_cases e : q = ra
          · rw [e]; exact hmp
          · exact a6 q q1 (Nat.lt_of_le_of_ne (Nat.le_of_lt_succ q2) e)⟩
      rw [this]
      simp [alignDown_mul, hS, hlt]
    · have hS : ¬ r' * 2 ^ s.logRegion ≥ S := fun h => hge ((hcut r').1 h)
      have hnone : regionHit env s m (down t (ra + 1)) = none := by
        apply Option.eq_none_iff_forall_ne_some.2
        intro x hx
        obtain ⟨r'', c1, c2, c3, c4, c5, c6⟩ := (hiffR x).1 hx
        by_cases e : r'' = ra
        · rw [e] at c4; exact c4 hz
        · exact c4 (a5 r'' (Nat.lt_of_lt_of_le (Nat.lt_of_not_le hge) c1) (Nat.lt_of_le_of_ne (Nat.le_of_lt_succ c2) e))
      rw [hnone]
      simp [alignDown_mul, hS]

theorem findPrevSimple_eq_region (env : MapEnv) (henv : env.ok) (s : Spec) (hs : s.ok)
    (m : Mem) (a limit : Nat) (ha1 : a + 1 < 2 ^ 64) {rs t ra : Nat}
    (B : PrevBounds (2 ^ s.logRegion) a limit (a - limit + 1) rs t ra) :
    findPrevSimple env s m a limit = regionHit env s m (down t (ra + 1)) := by
  unfold findPrevSimple
  simp only
  rw [B.down_eq]
  have hpos := B.t_pos
  have hfl := B.floor_le
  exact findPrevSimpleLoop_eq env henv s hs m _ t hpos B.cut _ ra (2 ^ 64 - 1) B.t_le B.fuel (by omega)
    (fun x x1 x2 => by omega)

theorem findPrevFast_eq_region (env : MapEnv) (henv : env.ok) (s : Spec) (hs : s.ok)
    (hal : s.start % 2 ^ (s.logBits - 3) = 0) (hlr : s.logBits < 3 → s.logBits ≤ s.logRegion)
    (hgran : 2 ^ s.logRegion ∣ env.gran) (m : Mem) (hm : ByteMem m) (a limit : Nat)
    (ha1 : a + 1 < 2 ^ 64) (hmeta : metaAddr s a < 2 ^ 64 - 1) {rs t ra : Nat}
    (B : PrevBounds (2 ^ s.logRegion) a limit (a - limit + 1) rs t ra)
    (hmc : MapConsistent env s m rs (ra + 1) false) :
    findPrevFast env s m a limit = regionHit env s m (down t (ra + 1)) := by
  have hR := Nat.two_pow_pos s.logRegion
  have hmap0 := B.floor ▸ region_block env henv s.logRegion hgran a
  have hra : a >>> s.logRegion = ra := (Nat.shiftRight_eq_div_pow ..).trans B.floor
  have hrs : (a - limit + 1) >>> s.logRegion = rs := (Nat.shiftRight_eq_div_pow ..).trans B.start_floor
  have ha64 : a < 2 ^ 64 := by omega
  have hlabs : load s m a = absArr m s ra := by rw [load_eq_absArr s hs m a ha64, hra]
  have ht := meta_tiles s hs (a - limit + 1) a B.start_le ha64
  rw [hrs, hra] at ht
  have hfb : fieldBase s ra < 8 * (2 ^ 64 - 1) := by
    have h1 := field_position s hs a ha64
    have h2 := lshift_lt8 s a
    rw [hra] at h1; omega
  unfold findPrevFast
  generalize hS : a - limit + 1 = S at *
  have htle := B.t_le
  have hfl := B.floor_le
  by_cases hmapa : env.mapped a = true
  · simp only [hmapa, Bool.not_true, Bool.false_eq_true, if_false]
    rw [hmapa] at hmap0
    by_cases hload : load s m a ≠ 0
    · rw [if_pos hload, B.down_eq]
      rw [hlabs] at hload
      by_cases hin : ra * 2 ^ s.logRegion ≥ S
      · have := (B.cut ra).1 hin
        rw [if_pos hin, down_cons (by omega), Nat.add_sub_cancel, regionHit_found _ hmap0 hload]
      · have : ¬ t ≤ ra := fun h => hin ((B.cut ra).2 h)
        rw [if_neg hin, show t = ra + 1 by omega, down, up_self]; rfl
    · rw [if_neg hload]
      have hz : absArr m s ra = 0 := by rw [← hlabs]; simpa using hload
      rw [breakBitRange_backwards, findVisit_flatMap env s m _ (fun r => down r.lo r.hi) _ ?_, tiles_down ht,
        bwd_fast_region env s hal hlr m hm rs ra B.rs_le_ra (by omega) (hmc.mono (Nat.le_refl _) (Nat.le_succ _))]
      · exact regionHit_down_filter env s m rs t ra S a B.rs_le_t B.cut hfl hz hmap0
      · intro r hr
        obtain ⟨_, hhi, hw⟩ := tiles_bounds ht r (List.mem_reverse.1 hr)
        cases r with
        | bytes st en =>
          simp only [BBR.lo, BBR.hi, BBR.wf] at hw hhi ⊢
          -- the loop's cache starts at `usize::MAX`, above the metadata of `a` (`hmeta`, as `hfb`): no address is assumed mapped
          exact findLastInBytesLoop_eq env henv m hm st _ en (2 ^ 64 - 1) (Nat.le_of_lt hw) (by omega) (fun x a b => by omega)
        | bits ad bs be => exact findLastInBits_eq env m ad bs be hw.1 hw.2
  · have hmapa' : env.mapped a = false := by simpa using hmapa
    rw [hmapa'] at hmap0
    simp only [hmapa', Bool.not_false, if_true]
    by_cases hk0 : t = ra + 1
    · rw [hk0, down, up_self]; rfl
    · rw [down_cons (by omega), Nat.add_sub_cancel, regionHit_unmapped _ hmap0]

/-- **C22 (backward search, fast = naive)** for `findPrevFast`, whose quick check applies the search limit
(`findPrevFastOld`: last section): under `MapConsistent` on the regions `⌊(a-limit+1)/R⌋ … ⌊a/R⌋` (searched
downwards) the word-at-a-time search and the region-by-region search return the same. The range starts at the
floor, one region below the naive search's `⌈(a-limit+1)/R⌉`: the fast version also reads the region cut by
`a - limit + 1` and discards it at the end (`regionHit_down_filter`). -/
theorem findPrev_fast_eq_simple (env : MapEnv) (henv : env.ok) (s : Spec) (hs : s.ok)
    (hal : s.start % 2 ^ (s.logBits - 3) = 0) (hlr : s.logBits < 3 → s.logBits ≤ s.logRegion)
    (hgran : 2 ^ s.logRegion ∣ env.gran) (m : Mem) (hm : ByteMem m) (a limit : Nat) (hlim : 0 < limit)
    (ha0 : 0 < a) (ha1 : a + 1 < 2 ^ 64) (hmeta : metaAddr s a < 2 ^ 64 - 1)
    (hmc : MapConsistent env s m ((a - limit + 1) / 2 ^ s.logRegion) (a / 2 ^ s.logRegion + 1) false) :
    findPrevFast env s m a limit = findPrevSimple env s m a limit := by
  have B := prev_bounds a limit s.logRegion hlim ha0
  rw [findPrevFast_eq_region env henv s hs hal hlr hgran m hm a limit ha1 hmeta B hmc,
    findPrevSimple_eq_region env henv s hs m a limit ha1 B]

theorem findPrev_public (debug : Bool) (env : MapEnv) (henv : env.ok) (s : Spec) (hs : s.ok)
    (hal : s.start % 2 ^ (s.logBits - 3) = 0) (hlr : s.logBits < 3 → s.logBits ≤ s.logRegion)
    (hgran : 2 ^ s.logRegion ∣ env.gran) (m : Mem) (hm : ByteMem m) (a limit : Nat) (hlim : 0 < limit)
    (ha0 : 0 < a) (ha1 : a + 1 < 2 ^ 64) (hmeta : metaAddr s a < 2 ^ 64 - 1)
    (hmc : MapConsistent env s m ((a - limit + 1) / 2 ^ s.logRegion) (a / 2 ^ s.logRegion + 1) false) :
    findPrev debug env s m a limit = some (findPrevFast env s m a limit) := by
  have h := findPrev_fast_eq_simple env henv s hs hal hlr hgran m hm a limit hlim ha0 ha1 hmeta hmc
  have hl : (limit == 0) = false := by simp; omega
  unfold findPrev
  simp [hl, h]

/-- **C22 (backward search, specification)**: the result is the greatest region start `x` with
`a - limit < x ≤ a` and a non-zero field, provided no data region from `x` up to `⌊a⌋` is unmapped;
otherwise nothing. -/
theorem findPrev_spec (env : MapEnv) (henv : env.ok) (s : Spec) (hs : s.ok)
    (hal : s.start % 2 ^ (s.logBits - 3) = 0) (hlr : s.logBits < 3 → s.logBits ≤ s.logRegion)
    (hgran : 2 ^ s.logRegion ∣ env.gran) (m : Mem) (hm : ByteMem m) (a limit : Nat) (hlim : 0 < limit)
    (ha0 : 0 < a) (ha1 : a + 1 < 2 ^ 64) (hmeta : metaAddr s a < 2 ^ 64 - 1)
    (hmc : MapConsistent env s m ((a - limit + 1) / 2 ^ s.logRegion) (a / 2 ^ s.logRegion + 1) false)
    (x : Nat) :
    findPrevFast env s m a limit = some x ↔
      (x % 2 ^ s.logRegion = 0 ∧ a - limit + 1 ≤ x ∧ x ≤ a ∧ load s m x ≠ 0 ∧
        (∀ y, x < y → y ≤ a → y % 2 ^ s.logRegion = 0 → load s m y = 0) ∧
        (∀ y, x ≤ y → y ≤ a → y % 2 ^ s.logRegion = 0 → env.mapped y = true)) := by
  have hR := Nat.two_pow_pos s.logRegion
  have B := prev_bounds a limit s.logRegion hlim ha0
  rw [findPrevFast_eq_region env henv s hs hal hlr hgran m hm a limit ha1 hmeta B hmc, regionHit_down_iff]
  have hfloor : ∀ q, q ≤ a / 2 ^ s.logRegion ↔ q * 2 ^ s.logRegion ≤ a := fun q => Nat.le_div_iff_mul_le hR
  generalize a / 2 ^ s.logRegion = ra at *
  generalize (a - limit + 1 + 2 ^ s.logRegion - 1) / 2 ^ s.logRegion = t at *
  generalize (a - limit + 1) / 2 ^ s.logRegion = rs at *
  have hld : ∀ q, q ≤ ra → load s m (q * 2 ^ s.logRegion) = absArr m s q := fun q hq =>
    load_region s hs m q (Nat.lt_of_le_of_lt ((hfloor q).1 hq) (by omega))
  constructor
  · rintro ⟨r', q1, q2, rfl, q4, q5, q6⟩
    have hr' : r' ≤ ra := Nat.le_of_lt_succ q2
    refine ⟨Nat.mul_mod_left .., (B.cut r').2 q1, (hfloor r').1 hr', by rw [hld r' hr']; exact q4, ?_, ?_⟩
    · intro y y1 y2 y3
      obtain ⟨q, rfl⟩ := aligned_mul y3
      have c2 := (hfloor q).2 y2
      rw [hld q c2]; exact q5 q (Nat.lt_of_mul_lt_mul_right y1) (Nat.lt_succ_of_le c2)
    · intro y y1 y2 y3
      obtain ⟨q, rfl⟩ := aligned_mul y3
      exact q6 q (Nat.le_of_mul_le_mul_right y1 hR) (Nat.lt_succ_of_le ((hfloor q).2 y2))
  · rintro ⟨x1, x2, x3, x4, x5, x6⟩
    obtain ⟨r', rfl⟩ := aligned_mul x1
    have c2 := (hfloor r').2 x3
    refine ⟨r', (B.cut r').1 x2, Nat.lt_succ_of_le c2, rfl, by rw [← hld r' c2]; exact x4, fun q d1 d2 => ?_, fun q d1 d2 => ?_⟩
    · have hq : q ≤ ra := Nat.le_of_lt_succ d2
      rw [← hld q hq]
      exact x5 _ (Nat.mul_lt_mul_of_pos_right d1 hR) ((hfloor q).1 hq) (Nat.mul_mod_left ..)
    · exact x6 _ (Nat.mul_le_mul_right _ d1) ((hfloor q).1 (Nat.le_of_lt_succ d2)) (Nat.mul_mod_left ..)

/-- the hypotheses of the backward theorems are satisfiable by a non-trivial state: data `[128, 512)`
mapped, `[0,128)` not, metadata (from 1024) mapped, the bit of region 20 (address 160) set; searching back
from 300 over 250 bytes reaches the unmapped chunk below region 16. The query `(150, 140)` is evaluated only: its
regions are not those of the `MapConsistent` conjunct. -/
example :
    let env : MapEnv := { mapped := fun x => (decide (128 ≤ x) && decide (x < 512)) || decide (1024 ≤ x), gran := 64 }
    let s : Spec := { start := 1024, logBits := 0, logRegion := 3 }
    let m : Mem := fun x => if x = 1026 then 16 else 0
    env.ok ∧ s.ok ∧ s.start % 2 ^ (s.logBits - 3) = 0 ∧ (s.logBits < 3 → s.logBits ≤ s.logRegion) ∧
    2 ^ s.logRegion ∣ env.gran ∧ ByteMem m ∧ metaAddr s 300 < 2 ^ 64 - 1 ∧
    MapConsistent env s m ((300 - 250 + 1) / 2 ^ s.logRegion) (300 / 2 ^ s.logRegion + 1) false ∧
    findPrevFast env s m 300 250 = some 160 ∧ findPrevFast env s m 150 140 = none ∧
    findPrevSimple env s m 300 250 = some 160 := by
  intro env s m
  refine ⟨⟨by decide, by decide, ?_⟩, by decide, by decide, by decide, by decide, ?_, by decide, ?_, by decide, by decide, by decide⟩
  · intro x y h
    show ((decide (128 ≤ x) && decide (x < 512)) || decide (1024 ≤ x)) = ((decide (128 ≤ y) && decide (y < 512)) || decide (1024 ≤ y))
    have h' : x / 64 = y / 64 := h
    have e1 : (128 ≤ x) ↔ (128 ≤ y) := by omega
    have e2 : (1024 ≤ x) ↔ (1024 ≤ y) := by omega
    have e3 : (x < 512) ↔ (y < 512) := by omega
    simp [e1, e2, e3]
  · intro x; show (if x = 1026 then 16 else 0) < 256; split <;> omega
  · exact mapConsistent_of_check (by decide)

theorem load_alignDown (s : Spec) (hs : s.ok) (m : Mem) (a : Nat) (ha : a < 2 ^ 64) :
    load s m (alignDown a (2 ^ s.logRegion)) = load s m a := by
  have hle : alignDown a (2 ^ s.logRegion) ≤ a := Nat.sub_le _ _
  rw [load_eq_absArr s hs m _ (Nat.lt_of_le_of_lt hle ha), load_eq_absArr s hs m a ha, alignDown_eq_div,
    shiftRight_mul_pow, Nat.shiftRight_eq_div_pow]

/-- **`find_prev_non_zero_value_fast` before mmtk-core's `fix:` commit on its quick check** (`findPrevFastOld`).
If the origin's own region holds a non-zero field but its start lies below `data_addr - limit + 1` (i.e.
`limit ≤ data_addr mod region`), the quick check returned that region start *without applying the limit*,
while the naive version never visits it: `find_prev_non_zero_value` tripped its own `assert_eq!(fast, naive)`
in debug builds and returned an address outside the requested range in release builds. -/
theorem findPrev_own_region_defect (env : MapEnv) (s : Spec) (m : Mem) (a limit : Nat)
    (hmap : env.mapped a = true) (hload : load s m a ≠ 0)
    (hlim : limit ≤ a % 2 ^ s.logRegion) :
    findPrevFastOld env s m a limit = some (alignDown a (2 ^ s.logRegion)) ∧
    findPrevSimple env s m a limit = none := by
  have hfast : findPrevFastOld env s m a limit = some (alignDown a (2 ^ s.logRegion)) := by
    unfold findPrevFastOld; simp [hmap, hload]
  have hmod : a % 2 ^ s.logRegion ≤ a := Nat.mod_le _ _
  have hsimple : findPrevSimple env s m a limit = none := by
    unfold findPrevSimple
    simp only
    -- the fuel `limit / R + 2` of `findPrevSimple` written as a successor, so that one iteration unfolds;
    -- `2 ^ 64 - 1` is the initial `mapped_grain = Address::MAX` (forward search: `Address::ZERO`)
    show findPrevSimpleLoop env s m (a - limit + 1) (limit / 2 ^ s.logRegion + 1 + 1) (alignDown a (2 ^ s.logRegion)) (2 ^ 64 - 1) = none
    unfold findPrevSimpleLoop
    have : ¬ (alignDown a (2 ^ s.logRegion) ≥ a - limit + 1) := by unfold alignDown; omega
    simp only [this, not_false_eq_true, if_true]
  exact ⟨hfast, hsimple⟩

/-- the concrete failing input: 1 bit per 8-byte region, bit of region 1 set,
`find_prev_non_zero_value(data_addr = 15, limit = 7)`. -/
theorem findPrev_own_region_defect_witness :
    let env : MapEnv := { mapped := fun _ => true, gran := 64 }
    let s : Spec := { start := 1000, logBits := 0, logRegion := 3 }
    let m : Mem := fun x => if x = 1000 then 2 else 0
    findPrevFastOld env s m 15 7 = some 8 ∧ findPrevSimple env s m 15 7 = none ∧
    findPrevFast env s m 15 7 = none := by
  decide

/-- `findPrevFastOld`, the case its quick check decides correctly: when the own region's start is inside the
limit, fast and naive both return it (no `MapConsistent` needed; "partial" = this one case of fast = naive). -/
theorem findPrev_own_region_partial (env : MapEnv) (s : Spec) (hs : s.ok) (m : Mem) (a limit : Nat) (ha1 : a + 1 < 2 ^ 64)
    (hmap : env.mapped a = true) (hmap' : env.mapped (alignDown a (2 ^ s.logRegion)) = true)
    (hload : load s m a ≠ 0) (hlim : a % 2 ^ s.logRegion < limit) (hle : limit ≤ a) :
    findPrevFastOld env s m a limit = some (alignDown a (2 ^ s.logRegion)) ∧
    findPrevSimple env s m a limit = some (alignDown a (2 ^ s.logRegion)) := by
  have ha : a < 2 ^ 64 := by omega
  have hfast : findPrevFastOld env s m a limit = some (alignDown a (2 ^ s.logRegion)) := by
    unfold findPrevFastOld; simp [hmap, hload]
  refine ⟨hfast, ?_⟩
  have hmod : a % 2 ^ s.logRegion ≤ a := Nat.mod_le _ _
  have hload' : load s m (alignDown a (2 ^ s.logRegion)) ≠ 0 := by rw [load_alignDown s hs m a ha]; exact hload
  unfold findPrevSimple
  simp only
  show findPrevSimpleLoop env s m (a - limit + 1) (limit / 2 ^ s.logRegion + 1 + 1) (alignDown a (2 ^ s.logRegion)) (2 ^ 64 - 1) = _
  unfold findPrevSimpleLoop
  have h1 : alignDown a (2 ^ s.logRegion) ≥ a - limit + 1 := by unfold alignDown; omega
  have h2 : alignDown a (2 ^ s.logRegion) < 2 ^ 64 - 1 := by unfold alignDown; omega
  simp [h1, h2, hmap', hload']

/-- `findPrevFast` (quick check applies the limit) on the inputs of `findPrev_own_region_defect`: fast and
naive agree, both find nothing. -/
theorem findPrev_own_region_fixed_below (env : MapEnv) (s : Spec) (m : Mem) (a limit : Nat)
    (hmap : env.mapped a = true) (hload : load s m a ≠ 0) (hlim : limit ≤ a % 2 ^ s.logRegion) :
    findPrevFast env s m a limit = none ∧ findPrevSimple env s m a limit = none := by
  refine ⟨?_, (findPrev_own_region_defect env s m a limit hmap hload hlim).2⟩
  have hmod : a % 2 ^ s.logRegion ≤ a := Nat.mod_le _ _
  have : ¬ (alignDown a (2 ^ s.logRegion) ≥ a - limit + 1) := by unfold alignDown; omega
  unfold findPrevFast; simp [hmap, hload, this]

/-- `findPrevFast` on the inputs of `findPrev_own_region_partial`: both return the own region's start. -/
theorem findPrev_own_region_fixed_within (env : MapEnv) (s : Spec) (hs : s.ok) (m : Mem) (a limit : Nat) (ha1 : a + 1 < 2 ^ 64)
    (hmap : env.mapped a = true) (hmap' : env.mapped (alignDown a (2 ^ s.logRegion)) = true)
    (hload : load s m a ≠ 0) (hlim : a % 2 ^ s.logRegion < limit) (hle : limit ≤ a) :
    findPrevFast env s m a limit = some (alignDown a (2 ^ s.logRegion)) ∧
    findPrevSimple env s m a limit = some (alignDown a (2 ^ s.logRegion)) := by
  refine ⟨?_, (findPrev_own_region_partial env s hs m a limit ha1 hmap hmap' hload hlim hle).2⟩
  have hmod : a % 2 ^ s.logRegion ≤ a := Nat.mod_le _ _
  have : alignDown a (2 ^ s.logRegion) ≥ a - limit + 1 := by unfold alignDown; omega
  unfold findPrevFast; simp [hmap, hload, this]

/-- The forward quick check needs no limit test (the own region's start is below `a + limit`): it and the
naive walk agree on the own region. -/
theorem findNext_own_region_partial (env : MapEnv) (s : Spec) (hs : s.ok) (m : Mem) (a limit : Nat) (ha : a < 2 ^ 64)
    (hmap : env.mapped a = true) (hmap' : env.mapped (alignDown a (2 ^ s.logRegion)) = true)
    (hload : load s m a ≠ 0) (hlim : 0 < limit) :
    findNextFast env s m a limit = some (alignDown a (2 ^ s.logRegion)) ∧
    findNextSimple env s m a limit = some (alignDown a (2 ^ s.logRegion)) := by
  have hfast : findNextFast env s m a limit = some (alignDown a (2 ^ s.logRegion)) := by
    unfold findNextFast; simp [hmap, hload]
  refine ⟨hfast, ?_⟩
  have hmod : a % 2 ^ s.logRegion ≤ a := Nat.mod_le _ _
  have hload' : load s m (alignDown a (2 ^ s.logRegion)) ≠ 0 := by rw [load_alignDown s hs m a ha]; exact hload
  unfold findNextSimple
  simp only
  show findNextSimpleLoop env s m (a + limit) (limit / 2 ^ s.logRegion + 1 + 1) (alignDown a (2 ^ s.logRegion)) 0 = _
  unfold findNextSimpleLoop
  have h1 : alignDown a (2 ^ s.logRegion) < a + limit := by unfold alignDown; omega
  by_cases h0 : alignDown a (2 ^ s.logRegion) > 0
  · simp [h1, h0, hmap', hload']
  · simp [h1, h0, hload']

/-- Without `MapConsistent` the two backward searches differ by design (DESIGN §7); stated for
`findPrevFastOld`, which equals `findPrevFast` on this input (`findPrevFastOld_eq_fixed`: 200 is
region-aligned). Data "chunks"
(64 bytes here) `[64,128)` and `[192,256)` mapped, `[128,192)` not, all metadata mapped, the bit of
region 9 (address 72) set; searching back from 200 over 150 bytes the fast version walks the
metadata and finds 72, the naive one stops at the unmapped data chunk. -/
theorem findPrev_fast_ne_simple_without_mapConsistent :
    let env : MapEnv := { mapped := fun x => decide (x ≥ 1000) || decide (64 ≤ x ∧ x < 128) || decide (192 ≤ x ∧ x < 256), gran := 64 }
    let s : Spec := { start := 1000, logBits := 0, logRegion := 3 }
    let m : Mem := fun x => if x = 1001 then 2 else 0
    findPrevFastOld env s m 200 150 = some 72 ∧ findPrevSimple env s m 200 150 = none := by
  decide

/-- `findPrevFastOld` and `findPrevFast` differ only in the quick check's limit test. -/
theorem findPrevFastOld_eq_fixed (env : MapEnv) (s : Spec) (m : Mem) (a limit : Nat)
    (h : alignDown a (2 ^ s.logRegion) ≥ a - limit + 1 ∨ load s m a = 0) :
    findPrevFastOld env s m a limit = findPrevFast env s m a limit := by
  unfold findPrevFastOld findPrevFast
  by_cases hmp : env.mapped a = true
  · by_cases hl : load s m a ≠ 0
    · have hge : alignDown a (2 ^ s.logRegion) ≥ a - limit + 1 := by
        rcases h with h | h
        · exact h
        · exact absurd h hl
      simp only [hmp, Bool.not_true, Bool.false_eq_true, if_false, hl, ne_eq, not_false_eq_true, if_true, hge]
    · simp only [hmp, Bool.not_true, Bool.false_eq_true, if_false, hl, if_false]
  · have hmp' : env.mapped a = false := by simpa using hmp
    simp only [hmp', Bool.not_false, if_true]

/-- **C22 (backward search, `findPrevFastOld`)**: before the fix of its quick check
`find_prev_non_zero_value_fast` already agreed with the naive version whenever the own region's start is inside
the limit or its field is zero. -/
theorem findPrevOld_fast_eq_simple (env : MapEnv) (henv : env.ok) (s : Spec) (hs : s.ok)
    (hal : s.start % 2 ^ (s.logBits - 3) = 0) (hlr : s.logBits < 3 → s.logBits ≤ s.logRegion)
    (hgran : 2 ^ s.logRegion ∣ env.gran) (m : Mem) (hm : ByteMem m) (a limit : Nat) (hlim : 0 < limit)
    (ha0 : 0 < a) (ha1 : a + 1 < 2 ^ 64) (hmeta : metaAddr s a < 2 ^ 64 - 1)
    (hmc : MapConsistent env s m ((a - limit + 1) / 2 ^ s.logRegion) (a / 2 ^ s.logRegion + 1) false)
    (hside : alignDown a (2 ^ s.logRegion) ≥ a - limit + 1 ∨ load s m a = 0) :
    findPrevFastOld env s m a limit = findPrevSimple env s m a limit := by
  rw [findPrevFastOld_eq_fixed env s m a limit hside]
  exact findPrev_fast_eq_simple env henv s hs hal hlr hgran m hm a limit hlim ha0 ha1 hmeta hmc

end Mmtk.SideMeta
