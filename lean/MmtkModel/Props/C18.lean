import MmtkModel.Model.CasBitTie
import MmtkModel.Lemmas.Threads
/-!
# C18 — Concurrent mark / log / pin state changes succeed exactly once

For any number of threads racing on the **same** object, every interleaving of the atomic steps,
and (for the looping variants) arbitrary concurrent changes to the neighbouring bits of the byte:
at most one thread returns `true`; a thread that returns `false` saw the transitioned state; as soon
as any thread has returned, the field holds the transitioned value and, unless it held it from the
start, exactly one thread is the one that returns `true` (the one whose CAS changed the field).
For the single-shot variant (pin) the same holds when nothing else in the byte changes; with a
concurrent neighbour it can fail spuriously — that run is exhibited; it is outside C18's quantifier
(threads racing on the *same* object).
All of it is for protocols that are `WF`; the instances proved so are `markProto st` for `st ≠ 0`,
`losProto 1`, `losNurseryProto 1`, `logProto`, `pinProto`, `unpinProto`.  Mark state 0 has no instance
(`WF.old0_not_done`, which only the single-shot variant needs, fails for `old0 := 0`), although
`logProto` has the `isDone`, `next` and `single` of `markProto 0`.
-/
namespace Mmtk.CasBit

/-- Protocol well-formedness: the transition reaches the "done" state, and the fixed expected value
of the single-shot variant is not yet done. -/
structure Proto.WF (P : Proto) : Prop where
  next_done : ∀ v, P.isDone v = false → P.isDone (P.next v) = true
  old0_not_done : P.isDone P.old0 = false

theorem markProto_wf (st : Nat) (hst : st ≠ 0) : (markProto st).WF :=
  ⟨fun _ _ => beq_self_eq_true st, beq_eq_false_iff_ne.mpr (Ne.symm hst)⟩
theorem logProto_wf : logProto.WF := ⟨fun _ _ => rfl, rfl⟩
theorem pinProto_wf : pinProto.WF := ⟨fun _ _ => rfl, rfl⟩
theorem losProto_wf : (losProto 1).WF :=
  ⟨fun v _ => by simp [losProto]; omega, by simp [losProto]⟩
theorem unpinProto_wf : unpinProto.WF := ⟨fun _ _ => rfl, rfl⟩
theorem losNurseryProto_wf : (losNurseryProto 1).WF :=
  ⟨fun v _ => by simp [losNurseryProto], by simp [losNurseryProto]⟩

/-- `f0` is the initial field value. -/
structure G (P : Proto) (f0 : Nat) (sh : Shared) : Prop where
  unchanged : sh.winner = none → sh.field = f0
  changed : sh.winner ≠ none → P.isDone sh.field = true ∧ P.isDone f0 = false ∧ sh.field = P.next f0

/-- Last clause of `.ret false`: a single-shot CAS from the expected value, with the neighbouring bits
untouched, can only have failed because somebody won. -/
def L (P : Proto) (f0 : Nat) (sh : Shared) (t : Nat) : PC → Prop
  | .l1 => P.single = false ∧ sh.winner ≠ some t
  | .l2 old => P.isDone old = false ∧ (P.single = true → old = P.old0) ∧ sh.winner ≠ some t
  | .l3 old o => P.isDone old = false ∧ (P.single = true → old = P.old0) ∧ sh.winner ≠ some t ∧
      (sh.envMoved = false → o = sh.other)
  | .ret true => sh.winner = some t
  | .ret false => sh.winner ≠ some t ∧ (P.single = false → P.isDone sh.field = true) ∧
      (P.single = true → sh.envMoved = false → f0 = P.old0 → sh.winner ≠ none)

structure Inv (P : Proto) (f0 : Nat) (s : State) : Prop where
  g : G P f0 s.sh
  l : ∀ x, L P f0 s.sh x (s.pc x)

theorem Inv.at {P : Proto} {f0 : Nat} {s : State} (inv : Inv P f0 s) {x : Nat} {p : PC}
    (hx : s.pc x = p) : L P f0 s.sh x p := hx ▸ inv.l x

theorem init_inv (P : Proto) (hP : P.WF) (f0 o0 : Nat) : Inv P f0 (init P f0 o0) := by
  refine ⟨⟨fun _ => rfl, fun h => absurd rfl h⟩, fun x => ?_⟩
  simp only [init, Proto.entry]
  split
  · exact ⟨hP.old0_not_done, fun _ => rfl, nofun⟩
  next hs => exact ⟨Bool.eq_false_iff.mpr hs, nofun⟩

/-- The idea of the file: a CAS expecting a value that is not done succeeds only while nobody has won,
hence only from the initial value `f0` — so the field changes once, to `next f0` (`G.changed`). -/
theorem cas_needs_fresh {P : Proto} {f0 : Nat} {sh : Shared} {old : Nat} (hg : G P f0 sh)
    (h1 : P.isDone old = false) (hf : sh.field = old) : sh.winner = none ∧ old = f0 := by
  have hwn : sh.winner = none := by
    cases hw : sh.winner with
    | none => rfl
    | some w =>
      have := (hg.changed (by rw [hw]; simp)).1
      rw [hf, h1] at this; cases this
  exact ⟨hwn, by rw [← hf]; exact hg.unchanged hwn⟩

/-- A thread's step keeps `G` and gives the thread what it knows at its new program point. -/
theorem local_ok (P : Proto) (hP : P.WF) (f0 t : Nat) (sh : Shared) (p : PC)
    (hg : G P f0 sh) (hl : L P f0 sh t p) :
    G P f0 (localStep P t sh p).1 ∧ L P f0 (localStep P t sh p).1 t (localStep P t sh p).2 := by
  cases p with
  | l1 =>
    obtain ⟨hs, hw⟩ := hl
    dsimp only [localStep]
    split
    next hd => exact ⟨hg, hw, fun _ => hd, fun h => absurd (hs.symm.trans h) Bool.false_ne_true⟩
    next hd => exact ⟨hg, Bool.eq_false_iff.mpr hd, fun h => absurd (hs.symm.trans h) Bool.false_ne_true, hw⟩
  | l2 old => exact ⟨hg, hl.1, hl.2.1, hl.2.2, fun _ => rfl⟩
  | l3 old o =>
    obtain ⟨h1, h2, h3, h4⟩ := hl
    dsimp only [localStep]
    split
    next hc =>
      obtain ⟨_, hf0⟩ := cas_needs_fresh hg h1 hc.1
      exact ⟨⟨nofun, fun _ => ⟨hP.next_done old h1, hf0 ▸ h1, congrArg _ hf0⟩⟩, rfl⟩
    next hc =>
      split
      next hs =>
        refine ⟨hg, h3, fun h => absurd (h.symm.trans hs) Bool.false_ne_true,
          fun _ hem hf0 hwn => hc ⟨?_, (h4 hem).symm⟩⟩
        rw [hg.unchanged hwn, hf0, h2 hs]
      next hs => exact ⟨hg, Bool.eq_false_iff.mpr hs, h3⟩
  | ret b => exact ⟨hg, hl⟩

theorem stable (P : Proto) (hP : P.WF) (f0 t x : Nat) (hxt : x ≠ t) (sh : Shared) (p q : PC)
    (hg : G P f0 sh) (hl : L P f0 sh t p) (hq : L P f0 sh x q) :
    L P f0 (localStep P t sh p).1 x q := by
  cases p with
  | l1 => dsimp only [localStep]; split <;> exact hq
  | l2 old => exact hq
  | ret b => exact hq
  | l3 old o =>
    have h1 : P.isDone old = false := hl.1
    dsimp only [localStep]
    split
    next hc =>
      -- the field changes: nobody else had won, and the new value is done
      obtain ⟨hwn, _⟩ := cas_needs_fresh hg h1 hc.1
      have hne : (some t : Option Nat) ≠ some x := fun e => hxt (Option.some.inj e).symm
      cases q with
      | l1 => exact ⟨hq.1, hne⟩
      | l2 o2 => exact ⟨hq.1, hq.2.1, hne⟩
      | l3 o2 oo => exact ⟨hq.1, hq.2.1, hne, hq.2.2.2⟩
      | ret b =>
        cases b with
        | true => have : sh.winner = some x := hq; rw [hwn] at this; cases this
        | false => exact ⟨hne, fun _ => hP.next_done old h1, fun _ _ _ => nofun⟩
    · exact hq

/-- The environment overwrites the other bits: a remembered load of them is no longer known to be current. -/
theorem L_env {P : Proto} {f0 : Nat} {sh : Shared} {x : Nat} (v : Nat) :
    ∀ {p : PC}, L P f0 sh x p → L P f0 { sh with other := v, envMoved := true } x p
  | .l1, h | .l2 _, h | .ret true, h => h
  | .l3 _ _, h => ⟨h.1, h.2.1, h.2.2.1, nofun⟩
  | .ret false, h => ⟨h.1, h.2.1, fun _ => nofun⟩

theorem step_inv (P : Proto) (hP : P.WF) (f0 : Nat) (s : State) (a : Act) (h : Inv P f0 s) :
    Inv P f0 (step P s a) := by
  obtain ⟨hg, hl⟩ := h
  cases a with
  | thread t =>
    have loc := local_ok P hP f0 t s.sh (s.pc t) hg (hl t)
    exact ⟨loc.1, Threads.forall_upd (P := fun x p => L P f0 _ x p) loc.2 fun x hx =>
      stable P hP f0 t x hx s.sh (s.pc t) (s.pc x) hg (hl t) (hl x)⟩
  | env v => exact ⟨⟨hg.unchanged, hg.changed⟩, fun x => L_env v (hl x)⟩

theorem shared_ext {a b : Shared} (h1 : a.field = b.field) (h2 : a.other = b.other)
    (h3 : a.winner = b.winner) (h4 : a.envMoved = b.envMoved) : a = b := by
  cases a; cases b
  simp only at h1 h2 h3 h4
  subst h1; subst h2; subst h3; subst h4; rfl

theorem state_ext {a b : State} (h1 : a.sh = b.sh) (h2 : ∀ x, a.pc x = b.pc x) : a = b := by
  cases a; cases b
  simp only at h1 h2
  subst h1
  congr
  exact funext h2

theorem exec_append (P : Proto) (s : State) (r1 r2 : List Act) :
    exec P s (r1 ++ r2) = exec P (exec P s r1) r2 := by
  induction r1 generalizing s with
  | nil => rfl
  | cons a r ih => exact ih _

theorem exec_inv (P : Proto) (hP : P.WF) (f0 : Nat) (s : State) (run : List Act) (h : Inv P f0 s) :
    Inv P f0 (exec P s run) := by
  induction run generalizing s with
  | nil => exact h
  | cons a rest ih => exact ih _ (step_inv P hP f0 s a h)

def Reachable (P : Proto) (f0 o0 : Nat) (s : State) : Prop := ∃ run, s = exec P (init P f0 o0) run

theorem reachable_inv {P : Proto} (hP : P.WF) {f0 o0 : Nat} {s : State} (h : Reachable P f0 o0 s) :
    Inv P f0 s := by
  obtain ⟨run, rfl⟩ := h
  exact exec_inv P hP f0 _ run (init_inv P hP f0 o0)

/-- **C18 (1)** at most one thread observes the transition as its own. -/
theorem at_most_one_true {P : Proto} (hP : P.WF) {f0 o0 : Nat} {s : State} (h : Reachable P f0 o0 s)
    (x y : Nat) (hx : s.pc x = .ret true) (hy : s.pc y = .ret true) : x = y := by
  have inv := reachable_inv hP h
  exact Option.some.inj ((inv.at hx).symm.trans (inv.at hy))

/-- **C18 (2)** (looping variants: mark bit, mark byte, LOS mark, log bit — with or without
concurrent changes to the neighbouring bits) in every state in which a thread has returned `false`
the field is transitioned, and if it was not when the race began, another thread is the winner. -/
theorem false_means_done {P : Proto} (hP : P.WF) (hl : P.single = false) {f0 o0 : Nat} {s : State}
    (h : Reachable P f0 o0 s) (x : Nat) (hx : s.pc x = .ret false) :
    P.isDone s.sh.field = true ∧ (P.isDone f0 = false → ∃ w, s.sh.winner = some w ∧ w ≠ x) := by
  have inv := reachable_inv hP h
  obtain ⟨hw, hd, _⟩ := inv.at hx
  refine ⟨hd hl, fun hnd => ?_⟩
  cases hwin : s.sh.winner with
  | none =>
    have := inv.g.unchanged hwin
    have hdd := hd hl
    rw [this, hnd] at hdd; cases hdd
  | some w => exact ⟨w, rfl, fun e => hw (by rw [hwin, e])⟩

/-- **C18 (3)** the winner's transition is the transition: once a thread has returned `true` the
field holds `next f0` (marked / logged / pinned), and it was not in that state before. -/
theorem true_means_transition {P : Proto} (hP : P.WF) {f0 o0 : Nat} {s : State}
    (h : Reachable P f0 o0 s) (x : Nat) (hx : s.pc x = .ret true) :
    s.sh.field = P.next f0 ∧ P.isDone s.sh.field = true ∧ P.isDone f0 = false := by
  have inv := reachable_inv hP h
  have hw : s.sh.winner = some x := inv.at hx
  have := inv.g.changed (by rw [hw]; simp)
  exact ⟨this.2.2, this.1, this.2.1⟩

/-- **C18 (4)** the ghost winner is a thread that returned `true`.  With (1) and (2): in a looping
variant started from a field not yet transitioned, exactly one thread has returned `true` as soon as
anybody has returned `false`. -/
theorem winner_returns_true {P : Proto} (hP : P.WF) {f0 o0 : Nat} {s : State}
    (h : Reachable P f0 o0 s) (w : Nat) (hw : s.sh.winner = some w) : s.pc w = .ret true := by
  have inv := reachable_inv hP h
  cases hp : s.pc w with
  | l1 => exact absurd hw (inv.at hp).2
  | l2 o => exact absurd hw (inv.at hp).2.2
  | l3 o oo => exact absurd hw (inv.at hp).2.2.1
  | ret b =>
    cases b with
    | true => rfl
    | false => exact absurd hw (inv.at hp).1

/-- **C18 (5)** single-shot pin/unpin with nothing else in the byte changing: a thread that returns
`false` lost to another thread that returns `true`. -/
theorem single_shot_false_has_winner {P : Proto} (hP : P.WF) (hs : P.single = true) {o0 : Nat} {s : State}
    (h : Reachable P P.old0 o0 s) (hq : s.sh.envMoved = false) (x : Nat) (hx : s.pc x = .ret false) :
    ∃ w, w ≠ x ∧ s.pc w = .ret true := by
  have inv := reachable_inv hP h
  obtain ⟨hw, _, h3⟩ := inv.at hx
  have := h3 hs hq rfl
  cases hwin : s.sh.winner with
  | none => exact absurd hwin this
  | some w => exact ⟨w, fun e => hw (by rw [hwin, e]), winner_returns_true hP h w hwin⟩

/-- One thread pins; between its load and its CAS another object's bit in the same byte changes:
`pin_object` returns false although nobody pinned the object. -/
theorem pin_can_fail_spuriously_with_neighbours :
    let s := exec pinProto (init pinProto 0 0) [.thread 0, .env 4, .thread 0]
    s.pc 0 = .ret false ∧ s.sh.field = 0 ∧ s.sh.winner = none := by
  decide

/-- mark bit, three threads, a neighbour's bit flips in the middle (both racers' first CAS fail
because of it and they retry): thread 0 wins, thread 1 returns false, thread 2 is still racing. -/
example :
    let s := exec (markProto 1) (init (markProto 1) 0 0)
      [.thread 0, .thread 1, .thread 0, .thread 1, .env 8, .thread 0, .thread 1, .thread 1, .thread 2, .thread 0,
       .thread 0, .thread 0, .thread 1, .thread 1, .thread 1]
    s.pc 0 = .ret true ∧ s.pc 1 = .ret false ∧ s.pc 2 = .l2 0 ∧ s.sh.field = 1 ∧ s.sh.winner = some 0 := by
  decide

theorem entry_not_ret (P : Proto) (b : Bool) : P.entry ≠ .ret b := by
  unfold Proto.entry; split <;> simp

/-- The shape of each clause of `outcomeOk`: `trues == _ && final == _`. -/
theorem and_beq (a c : Nat) : (a == a && c == c) = true := by
  rw [beq_self_eq_true, beq_self_eq_true]; rfl

theorem trues_eq {P : Proto} (hP : P.WF) {f0 o0 : Nat} {s : State} (h : Reachable P f0 o0 s) (n : Nat)
    (hidle : ∀ x, n ≤ x → s.pc x = P.entry) : trues n s = if s.sh.winner = none then 0 else 1 := by
  have inv := reachable_inv hP h
  unfold trues
  cases hwin : s.sh.winner with
  | none =>
    rw [if_pos rfl, List.length_eq_zero_iff, List.filter_eq_nil_iff]
    intro x _ hx
    exact nomatch hwin.symm.trans (inv.at (of_decide_eq_true hx))
  | some w =>
    have hw := winner_returns_true hP h w hwin
    have hwn : w < n := Nat.lt_of_not_le fun hle => entry_not_ret P true ((hidle w hle).symm.trans hw)
    have : ∀ x, decide (s.pc x = .ret true) = (x == w) := fun x => by
      rw [Bool.eq_iff_iff, decide_eq_true_iff, beq_iff_eq]
      exact ⟨fun hx => Option.some.inj ((inv.at hx).symm.trans hwin), fun e => e ▸ hw⟩
    rw [if_neg nofun, List.filter_congr fun x _ => this x, ← List.count_eq_length_filter, List.count_range,
      if_pos hwn]

/-- **C18 (tie)** Every finished run has an outcome accepted by the executable predicate `outcomeOk`
(`Model/CasBitTie.lean`) the check evaluates on real-thread races; the verdict's `env` argument is the
ghost `envMoved`: the environment touched the neighbouring bits. -/
theorem outcome_sound {P : Proto} (hP : P.WF) {f0 o0 : Nat} {s : State} (h : Reachable P f0 o0 s) (n : Nat)
    (hn : 0 < n) (hfin : ∀ x, x < n → ∃ b, s.pc x = .ret b) (hidle : ∀ x, n ≤ x → s.pc x = P.entry) :
    outcomeOk P f0 s.sh.field (trues n s) s.sh.envMoved = true := by
  have inv := reachable_inv hP h
  rw [trues_eq hP h n hidle]
  unfold outcomeOk
  by_cases hwin : s.sh.winner = none
  · -- nobody has won: the field is unchanged, and thread 0 returned `false` for a reason
    obtain ⟨b0, hb0⟩ := hfin 0 hn
    cases b0 with
    | true => exact nomatch hwin.symm.trans (inv.at hb0)
    | false =>
      obtain ⟨-, hd, hss⟩ := inv.at hb0
      rw [inv.g.unchanged hwin] at hd ⊢
      rw [if_pos hwin]
      cases hs : P.single with
      | false => rw [if_neg Bool.false_ne_true, hd hs, if_pos rfl]; exact and_beq ..
      | true =>
        rw [if_pos rfl]
        split
        next hc =>
          simp only [Bool.and_eq_true, Bool.not_eq_true', beq_iff_eq] at hc
          exact absurd hwin (hss hs hc.1 hc.2)
        · rw [and_beq]; rfl
  · obtain ⟨-, hnd, hf⟩ := inv.g.changed hwin
    rw [if_neg hwin, hf]
    cases P.single with
    | false => rw [if_neg Bool.false_ne_true, hnd, if_neg Bool.false_ne_true]; exact and_beq ..
    | true =>
      rw [if_pos rfl]
      split
      · exact and_beq ..
      · rw [and_beq]; exact Bool.or_true _

/-- `outcomeOk` is not vacuous: two winners, no winner, or a wrong final field are rejected. -/
example : outcomeOk (markProto 1) 0 1 1 true = true ∧ outcomeOk (markProto 1) 0 1 2 false = false ∧
    outcomeOk (markProto 1) 0 1 0 false = false ∧ outcomeOk (markProto 1) 0 0 1 false = false ∧
    outcomeOk (markProto 1) 1 1 0 false = true ∧ outcomeOk (markProto 1) 1 1 1 false = false ∧
    outcomeOk pinProto 0 1 1 false = true ∧ outcomeOk pinProto 0 0 0 false = false ∧
    outcomeOk pinProto 0 0 0 true = true ∧ outcomeOk pinProto 0 1 2 true = false := by
  decide

end Mmtk.CasBit
