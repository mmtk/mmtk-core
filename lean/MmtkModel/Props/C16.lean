import MmtkModel.Lemmas.SchedLive
import MmtkModel.Lemmas.SchedExitGc
import MmtkModel.Lemmas.SchedLiveWitness
import MmtkModel.Generated.Stages
/-!
# C16 — Worker shutdown and fork round-trip every worker exactly once

Model: `Model/Sched.lean` with the goals `StopForFork` / `Shutdown`: `respond_to_requests` returns
`WakeAll`; every worker that unparks while an exit goal is current leaves its loop (`exited`) and
surrenders its `GCWorker` struct (`surrendered`, pool + 1); the `n`-th surrender completes the goal;
`respawn` moves all `n` structs back to running threads.  All theorems: every reachable state / every
transition, all interleavings, all `n ≥ 1`.

* `exit_only_on_request` — a worker is in the exited state only while an exit goal is current.
* `exit_once` — the only transitions *into* `exited` are a worker's own `park`/`wake` (from
  `parking`/`woken`, never from `exited` or `surrendered`), the only transition out of it is its own
  `surrender`, and a surrendered worker leaves that state only through `respawn`.  These are the edges of the worker
  automaton at `exited` and `surrendered`; no statement here counts exits per request.
* `surrender_once` — the pool size is exactly the number of surrendered workers (no struct twice).
* `goal_completed_once` — the exit goal is completed by exactly the transition that puts the `n`-th
  struct into the pool; afterwards no goal is current.
* `no_work_lost` — stop, surrender and respawn do not touch any bucket, local deque or designated
  queue, and the local deque inside every exited / surrendered / parked struct is empty.
* `respawn_restores` — after `respawn` every worker is at its loop head with its own (empty) deque,
  the state is `Spawned`, `parked_workers = 0`, no goal is current.
* `gc_after_fork` — a step from a reachable state leads to a reachable state; so the state after `respawn` is a
  reachable state of the same system, and every theorem of C14/C15 applies to the GCs that follow.
* **liveness** (`Lemmas/SchedLiveRun.lean`: `FairRun` = weak fairness of every worker's loop actions `take`,
  `look`, `miss`, `park`, `wake`, `surrender`, `finish`):
  - `workers_exit_after_goal` — once an exit goal is current and the surrender pool is prepared (`ExitPhase`: the
    state right after the last parker started the goal), under `FairRun` alone (any environment actions, any spurious
    wake-ups) all `n` workers end up `surrendered`; each worker goes `woken → exited → surrendered`.
  - `workers_exit_under_fairness` — from the *request*, under the hypotheses of C14, provided no Gc request is pending
    or arrives.  Together with `exit_once` / `surrender_once`: every worker exits exactly once and surrenders exactly once.
  - `exit_request_survives_gc` (`Lemmas/SchedExitGc.lean`) — the exit request arrives WHILE a GC is in progress
    (`prepare_to_fork` / `mmtk_shutdown` called during a collection; the `notify_one` of `make_request` is consumed
    by a worker that sees `current = Gc`, finds nothing and parks again): the `park` that completes the GC serves it.
  - `workers_exit_under_fairness_during_gc` — the combined statement: the GC completes first, strictly later an exit
    goal is current, and finally all `n` workers are `surrendered`.  Proof: `gc_completing_step` (the core of C14's
    `gc_completes_under_fairness`) gives the completing step; the invariant `gcPending_exitReq_step` carries the
    request and the pool up to it; `exit_request_survives_gc` splits into `workers_exit_after_goal` (goal started) and
    `workers_exit_under_fairness` (concurrent work: request still set).
  - `exit_hypotheses_satisfiable`, `exit_during_gc_hypotheses_satisfiable` — concrete runs satisfying every hypothesis
    (kernel-evaluated), the theorems applied to them, and the 2-worker scenario of a fork request during a GC
    (`forkDuringGcRun`) evaluated by `decide`.
  Remaining hypothesis (explicit): no *further* Gc request after the GC in progress (`Gc` has priority over the exit
  goals, so an unbounded stream of GC requests starves an exit request — by design of `poll_next_goal`).
-/
namespace Mmtk.Sched

theorem exit_only_on_request {c : Cfg} (hn : 0 < c.n) {s : State} (h : Reachable c s) (x : Nat) (hx : x < c.n)
    (he : s.pc x = .exited) : ∃ g, s.current = some g ∧ g.isExit = true :=
  (reachable_invE hn h).exited x hx he

theorem exit_once {c : Cfg} {s s' : State} {a : Act} (hr : Reachable c s) (hs : step c s a = some s') (x : Nat)
    (hx : x < c.n) :
    (s'.pc x = .exited → s.pc x ≠ .exited →
        (∃ tag, a = .park x tag ∧ s.pc x = .parking) ∨ (a = .wake x ∧ s.pc x = .woken)) ∧
    (s.pc x = .exited → s'.pc x ≠ .exited → a = .surrender x ∧ s'.pc x = .surrendered) ∧
    (s.pc x = .surrendered → s'.pc x ≠ .surrendered → a = .respawn) := by
  -- the worker automaton, read at the three program points
  have hm := (step_eff hs).pcMove x
  refine ⟨fun h1 h2 => ?_, fun h1 h2 => ?_, fun h1 h2 => ?_⟩
  · rw [h1] at hm
    generalize s.pc x = p at hm h2
    cases hm with
    | same => exact absurd rfl h2
    | parked tag _ e => exact Or.inl ⟨tag, e, rfl⟩
    | woke _ e => exact Or.inr ⟨e, rfl⟩
  · rw [h1] at hm
    generalize s'.pc x = p' at hm h2
    cases hm with
    | same => exact absurd rfl h2
    | surrendered e => exact ⟨e, rfl⟩
    | respawned _ e =>
      subst e
      have := (step_respawn_pre hr hs).2.1 x hx
      rw [h1] at this; cases this
  · rw [h1] at hm
    generalize s'.pc x = p' at hm h2
    cases hm with
    | same => exact absurd rfl h2
    | respawned _ e => exact e

/-- `InvA.pool` of a reachable state (C14 states the same fact as `pool_count_exact`): the pool holds exactly the
structs of the surrendered workers, none twice -/
theorem surrender_once {c : Cfg} {s : State} (h : Reachable c s) (k : Nat) (hk : s.creation = .surrendered k) :
    k = countW c.n (fun x => decide (s.pc x = .surrendered)) :=
  (reachable_invA h).pool k hk

theorem goal_completed_once {c : Cfg} {s s' : State} {a : Act} (hs : step c s a = some s')
    (hd : s'.exitsDone ≠ s.exitsDone) :
    ∃ w, a = .surrender w ∧ s.creation = .surrendered (c.n - 1) ∧ s'.creation = .surrendered c.n ∧
      s'.current = none ∧ s'.exitsDone = s.exitsDone + 1 ∧ 0 < c.n := by
  rcases (step_eff hs).goal_writers with ⟨w, tag, rfl, _⟩ | ⟨w, rfl, _, _⟩ | ⟨_, _, h, _⟩
  · rcases (step_park_eff hs).2.2 with ⟨_, rfl⟩ | ⟨_, s1, r, pcs, k, hl, _, rfl⟩
    · exact absurd rfl hd
    · exact absurd (onLastParked_lpFrame hl).exitsDone hd
  · cases step_eff hs with
    | surrender => exact absurd rfl hd
    | surrenderLast _ k hcr _ _ hk =>
      exact ⟨w, rfl, by rw [hcr, ← hk]; rfl, by rw [← hk], rfl, rfl, by omega⟩
    | poll _ _ _ _ h | work _ _ _ h | mutator h => cases h
  · exact absurd h hd

theorem no_work_lost_frame {c : Cfg} {s s' : State} {a : Act} (hs : step c s a = some s')
    (ha : (∃ w, a = .surrender w) ∨ a = .respawn ∨ a = .prepareSurrender) :
    s'.bkt = s.bkt ∧ s'.buf = s.buf ∧ s'.desig = s.desig := by
  rcases ha with ⟨w, rfl⟩ | rfl | rfl <;> cases step_eff hs with
  | poll _ _ _ _ hP => cases hP
  | work _ _ _ hW => cases hW
  | mutator hM => cases hM <;> exact ⟨rfl, rfl, rfl⟩
  | _ => exact ⟨rfl, rfl, rfl⟩

theorem no_work_lost {c : Cfg} {s : State} (h : Reachable c s) (x : Nat) (hx : x < c.n)
    (hp : s.pc x = .exited ∨ s.pc x = .surrendered ∨ s.pc x = .waiting ∨ s.pc x = .woken ∨ s.pc x = .parking) :
    s.buf x = [] := by
  have := reachable_invF h x hx
  unfold bufOk at this
  rcases hp with e | e | e | e | e <;> (rw [e] at this; exact this)

theorem respawn_restores {c : Cfg} (hn : 0 < c.n) {s s' : State} (hr : Reachable c s) (hs : step c s .respawn = some s') :
    (∀ x, x < c.n → s'.pc x = .polling [] ∧ s'.buf x = []) ∧ s'.creation = .spawned ∧ s'.parked = 0 ∧
    s'.current = none ∧ s'.bkt = s.bkt ∧ s'.desig = s.desig := by
  have hA := reachable_invA hr
  have hE := reachable_invE hn hr
  obtain ⟨hcr, hall, rfl⟩ := step_respawn_pre hr hs
  refine ⟨fun x hx => ⟨if_pos hx, no_work_lost hr x hx (Or.inr (Or.inl (hall x hx)))⟩, rfl, ?_, hE.done hcr, rfl, rfl⟩
  show s.parked = 0
  rw [hA.parked_eq]
  apply countW_zero; intro x hx; rw [hall x hx]; rfl

theorem gc_after_fork {c : Cfg} {s s' : State} {a : Act} (hr : Reachable c s) (hs : step c s a = some s') :
    Reachable c s' :=
  reachable_step hr hs

/-- the exit phase: an exit goal is current, `prepare_surrender_buffer` has been called, and every worker
has been notified (`woken`), has left its loop (`exited`) or has surrendered its struct -/
def ExitPhase (c : Cfg) (s : State) : Prop :=
  (∃ g, s.current = some g ∧ g.isExit = true) ∧ (∃ k, s.creation = .surrendered k) ∧
  ∀ w, w < c.n → qLate (s.pc w) = true

theorem exitPhase_of_wakeAll {c : Cfg} {s : State} {w : Nat} (hg : ∃ g, s.current = some g ∧ g.isExit = true)
    (hk : ∃ k, s.creation = .surrendered k) (hothers : ∀ x, x < c.n → x ≠ w → s.pc x = .woken)
    (hw : s.pc w = .exited) : ExitPhase c s := by
  refine ⟨hg, hk, fun x hx => ?_⟩
  by_cases e : x = w
  · subst e; rw [hw]; rfl
  · rw [hothers x hx e]; rfl

theorem exitPhase_step {c : Cfg} {s s' : State} {a : Act} (hr : Reachable c s) (h : ExitPhase c s)
    (hs : step c s a = some s') (hG : ¬ ∀ w, w < c.n → s.pc w = .surrendered)
    (hG' : ¬ ∀ w, w < c.n → s'.pc w = .surrendered) : ExitPhase c s' := by
  obtain ⟨hgoal, hcr, hlate⟩ := h
  have hnoresp : a ≠ .respawn := fun e => hG (step_respawn_pre hr (e ▸ hs)).2.1
  refine ⟨?_, (prepared_step hcr hs).resolve_right hnoresp, fun w hw => ?_⟩
  · -- the goal stays: no worker is parking, and the last `surrender` would leave everybody surrendered
    rcases (step_eff hs).goal_writers with ⟨w, tag, rfl, _⟩ | ⟨w, rfl, _, _⟩ | ⟨hcur, _⟩
    · obtain ⟨hw, hp, _⟩ := step_park_eff hs
      have := hlate w hw; rw [hp] at this; cases this
    · cases step_eff hs with
      | surrender => exact hgoal
      | surrenderLast _ k _ _ _ hk =>
        exact absurd (all_surrendered_of_pool_full (reachable_invA (reachable_step hr hs)) (by rw [← hk])) hG'
      | poll _ _ _ _ h | work _ _ _ h | mutator h => cases h
    · rw [hcur]; exact hgoal
  · rcases step_late_stable late_qLate hs w (hlate w hw) with h | rfl | rfl | rfl
    · exact h
    · rw [step_wake_exit hs hgoal]; rfl
    · rw [step_surrender_pc hs]; rfl
    · exact absurd rfl hnoresp

theorem workers_exit_after_goal {c : Cfg} {tr : Nat → State} {act : Nat → Option Act} (hn : 0 < c.n)
    (R : FairRun c tr act) (h0 : ExitPhase c (tr 0)) : ∃ j, ∀ w, w < c.n → (tr j).pc w = .surrendered := by
  apply Classical.byContradiction
  intro hno
  have hG : ∀ j, ¬ ∀ w, w < c.n → (tr j).pc w = .surrendered := fun j h => hno ⟨j, h⟩
  have hI : ∀ j, ExitPhase c (tr j) :=
    R.always (Q := ExitPhase c) h0 (fun j a _ hs ih => exitPhase_step (R.reach j) ih hs (hG j) (hG (j+1)))
  have hnoresp : ∀ j, act j ≠ some .respawn := fun j ha =>
    hG j (step_respawn_pre (R.reach j) (R.step_at ha)).2.1
  -- a surrendered worker stays surrendered, an exited one exited until its own `surrender`: `exit_once`
  have surrForever : ∀ x, x < c.n → ∀ j, (tr j).pc x = .surrendered → ∀ i, j ≤ i → (tr i).pc x = .surrendered := by
    intro x hx j h i hi
    induction hi with
    | refl => exact h
    | @step i _ ih =>
      cases ha : act i with
      | none => rw [R.stutter_at ha]; exact ih
      | some a =>
        by_cases e : (tr (i + 1)).pc x = .surrendered
        · exact e
        · exact absurd ((exit_once (R.reach i) (R.step_at ha) x hx).2.2 ih e ▸ ha) (hnoresp i)
  -- the `surrender` of an exited worker is enabled (the pool is prepared), so it happens
  have fromExited : ∀ x, x < c.n → ∀ j, (tr j).pc x = .exited → ∃ J, ∀ i, J ≤ i → (tr i).pc x = .surrendered := by
    intro x hx j h
    obtain ⟨m, _, _, a, ha, rfl⟩ := wf1 R (.surrender x) (fun s => s.pc x = .exited) j h
      (fun m a _ ha hPm hnt => Classical.byContradiction fun e =>
        hnt ((exit_once (R.reach m) (R.step_at ha) x hx).2.1 hPm e).1)
      (fun m _ hPm => by
        obtain ⟨_, ⟨k, hcr⟩, _⟩ := hI m
        refine ⟨.surrender x, rfl, ?_⟩
        simp only [step, hcr]
        rw [if_pos ⟨hx, hPm⟩]
        split <;> rfl)
    exact ⟨m + 1, surrForever x hx (m + 1) (step_surrender_pc (R.step_at ha))⟩
  obtain ⟨J, hJ⟩ := eventually_forall_lt c.n (fun w j => (tr j).pc w = .surrendered) (fun x hx => by
    have hl := (hI 0).2.2 x hx
    cases hp : (tr 0).pc x with
    | woken =>
      obtain ⟨m, _, _, ha⟩ := woken_leads_to_wake R hx hp
      exact fromExited x hx (m + 1) (step_wake_exit (R.step_at ha) (hI m).1)
    | exited => exact fromExited x hx 0 hp
    | surrendered => exact ⟨0, surrForever x hx 0 hp⟩
    | _ => rw [hp] at hl; cases hl)
  exact hG J (fun w hw => hJ w hw J (Nat.le_refl _))

/-- `prepare_surrender_buffer` has been called at the start: `stop_gc_threads_for_forking` does so before `make_request`.  No Gc
request is pending or arrives: `Gc` has priority over exit goals, a GC requested meanwhile is served first
(`gc_completes_under_fairness`) and this theorem applies to the run after it. -/
theorem workers_exit_under_fairness {c : Cfg} {tr : Nat → State} {act : Nat → Option Act}
    (hn : 0 < c.n) (hmut : c.mutAddOpen = false) (hu : c.unconIdx < c.L)
    (R : FairRun c tr act) (hN : FiniteSpawn tr) (hE : FiniteEnv act) (hA : NoAssert c tr)
    (hreq : (tr 0).reqShutdown = true ∨ (tr 0).reqFork = true) (hcur : (tr 0).current = none)
    (hns : ∀ w, w < c.n → (tr 0).pc w ≠ .surrendered) (hcr : ∃ k, (tr 0).creation = .surrendered k)
    (hnogc : ∀ j, (tr j).reqGc = false) :
    ∃ j0 j, j0 ≤ j ∧ (∃ g, (tr j0).current = some g ∧ g.isExit = true) ∧ (∀ w, w < c.n → (tr j).pc w = .surrendered) := by
  have hP0 : Pending c (tr 0) := by
    have hnx : NoExit (tr 0) := fun g hg => by rw [hcur] at hg; cases hg
    refine ⟨Or.inl ?_, hnx, hns⟩
    simp only [anyRequested, Bool.or_eq_true]
    exact hreq.elim (fun h => Or.inl (Or.inr h)) Or.inr
  -- nothing changes up to the first `park` of a last parker; that one starts the exit goal and wakes everybody
  obtain ⟨j0, w, tag, hact, hlast, hpre⟩ := first_last_park hn hu R hN hE hA hP0
  obtain ⟨_, hc0, _, _, hs0, hf0, hk0⟩ := hpre j0 (Nat.le_refl _)
  have hs := R.step_at hact
  obtain ⟨s1, r, pcs, k, hlp, _, he⟩ := step_park_last hs hlast
  have hre : respond c { tr j0 with parked := (tr j0).parked + 1, trace := [] } tag = some (s1, r) :=
    (onLastParked_cases hlp).elim (·.2) (fun h => absurd ((hc0.trans hcur).symm.trans h.1) nofun)
  obtain ⟨rfl, g, hg1, hg2⟩ := respond_exit hre (hnogc j0) (hreq.imp hs0 hf0)
  obtain ⟨hothers, _, hexit⟩ := step_park_wakeAll_pcs (R.reach j0) hs hlast hlp
  have hcur1 : (tr (j0 + 1)).current = some g := by rw [he]; exact hg1
  have hphase : ExitPhase c (tr (j0 + 1)) :=
    exitPhase_of_wakeAll ⟨g, hcur1, hg2⟩ ((prepared_step (hk0 hcr) hs).resolve_right (fun e => by cases e))
      hothers (hexit g hcur1 hg2)
  obtain ⟨j, hj⟩ := workers_exit_after_goal hn (R.shift (j0 + 1)) hphase
  exact ⟨j0 + 1, j0 + 1 + j, by omega, hphase.1, hj⟩

theorem gcPending_exitReq_step {c : Cfg} (hn : 0 < c.n) {s s' : State} {a : Act} (hr : Reachable c s)
    (hp : GcPending c s) (hreq : s.reqShutdown = true ∨ s.reqFork = true) (hk : ∃ k, s.creation = .surrendered k)
    (hs : step c s a = some s') (hd : s'.gcDone = s.gcDone) :
    GcPending c s' ∧ (s'.reqShutdown = true ∨ s'.reqFork = true) ∧ ∃ k, s'.creation = .surrendered k := by
  have hcre := creation_prepared_step hn hr hp.pending hs hk
  by_cases hnl : IsLastPark c s (some a)
  · obtain ⟨w, tag, ha, hlast⟩ := hnl
    cases ha
    obtain ⟨s1, r, pcs, k, hl, _, rfl⟩ := step_park_last hs hlast
    obtain ⟨k1, k2, k3⟩ := onLastParked_keeps_exit_reqs hl hp.1 hd
    refine ⟨⟨Or.inr k1, noExit_of_gc k1, step_park_nosurr hs hp.2.2⟩, ?_, hcre⟩
    show s1.reqShutdown = true ∨ s1.reqFork = true
    rw [k2, k3]; exact hreq
  · obtain ⟨f1, f2, f3, f4, _⟩ := nonlast_step_frame hn hr hp.2.1 hs hnl
    have hp' := pending_step hn hr hp.pending hs hnl
    exact ⟨⟨hp.1.imp f2 (fun h => f1.trans h), hp'.2.1, hp'.2.2⟩, hreq.imp f3 f4, hcre⟩

/-- The exit request is pending while a Gc request is pending or a GC is in progress (`GcPending`: e.g. `prepare_to_fork` called
from inside a collection); once that GC has completed no further Gc request is pending (for a concurrent plan the theorem is
applied at the final pause).  `jg → jg+1` is the `park` that completes the GC, at `j0` an exit goal is current, at `j` all `n`
workers are `surrendered`. -/
theorem workers_exit_under_fairness_during_gc {c : Cfg} {tr : Nat → State} {act : Nat → Option Act}
    (hn : 0 < c.n) (hmut : c.mutAddOpen = false) (hu : c.unconIdx < c.L)
    (R : FairRun c tr act) (hN : FiniteSpawn tr) (hE : FiniteEnv act) (hA : NoAssert c tr)
    (hP : GcPending c (tr 0)) (hreq : (tr 0).reqShutdown = true ∨ (tr 0).reqFork = true)
    (hcr : ∃ k, (tr 0).creation = .surrendered k)
    (hnogc : ∀ i j, i ≤ j → (tr i).gcDone ≠ (tr 0).gcDone → (tr j).reqGc = false) :
    ∃ jg j0 j w tag, jg < j0 ∧ j0 ≤ j ∧ act jg = some (.park w tag) ∧ (tr jg).current = some .gc ∧
      (∀ i, i ≤ jg → (tr i).gcDone = (tr 0).gcDone ∧ NoExit (tr i)) ∧ (tr (jg+1)).gcDone ≠ (tr 0).gcDone ∧
      (∃ g, (tr j0).current = some g ∧ g.isExit = true) ∧ (∀ x, x < c.n → (tr j).pc x = .surrendered) := by
  obtain ⟨jg, w, tag, ha, hsame, hne⟩ := gc_completing_step hn hu R hN hE hA hP
  have hs := R.step_at ha
  -- up to the completing step: the GC stays pending, the exit request and the pool stay
  have hpre : ∀ i, i ≤ jg → GcPending c (tr i) ∧ ((tr i).reqShutdown = true ∨ (tr i).reqFork = true) ∧
      ∃ k, (tr i).creation = .surrendered k :=
    R.until (Q := fun s => GcPending c s ∧ (s.reqShutdown = true ∨ s.reqFork = true) ∧ ∃ k, s.creation = .surrendered k)
      jg ⟨hP, hreq, hcr⟩ (fun i a hi _ hs ⟨hp, hrq, hk⟩ =>
        gcPending_exitReq_step hn (R.reach i) hp hrq hk hs ((hsame (i+1) hi).trans (hsame i (Nat.le_of_lt hi)).symm))
  obtain ⟨hpg, hrqg, kg, hkg⟩ := hpre jg (Nat.le_refl _)
  have hne0 : (tr (jg+1)).gcDone ≠ (tr 0).gcDone := by
    have := hsame jg (Nat.le_refl _); rw [← this]; exact hne
  obtain ⟨hcg, _, _, hcre, hothers, hcases⟩ := exit_request_survives_gc (R.reach jg) hs hne hrqg
  have hbefore : ∀ i, i ≤ jg → (tr i).gcDone = (tr 0).gcDone ∧ NoExit (tr i) :=
    fun i hi => ⟨hsame i hi, (hpre i hi).1.2.1⟩
  have hcr1 : ∃ k, (tr (jg+1)).creation = .surrendered k := ⟨kg, by rw [hcre]; exact hkg⟩
  rcases hcases with ⟨hgoal, hpcw⟩ | ⟨hnone, _, hrq1, hpcw⟩
  · -- `respond_to_requests` started the exit goal
    obtain ⟨j, hj⟩ := workers_exit_after_goal hn (R.shift (jg + 1)) (exitPhase_of_wakeAll hgoal hcr1 hothers hpcw)
    exact ⟨jg, jg + 1, jg + 1 + j, w, tag, by omega, by omega, ha, hcg, hbefore, hne0, hgoal, hj⟩
  · -- concurrent work was scheduled: the request is still pending, no goal is current
    obtain ⟨j0, j, hle, hg, hj⟩ := workers_exit_under_fairness hn hmut hu (R.shift (jg + 1)) (hN.shift (jg + 1))
      (hE.shift (jg + 1)) (hA.shift (jg + 1)) hrq1 hnone
      (fun x hx => by
        by_cases e : x = w
        · subst e; rw [hpcw]; simp
        · rw [hothers x hx e]; simp)
      hcr1 (fun i => hnogc (jg + 1) (jg + 1 + i) (by omega) hne0)
    exact ⟨jg, jg + 1 + j0, jg + 1 + j, w, tag, by omega, by omega, ha, hcg, hbefore, hne0, hg, hj⟩

open Mmtk.Generated.Stages in
/-- one worker; `prepare_surrender_buffer` and `make_request(StopForFork)` have been called -/
def exitStart : State :=
  (exec (cfg 1) (init (cfg 1)) [.prepareSurrender, .makeRequest .stopForFork none]).getD (init (cfg 1))

open Mmtk.Generated.Stages in
/-- the worker finds nothing, parks (last parker: starts the exit goal, leaves its loop), surrenders (goal
completed); the binding respawns it; it finds nothing and goes to sleep -/
def exitRun : List Act :=
  (allConts (cfg 1)).map (Act.observeEmpty 0) ++ [.pollMiss 0, .park 0 0, .surrender 0, .respawn] ++
  (allConts (cfg 1)).map (Act.observeEmpty 0) ++ [.pollMiss 0, .park 0 0]

open Mmtk.Generated.Stages in
theorem exit_hypotheses_satisfiable :
    0 < (cfg 1).n ∧ (cfg 1).mutAddOpen = false ∧ (cfg 1).unconIdx < (cfg 1).L ∧
    FairRun (cfg 1) (runStates (cfg 1) exitStart exitRun) (fun k => exitRun[k]?) ∧
    FiniteSpawn (runStates (cfg 1) exitStart exitRun) ∧ FiniteEnv (fun k => exitRun[k]?) ∧
    NoAssert (cfg 1) (runStates (cfg 1) exitStart exitRun) ∧
    ((runStates (cfg 1) exitStart exitRun 0).reqShutdown = true ∨ (runStates (cfg 1) exitStart exitRun 0).reqFork = true) ∧
    (runStates (cfg 1) exitStart exitRun 0).current = none ∧
    (∀ w, w < (cfg 1).n → (runStates (cfg 1) exitStart exitRun 0).pc w ≠ .surrendered) ∧
    (∃ k, (runStates (cfg 1) exitStart exitRun 0).creation = .surrendered k) ∧
    (∀ j, (runStates (cfg 1) exitStart exitRun j).reqGc = false) := by
  have hreach : Reachable (cfg 1) exitStart := reachable_getD (by decide +kernel)
  obtain ⟨hF, hS, hEv, hNA, hp⟩ := finite_run_fair (l := exitRun) hreach 0 (fun s => !s.reqGc) (by decide +kernel)
  have h0 : exitStart.reqFork = true ∧ exitStart.current = none ∧ exitStart.pc 0 ≠ .surrendered ∧
      exitStart.creation = .surrendered 0 := by decide +kernel
  refine ⟨by decide, rfl, by decide, hF, hS, hEv, hNA, ?_, ?_, ?_, ?_, fun j => by simpa using hp j⟩
  all_goals rw [runStates_zero]
  · exact Or.inr h0.1
  · exact h0.2.1
  · intro w hw
    have : w = 0 := by have : (cfg 1).n = 1 := rfl; omega
    subst this; exact h0.2.2.1
  · exact ⟨0, h0.2.2.2⟩

open Mmtk.Generated.Stages in
example : ∃ j, ∀ w, w < (cfg 1).n → (runStates (cfg 1) exitStart exitRun j).pc w = .surrendered := by
  obtain ⟨h1, h2, h3, h4, h5, h6, h7, h8, h9, h10, h11, h12⟩ := exit_hypotheses_satisfiable
  obtain ⟨_, j, _, _, hj⟩ := workers_exit_under_fairness h1 h2 h3 h4 h5 h6 h7 h8 h9 h10 h11 h12
  exact ⟨j, hj⟩

open Mmtk.Generated.Stages in
/-- one worker; a GC has been requested and started, the worker runs `ScheduleCollection`, and *meanwhile*
`prepare_surrender_buffer` + `make_request(StopForFork)` are called (nobody waits: the `notify_one` is lost) -/
def forkGcStart : State :=
  (exec (cfg 1) (init (cfg 1)) ([.requestFlag, .makeRequest .gc none] ++
    (allConts (cfg 1)).map (Act.observeEmpty 0) ++ [.pollMiss 0, .park 0 7, .pollBucket 0 0 ⟨0, 0, 7⟩,
      .prepareSurrender, .makeRequest .stopForFork none])).getD (init (cfg 1))

open Mmtk.Generated.Stages in
/-- the packet ends, the worker finds nothing and parks: it completes the GC and `respond` starts the exit goal;
the worker leaves its loop and surrenders; the binding respawns it; it finds nothing and goes to sleep -/
def forkGcRun : List Act :=
  [.execEnd 0] ++ (allConts (cfg 1)).map (Act.observeEmpty 0) ++ [.pollMiss 0, .park 0 0, .surrender 0, .respawn] ++
  (allConts (cfg 1)).map (Act.observeEmpty 0) ++ [.pollMiss 0, .park 0 0]

open Mmtk.Generated.Stages in
/-- the request really is made while the GC is in progress, and the completing park serves it -/
example : (forkGcStart.current, forkGcStart.reqFork, forkGcStart.gcDone, forkGcStart.pc 0) =
    (some .gc, true, 0, .exec ⟨0, 0, 7⟩) := by decide +kernel

open Mmtk.Generated.Stages in
example : (exec (cfg 1) forkGcStart (forkGcRun.take ((allConts (cfg 1)).length + 3))).map
    (fun s => (s.current, s.reqFork, s.gcDone, s.pc 0)) = some (some .stopForFork, false, 1, .exited) := by
  decide +kernel

open Mmtk.Generated.Stages in
theorem exit_during_gc_hypotheses_satisfiable :
    0 < (cfg 1).n ∧ (cfg 1).mutAddOpen = false ∧ (cfg 1).unconIdx < (cfg 1).L ∧
    FairRun (cfg 1) (runStates (cfg 1) forkGcStart forkGcRun) (fun k => forkGcRun[k]?) ∧
    FiniteSpawn (runStates (cfg 1) forkGcStart forkGcRun) ∧ FiniteEnv (fun k => forkGcRun[k]?) ∧
    NoAssert (cfg 1) (runStates (cfg 1) forkGcStart forkGcRun) ∧
    GcPending (cfg 1) (runStates (cfg 1) forkGcStart forkGcRun 0) ∧
    ((runStates (cfg 1) forkGcStart forkGcRun 0).reqShutdown = true ∨ (runStates (cfg 1) forkGcStart forkGcRun 0).reqFork = true) ∧
    (∃ k, (runStates (cfg 1) forkGcStart forkGcRun 0).creation = .surrendered k) ∧
    (∀ i j, i ≤ j → (runStates (cfg 1) forkGcStart forkGcRun i).gcDone ≠ (runStates (cfg 1) forkGcStart forkGcRun 0).gcDone →
      (runStates (cfg 1) forkGcStart forkGcRun j).reqGc = false) := by
  have hreach : Reachable (cfg 1) forkGcStart := reachable_getD (by decide +kernel)
  obtain ⟨hF, hS, hEv, hNA, hp⟩ := finite_run_fair (l := forkGcRun) hreach 1 (fun s => !s.reqGc) (by decide +kernel)
  have h0 : forkGcStart.current = some .gc ∧ forkGcStart.pc 0 ≠ .surrendered ∧ forkGcStart.reqFork = true ∧
      forkGcStart.creation = .surrendered 0 := by decide +kernel
  refine ⟨by decide, rfl, by decide, hF, hS, hEv, hNA, ?_, ?_, ?_, fun i j _ _ => by simpa using hp j⟩
  all_goals rw [runStates_zero]
  · refine ⟨Or.inr h0.1, noExit_of_gc h0.1, fun w hw => ?_⟩
    have : w = 0 := by have : (cfg 1).n = 1 := rfl; omega
    subst this; exact h0.2.1
  · exact Or.inr h0.2.2.1
  · exact ⟨0, h0.2.2.2⟩

open Mmtk.Generated.Stages in
example : ∃ jg j, jg < j ∧ (runStates (cfg 1) forkGcStart forkGcRun (jg+1)).gcDone ≠
      (runStates (cfg 1) forkGcStart forkGcRun 0).gcDone ∧
    ∀ w, w < (cfg 1).n → (runStates (cfg 1) forkGcStart forkGcRun j).pc w = .surrendered := by
  obtain ⟨h1, h2, h3, h4, h5, h6, h7, h8, h9, h10, h11⟩ := exit_during_gc_hypotheses_satisfiable
  obtain ⟨jg, j0, j, _, _, hlt, hle, _, _, _, hd, _, hj⟩ :=
    workers_exit_under_fairness_during_gc h1 h2 h3 h4 h5 h6 h7 h8 h9 h10 h11
  exact ⟨jg, j, by omega, hd, hj⟩

open Mmtk.Generated.Stages in
/-- a fork request during a GC, 2 workers: worker 1 sleeps, worker 0 (last parker) starts the GC and runs
`ScheduleCollection`; `prepare_to_fork` arrives now: its single `notify_one` wakes worker 1, which sees
`current = Gc`, finds nothing and goes back to sleep; worker 0 finishes, parks as the last parker: the GC is
completed and `respond` starts `StopForFork` — worker 0 has left its loop, worker 1 is woken. -/
def forkDuringGcRun : List Act :=
  (allConts (cfg 2)).map (Act.observeEmpty 1) ++ [.pollMiss 1, .park 1 0, .requestFlag, .makeRequest .gc (some 1)] ++
  (allConts (cfg 2)).map (Act.observeEmpty 0) ++ [.pollMiss 0, .wake 1] ++
  (allConts (cfg 2)).map (Act.observeEmpty 1) ++ [.pollMiss 1, .park 1 0, .park 0 7, .pollBucket 0 0 ⟨0, 0, 7⟩,
    .prepareSurrender, .makeRequest .stopForFork (some 1), .wake 1] ++
  (allConts (cfg 2)).map (Act.observeEmpty 1) ++ [.pollMiss 1, .park 1 0, .execEnd 0] ++
  (allConts (cfg 2)).map (Act.observeEmpty 0) ++ [.pollMiss 0, .park 0 0]

open Mmtk.Generated.Stages in
example : (exec (cfg 2) (init (cfg 2)) forkDuringGcRun).map
    (fun s => (s.current, s.reqFork, s.gcDone, s.pc 0, s.pc 1, s.parked)) =
    some (some .stopForFork, false, 1, .exited, .woken, 1) := by decide +kernel

open Mmtk.Generated.Stages in
example : (exec (cfg 2) (init (cfg 2)) (forkDuringGcRun ++ [.wake 1, .surrender 0, .surrender 1, .respawn])).map
    (fun s => (s.current, s.pc 0, s.pc 1, s.parked, s.exitsDone, decide (s.creation = .spawned))) =
    some (none, .polling [], .polling [], 0, 1, true) := by decide +kernel

open Mmtk.Generated.Stages in
/-- a complete fork round trip with 2 workers: request, both workers exit and surrender, respawn -/
def forkRun : List Act :=
  [.prepareSurrender, .makeRequest .stopForFork none] ++
  (allConts (cfg 2)).map (Act.observeEmpty 0) ++ [.pollMiss 0, .park 0 0] ++
  (allConts (cfg 2)).map (Act.observeEmpty 1) ++ [.pollMiss 1, .park 1 0, .wake 0, .surrender 1, .surrender 0, .respawn]

open Mmtk.Generated.Stages in
example : (exec (cfg 2) (init (cfg 2)) forkRun).map
    (fun s => (s.pc 0, s.pc 1, s.parked, s.exitsDone)) = some (.polling [], .polling [], 0, 1) := by decide +kernel

open Mmtk.Generated.Stages in
example : (exec (cfg 2) (init (cfg 2)) forkRun).map
    (fun s => (decide (s.creation = .spawned), s.current)) = some (true, none) := by decide +kernel

end Mmtk.Sched
