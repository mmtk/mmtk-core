import MmtkModel.Model.Pages
import MmtkModel.Lemmas.Sums
/-!
# C28 — Page resources hand out disjoint in-space pages with exact accounting

Statement (properties.jsonl): for any sequence of page acquisitions and releases on monotone,
free-list and block page resources, granted page ranges are page-aligned, pairwise disjoint among live
grants, inside the owning space's address range, and the reserved and committed page counters equal
the pages currently granted (never underflowing) — single and multi-threaded.

`Step` is one ATOMIC action of one thread on one page resource: `reserve_pages` (outside any lock), the
grant decided inside `get_new_pages` under the space's `acquire_lock`, the two counter updates of
`commit_pages`, `clear_request`, the two `fetch_sub`s of `accounting.release`, `reset`. `Reachable`
therefore contains every interleaving. The page supplier is abstract: `free p` = page `p` may be handed
out (free list / block pool / beyond the monotone cursor); a grant takes free pages and un-frees them,
a release frees them again. `monoAlloc_grantable`: what the monotone cursor bump returns lies in no live grant
and inside the space, so it may serve as such a supplier (no theorem instantiates `Step.grant`'s `free` with it).
What is asked of the supplier at each grant are the guards of `Step.grant`: the pages are free (`hfree`), inside
the space (`hcap`), and at least as many as were reserved (`hr`: `required ≥ reserved` at every call of
`commit_pages`).  The theorems carry these through releases, resets and every interleaving of the counter
updates.  The guards `… = some a'` of `fail`, `release1`, `release2` do not cut `Reachable` down: by
`no_underflow` they hold in every reachable state.
The monotone resource with its cursor, chunk acquisition and counters is treated concretely, and separately,
in `Props/C28Mono.lean`.
-/
namespace Mmtk.Pages

def sumR (ts : List TState) : Nat := (ts.map TState.R).sum
def sumC (ts : List TState) : Nat := (ts.map TState.C).sum
def inflR (o : Option InFlight) : Nat := (o.map InFlight.R).getD 0

inductive Step : PR → PR → Prop
  /-- a new mutator / GC worker starts using the space -/
  | spawn (s : PR) : Step s { s with threads := s.threads ++ [.idle] }
  /-- `Space::acquire`: `pr.reserve_pages(n)` -/
  | reserve (s : PR) (i n : Nat) (h : s.threads[i]? = some .idle) :
      Step s { s with threads := s.threads.set i (.holding n), acct := s.acct.reserve n }
  /-- `get_new_pages` under the `acquire_lock`: the page resource picks free pages inside the space -/
  | grant (s : PR) (i r : Nat) (reg : Region) (h : s.threads[i]? = some (.holding r)) (hl : s.inflight = none)
      (hfree : ∀ p, reg.contains p → s.free p = true) (hcap : reg.stop ≤ s.cap) (hr : r ≤ reg.pages)
      (hpos : 0 < reg.pages) :
      Step s { s with threads := s.threads.set i .locked, inflight := some ⟨r, reg, false⟩,
                      free := setFree s.free reg false }
  /-- `commit_pages`: `accounting.reserve(actual - reserved)` -/
  | commitA (s : PR) (f : InFlight) (h : s.inflight = some f) (hp : f.phaseB = false) :
      Step s { s with inflight := some { f with phaseB := true }, acct := s.acct.reserve (f.reg.pages - f.r) }
  /-- `commit_pages`: `accounting.commit(actual)`; the lock is dropped -/
  | commitB (s : PR) (i : Nat) (f : InFlight) (h : s.inflight = some f) (hp : f.phaseB = true)
      (ht : s.threads[i]? = some .locked) :
      Step s { s with inflight := none, grants := f.reg :: s.grants, acct := s.acct.commit f.reg.pages,
                      threads := s.threads.set i .idle }
  /-- `Space::not_acquiring`: `pr.clear_request(r)` -/
  | fail (s : PR) (i r : Nat) (a' : Acct) (h : s.threads[i]? = some (.holding r))
      (ha : s.acct.clearReserved r = some a') :
      Step s { s with threads := s.threads.set i .idle, acct := a' }
  /-- `release_pages` / `release_block`: first `fetch_sub` of `accounting.release`; the pages go back to
  the free list / block pool -/
  | release1 (s : PR) (i : Nat) (reg : Region) (a' : Acct) (h : s.threads[i]? = some .idle) (hm : reg ∈ s.grants)
      (ha : s.acct.releaseReserved reg.pages = some a') :
      Step s { s with threads := s.threads.set i (.releasing reg.pages), grants := s.grants.erase reg, acct := a',
                      free := setFree s.free reg true }
  /-- second `fetch_sub` of `accounting.release` -/
  | release2 (s : PR) (i a : Nat) (a' : Acct) (h : s.threads[i]? = some (.releasing a))
      (ha : s.acct.releaseCommitted a = some a') :
      Step s { s with threads := s.threads.set i .idle, acct := a' }
  /-- `MonotonePageResource::reset` (`CopySpace::release`): only while no thread uses the resource -/
  | reset (s : PR) (h : ∀ t ∈ s.threads, t = .idle) (hl : s.inflight = none) :
      Step s { s with acct := s.acct.reset, grants := [], free := fun _ => true }

inductive Reachable (cap : Nat) : PR → Prop
  | init : Reachable cap { cap := cap }
  | step {s s' : PR} : Reachable cap s → Step s s' → Reachable cap s'

theorem sum_all_idle (f : TState → Nat) (hf : f .idle = 0) (ts : List TState) (h : ∀ t ∈ ts, t = .idle) :
    (ts.map f).sum = 0 := by
  rw [List.sum_eq_zero_iff_forall_eq_nat]
  intro x hx
  obtain ⟨t, ht, rfl⟩ := List.mem_map.1 hx
  rw [h t ht, hf]

theorem sum_map_append_idle (f : TState → Nat) (hf : f .idle = 0) (ts : List TState) :
    ((ts ++ [TState.idle]).map f).sum = (ts.map f).sum := by
  rw [List.map_append, List.sum_append, List.map_singleton, List.sum_singleton, hf]; rfl

theorem pagesSum_cons (g : Region) (l : List Region) : pagesSum (g :: l) = g.pages + pagesSum l := rfl

theorem pagesSum_erase (l : List Region) (reg : Region) (h : reg ∈ l) :
    pagesSum (l.erase reg) + reg.pages = pagesSum l :=
  Sums.sum_map_erase Region.pages h

theorem disjoint_symm {r s : Region} (h : r.disjoint s) : s.disjoint r := Or.symm h

theorem not_contains_of_disjoint {r g : Region} (h : r.disjoint g) {p : Nat} (hp : g.contains p) :
    ¬ r.contains p := by
  unfold Region.disjoint Region.contains at *; omega

theorem disjoint_or_common (r g : Region) (hr : 0 < r.pages) (hg : 0 < g.pages) :
    r.disjoint g ∨ ∃ p, r.contains p ∧ g.contains p := by
  have start_mem : ∀ {r : Region}, 0 < r.pages → r.contains r.start :=
    fun h => ⟨Nat.le_refl _, Nat.lt_add_of_pos_right h⟩
  rcases Nat.le_total r.start g.start with h | h
  · rcases Nat.lt_or_ge g.start r.stop with h' | h'
    · exact .inr ⟨g.start, ⟨h, h'⟩, start_mem hg⟩
    · exact .inl (.inl h')
  · rcases Nat.lt_or_ge r.start g.stop with h' | h'
    · exact .inr ⟨r.start, start_mem hr, ⟨h, h'⟩⟩
    · exact .inl (.inr h')

theorem Acct.clearReserved_eq_some {a a' : Acct} {n : Nat} :
    a.clearReserved n = some a' ↔ n ≤ a.reserved ∧ { a with reserved := a.reserved - n } = a' := by
  simp only [Acct.clearReserved, Option.ite_none_right_eq_some, Option.some.injEq, ge_iff_le]

theorem Acct.releaseReserved_eq_some {a a' : Acct} {n : Nat} :
    a.releaseReserved n = some a' ↔ n ≤ a.reserved ∧ { a with reserved := a.reserved - n } = a' :=
  Acct.clearReserved_eq_some

theorem Acct.releaseCommitted_eq_some {a a' : Acct} {n : Nat} :
    a.releaseCommitted n = some a' ↔ n ≤ a.committed ∧ { a with committed := a.committed - n } = a' := by
  simp only [Acct.releaseCommitted, Option.ite_none_right_eq_some, Option.some.injEq, ge_iff_le]

theorem inflR_of_false {f : InFlight} (h : f.phaseB = false) : inflR (some f) = f.r :=
  if_neg (h ▸ Bool.false_ne_true)

theorem inflR_of_true {f : InFlight} (h : f.phaseB = true) : inflR (some f) = f.reg.pages := if_pos h

structure Acc (a : Acct) (grants : List Region) (ts : List TState) (o : Option InFlight) : Prop where
  accR : a.reserved = pagesSum grants + sumR ts + inflR o
  accC : a.committed = pagesSum grants + sumC ts

structure Geo (live : List Region) (free : Nat → Bool) (cap : Nat) : Prop where
  disj : live.Pairwise Region.disjoint
  inCap : ∀ g ∈ live, g.stop ≤ cap
  notFree : ∀ g ∈ live, ∀ p, g.contains p → free p = false
  pos : ∀ g ∈ live, 0 < g.pages

structure Inv (s : PR) : Prop where
  acc : Acc s.acct s.grants s.threads s.inflight
  geo : Geo s.live s.free s.cap
  inflOk : ∀ f, s.inflight = some f → f.r ≤ f.reg.pages

/-- The arithmetic of one step on one counter: `A = P + S + I` (counter = completed grants + what the
threads hold + grant in progress) holds again when the thread sum moves as `Sums.sum_map_set` says (`hS`: the
thread goes from holding `u` to holding `v`) and the amounts moved balance (`h`). -/
theorem balance {A A' P P' I I' S S' u v : Nat} (h : A' + u + P + I = A + v + P' + I')
    (hS : S' + u = S + v) (hA : A = P + S + I) : A' = P' + S' + I' := by
  omega

theorem Acc.setThread {a a' : Acct} {g g' : List Region} {ts : List TState} {o o' : Option InFlight}
    (h : Acc a g ts o) {i : Nat} {st : TState} (ht : ts[i]? = some st) (x : TState)
    (hR : a'.reserved + st.R + pagesSum g + inflR o = a.reserved + x.R + pagesSum g' + inflR o')
    (hC : a'.committed + st.C + pagesSum g = a.committed + x.C + pagesSum g') :
    Acc a' g' (ts.set i x) o' :=
  ⟨balance hR (Sums.sum_map_set TState.R ts i st x ht) h.accR,
    balance (I := 0) (I' := 0) hC (Sums.sum_map_set TState.C ts i st x ht) h.accC⟩

section
variable {a : Acct} {g : List Region} {ts : List TState} {o : Option InFlight} (h : Acc a g ts o)
include h

theorem Acc.R_le {i : Nat} {st : TState} (ht : ts[i]? = some st) : st.R ≤ a.reserved := by
  rw [h.accR]
  exact Nat.le_trans (Sums.le_sum_map TState.R (List.mem_of_getElem? ht)) (Nat.le_trans (Nat.le_add_left ..) (Nat.le_add_right ..))

theorem Acc.C_le {i : Nat} {st : TState} (ht : ts[i]? = some st) : st.C ≤ a.committed := by
  rw [h.accC]
  exact Nat.le_trans (Sums.le_sum_map TState.C (List.mem_of_getElem? ht)) (Nat.le_add_left ..)

theorem Acc.pages_le {reg : Region} (hm : reg ∈ g) : reg.pages ≤ a.reserved := by
  rw [h.accR, ← pagesSum_erase g reg hm]
  exact Nat.le_trans (Nat.le_add_left ..) (Nat.le_trans (Nat.le_add_right ..) (Nat.le_add_right ..))

end

section
variable {l : List Region} {free : Nat → Bool} {cap : Nat} {reg : Region}

theorem Geo.perm {l' : List Region} (h : Geo l free cap) (p : l.Perm l') : Geo l' free cap :=
  ⟨(p.pairwise_iff disjoint_symm).1 h.disj, fun g hg => h.inCap g (p.mem_iff.2 hg),
    fun g hg => h.notFree g (p.mem_iff.2 hg), fun g hg => h.pos g (p.mem_iff.2 hg)⟩

/-- A grant takes free pages inside the space: it meets no live region, whose pages are not free. -/
theorem Geo.grant (h : Geo l free cap)
    (hfree : ∀ p, reg.contains p → free p = true) (hcap : reg.stop ≤ cap) (hpos : 0 < reg.pages) :
    Geo (reg :: l) (setFree free reg false) cap := by
  refine ⟨List.pairwise_cons.2 ⟨fun g hg => ?_, h.disj⟩, List.forall_mem_cons.2 ⟨hcap, h.inCap⟩,
    List.forall_mem_cons.2 ⟨fun p hp => if_pos hp, fun g hg p hp => ?_⟩,
    List.forall_mem_cons.2 ⟨hpos, h.pos⟩⟩
  · refine (disjoint_or_common reg g hpos (h.pos g hg)).resolve_right fun ⟨p, h1, h2⟩ => ?_
    exact absurd ((hfree p h1).symm.trans (h.notFree g hg p h2)) (by decide)
  · by_cases hin : reg.contains p
    · exact if_pos hin
    · exact (if_neg hin).trans (h.notFree g hg p hp)

/-- Releasing a live region frees its pages only: the others are disjoint from it. -/
theorem Geo.release (h : Geo (reg :: l) free cap) : Geo l (setFree free reg true) cap := by
  obtain ⟨hd, htl⟩ := List.pairwise_cons.1 h.disj
  refine ⟨htl, fun g hg => h.inCap g (List.mem_cons_of_mem _ hg), fun g hg p hp => ?_,
    fun g hg => h.pos g (List.mem_cons_of_mem _ hg)⟩
  exact (if_neg (not_contains_of_disjoint (hd g hg) hp)).trans
    (h.notFree g (List.mem_cons_of_mem _ hg) p hp)

theorem Geo.nil : Geo [] free cap := ⟨.nil, nofun, nofun, nofun⟩

end

theorem inv_init (cap : Nat) : Inv { cap := cap } := ⟨⟨rfl, rfl⟩, Geo.nil, nofun⟩

theorem inv_step {s s' : PR} (hi : Inv s) (hs : Step s s') : Inv s' := by
  obtain ⟨hacc, hgeo, hinfl⟩ := hi
  cases hs with
  | spawn =>
    exact ⟨⟨hacc.accR.trans (congrArg (_ + · + _) (sum_map_append_idle TState.R rfl _).symm),
      hacc.accC.trans (congrArg (_ + ·) (sum_map_append_idle TState.C rfl _).symm)⟩, hgeo, hinfl⟩
  | reserve i n h => exact ⟨hacc.setThread h (.holding n) rfl rfl, hgeo, hinfl⟩
  | grant i r reg h hl hfree hcap hr hpos =>
    rw [PR.live, hl] at hgeo
    refine ⟨hacc.setThread h .locked ?_ rfl, hgeo.grant hfree hcap hpos, ?_⟩
    · rw [hl]; exact Nat.add_right_comm s.acct.reserved r (pagesSum s.grants)
    · intro f hf; cases hf; exact hr
  | commitA f h hp =>
    have hle := hinfl f h
    rw [PR.live, h] at hgeo
    refine ⟨⟨?_, hacc.accC⟩, hgeo, ?_⟩
    · show s.acct.reserved + (f.reg.pages - f.r) = _ + _ + f.reg.pages
      rw [hacc.accR, h, inflR_of_false hp, Nat.add_assoc _ f.r, Nat.add_sub_cancel' hle]
    · intro f' hf'; cases hf'; exact hle
  | commitB i f h hp ht =>
    rw [PR.live, h] at hgeo
    refine ⟨hacc.setThread ht .idle ?_ (Nat.add_assoc s.acct.committed f.reg.pages _), hgeo, nofun⟩
    rw [h, inflR_of_true hp]
    exact (Nat.add_assoc s.acct.reserved _ _).trans (congrArg _ (Nat.add_comm _ f.reg.pages))
  | fail i r a' h ha =>
    obtain ⟨hle, rfl⟩ := Acct.clearReserved_eq_some.1 ha
    refine ⟨hacc.setThread h .idle ?_ rfl, hgeo, hinfl⟩
    simp only [TState.R]; omega
  | release1 i reg a' h hm ha =>
    obtain ⟨hle, rfl⟩ := Acct.releaseReserved_eq_some.1 ha
    have hsum := pagesSum_erase s.grants reg hm
    refine ⟨hacc.setThread h (.releasing reg.pages) ?_ ?_, ?_, hinfl⟩
    · simp only [TState.R]; omega
    · simp only [TState.C]; omega
    · exact (hgeo.perm (((List.perm_cons_erase hm).append_left _).trans List.perm_middle)).release
  | release2 i a a' h ha =>
    obtain ⟨hle, rfl⟩ := Acct.releaseCommitted_eq_some.1 ha
    refine ⟨hacc.setThread h .idle rfl ?_, hgeo, hinfl⟩
    simp only [TState.C]; omega
  | reset h hl =>
    refine ⟨⟨?_, ?_⟩, ?_, hinfl⟩
    · show 0 = 0 + sumR s.threads + inflR s.inflight
      rw [hl, show sumR s.threads = 0 from sum_all_idle _ rfl _ h]; rfl
    · show 0 = 0 + sumC s.threads
      rw [show sumC s.threads = 0 from sum_all_idle _ rfl _ h]
    · unfold PR.live; rw [hl]; exact Geo.nil

theorem Reachable.inv {cap : Nat} {s : PR} (h : Reachable cap s) : Inv s := by
  induction h with
  | init => exact inv_init cap
  | step _ hs ih => exact inv_step ih hs

theorem Reachable.cap_eq {cap : Nat} {s : PR} (h : Reachable cap s) : s.cap = cap := by
  induction h with
  | init => rfl
  | step _ hs ih => cases hs <;> exact ih

/-- **Exact accounting in every interleaving**: `reserved` = pages of the completed grants + what threads
have reserved but not yet been granted / cleared (+ the part of the grant in progress already added);
`committed` = pages of the completed grants + what releasing threads have not yet subtracted. -/
theorem accounting_exact {cap : Nat} {s : PR} (h : Reachable cap s) :
    s.acct.reserved = pagesSum s.grants + sumR s.threads + inflR s.inflight ∧
    s.acct.committed = pagesSum s.grants + sumC s.threads :=
  ⟨h.inv.acc.accR, h.inv.acc.accC⟩

/-- At any quiescent point (no thread inside `acquire` / `release`): `reserved = committed =` the pages
currently granted. -/
theorem accounting_exact_quiescent {cap : Nat} {s : PR} (h : Reachable cap s)
    (hq : ∀ t ∈ s.threads, t = .idle) (hl : s.inflight = none) :
    s.acct.reserved = pagesSum s.live ∧ s.acct.committed = pagesSum s.live := by
  obtain ⟨a, b⟩ := h.inv.acc
  rw [hl, show sumR s.threads = 0 from sum_all_idle _ rfl _ hq] at a
  rw [show sumC s.threads = 0 from sum_all_idle _ rfl _ hq] at b
  rw [PR.live, hl]
  exact ⟨a, b⟩

/-- `reserved = committed + pending` with the pending amounts of every thread made explicit. -/
theorem reserved_eq_committed_plus_pending {cap : Nat} {s : PR} (h : Reachable cap s) :
    s.acct.reserved + sumC s.threads = s.acct.committed + sumR s.threads + inflR s.inflight := by
  obtain ⟨a, b⟩ := h.inv.acc
  rw [a, b, Nat.add_right_comm _ _ (sumC _), Nat.add_right_comm _ (sumR _) (sumC _)]

/-- **No counter update ever underflows** (the `debug_assert!`s of `PageAccounting` hold and the `usize`
subtractions do not wrap), in every reachable state and for every thread. -/
theorem no_underflow {cap : Nat} {s : PR} (h : Reachable cap s) :
    (∀ (i r : Nat), s.threads[i]? = some (TState.holding r) → ∃ a', s.acct.clearReserved r = some a') ∧
    (∀ reg, reg ∈ s.grants → ∃ a', s.acct.releaseReserved reg.pages = some a') ∧
    (∀ (i a : Nat), s.threads[i]? = some (TState.releasing a) → ∃ a', s.acct.releaseCommitted a = some a') ∧
    (∀ f, s.inflight = some f → ∃ a', commitPages s.acct f.r f.reg.pages = some a') := by
  obtain ⟨hacc, -, hinfl⟩ := h.inv
  exact ⟨fun i r ht => ⟨_, Acct.clearReserved_eq_some.2 ⟨hacc.R_le ht, rfl⟩⟩,
    fun reg hm => ⟨_, Acct.releaseReserved_eq_some.2 ⟨hacc.pages_le hm, rfl⟩⟩,
    fun i a ht => ⟨_, Acct.releaseCommitted_eq_some.2 ⟨hacc.C_le ht, rfl⟩⟩,
    fun f hf => ⟨_, if_pos (hinfl f hf)⟩⟩

/-- **Live grants are pairwise disjoint, inside the space, and page aligned** (for a page-aligned
space start `base`; the grant of page index `g.start` is the address `base + g.start · 4096`).
Disjointness and the upper bound come from `Reachable`; a grant being a range of page indices,
alignment and `base ≤ …` hold by construction. -/
theorem granted_disjoint_aligned_in_space {cap : Nat} {s : PR} (h : Reachable cap s) :
    s.live.Pairwise Region.disjoint ∧
    ∀ g ∈ s.live, g.stop ≤ cap ∧
      ∀ base, base % bytesInPage = 0 →
        (base + g.start * bytesInPage) % bytesInPage = 0 ∧
        base ≤ base + g.start * bytesInPage ∧
        base + g.start * bytesInPage + g.pages * bytesInPage ≤ base + cap * bytesInPage := by
  refine ⟨h.inv.geo.disj, ?_⟩
  intro g hg
  have hc := h.inv.geo.inCap g hg
  rw [h.cap_eq] at hc
  refine ⟨hc, ?_⟩
  intro base hb
  refine ⟨?_, Nat.le_add_right _ _, ?_⟩
  · rw [Nat.add_mul_mod_self_right]; exact hb
  · rw [Nat.add_assoc, ← Nat.add_mul]
    exact Nat.add_le_add_left (Nat.mul_le_mul_right _ hc) _

theorem page_granted_once {cap : Nat} {s : PR} (h : Reachable cap s) (g1 g2 : Region) (p : Nat)
    (h1 : g1 ∈ s.grants) (h2 : g2 ∈ s.grants.erase g1) : ¬ (g1.contains p ∧ g2.contains p) := by
  have hpw := (List.pairwise_append.1 h.inv.geo.disj).2.1
  have hd := (List.pairwise_cons.1 (((List.perm_cons_erase h1).pairwise_iff disjoint_symm).1 hpw)).1 g2 h2
  exact fun ⟨a, b⟩ => not_contains_of_disjoint hd b a

theorem monoAlloc_eq_some {cursor sentinel pages cursor' : Nat} {reg : Region} :
    monoAlloc cursor sentinel pages = some (reg, cursor') ↔
      cursor + pages ≤ sentinel ∧ ⟨cursor, pages⟩ = reg ∧ cursor + pages = cursor' := by
  simp only [monoAlloc, Option.ite_none_left_eq_some, Option.some.injEq, Prod.mk.injEq,
    Nat.not_lt]

/-- The monotone cursor bump is a legitimate supplier: if every live grant ends at or below the cursor
(true after `reset` and preserved by the bump), the pages it returns are in no live grant and inside
the space. -/
theorem monoAlloc_grantable (cursor sentinel pages : Nat) (reg : Region) (cursor' : Nat) (live : List Region)
    (hbelow : ∀ g ∈ live, g.stop ≤ cursor) (h : monoAlloc cursor sentinel pages = some (reg, cursor')) :
    reg.stop ≤ sentinel ∧ reg.pages = pages ∧ cursor' = reg.stop ∧
    (∀ g ∈ live, g.disjoint reg) ∧ (∀ g ∈ reg :: live, g.stop ≤ cursor') := by
  obtain ⟨hle, rfl, rfl⟩ := monoAlloc_eq_some.1 h
  exact ⟨hle, rfl, rfl, fun g hg => .inl (hbelow g hg), List.forall_mem_cons.2
    ⟨Nat.le_refl _, fun g hg => Nat.le_trans (hbelow g hg) (Nat.le_add_right ..)⟩⟩

/-! ### the hypotheses are satisfiable; the `r ≤ pages` hypothesis of `grant` is needed -/

example : commitPages { reserved := 8, committed := 0 } 8 8 = some { reserved := 8, committed := 8 } := by decide
example : commitPages { reserved := 8, committed := 0 } 8 4 = none := by decide
example : (Acct.mk 8 8).release 8 = some {} := by decide
example : (Acct.mk 4 8).release 8 = none := by decide
example : monoAlloc 3 10 7 = some (⟨3, 7⟩, 10) ∧ monoAlloc 3 10 8 = none := by decide

/-- a concrete two-thread interleaving: thread 0 reserves 8, thread 1 reserves 8, thread 0 is granted
pages 0..8 and commits, thread 1's request fails and is cleared. -/
example : ∃ s, Reachable 16 s ∧ s.acct = { reserved := 8, committed := 8 } ∧ s.grants = [⟨0, 8⟩] := by
  have r0 : Reachable 16 { cap := 16 } := .init
  have r1 := Reachable.step (Reachable.step r0 (.spawn _)) (.spawn _)
  have r2 := Reachable.step r1 (.reserve _ 0 8 rfl)
  have r3 := Reachable.step r2 (.reserve _ 1 8 rfl)
  have r4 := Reachable.step r3 (.grant _ 0 8 ⟨0, 8⟩ rfl rfl (by intro p _; rfl) (by decide) (by decide) (by decide))
  have r5 := Reachable.step r4 (.commitA _ ⟨8, ⟨0, 8⟩, false⟩ rfl rfl)
  have r6 := Reachable.step r5 (.commitB _ 0 ⟨8, ⟨0, 8⟩, true⟩ rfl rfl rfl)
  have r7 := Reachable.step r6 (.fail _ 1 8 { reserved := 8, committed := 8 } rfl (by decide))
  exact ⟨_, r7, rfl, rfl⟩

end Mmtk.Pages
