import MmtkModel.Model.FwdTie
import MmtkModel.Lemmas.Threads
/-!
# C17 — Concurrent forwarding copies an object once and all tracers agree

For **any number of threads** and **every interleaving** of the atomic steps of the forwarding
protocol (CopySpace and Immix variants, one-store and two-store layouts), in every reachable state:
at most one thread is between a successful CAS and its final store/clear; at most one copy is ever
made; all finished tracers returned the same value (the unique copy, or the unmoved object if no copy
was made); a thread only reads the forwarding pointer after the winner wrote it; the object is pushed
to the scan queue at most once, and exactly once when it was unmarked at the start, some tracer has
returned and nobody is inside the critical section.

`G` is the invariant of the shared memory, `L sh p` what a thread standing at `p` may assume of it; `Inv` is
`G`, every thread's `L`, and the lock discipline of the bits `10` (`unique`, `owner`).  A step keeps `G`
and the stepper's own `L` (`local_ok`); `stable` is the interference check for the others, read off the
three kinds of step (`Kind`, `step_kind`: look, enter, work).  (1)–(6) and the reader theorems are
projections of `Inv`; `outcome_sound` is the tie to the executable verdict, through the two shapes of a
quiescent memory (`Inv.quiescent`).
-/
namespace Mmtk.Fwd

/-- The program points between a successful CAS `00 → 10` and the store that ends `BEING_FORWARDED`. -/
def inCrit : PC → Bool
  | .won | .decide | .copied _ | .ptrWritten _ | .markPending | .clearAfterMark | .clearSeenMarked => true
  | _ => false

/-- `m0` is the mark bit when the race began. -/
structure G (immix m0 : Bool) (sh : Shared) : Prop where
  bits_vals : sh.bits = 0 ∨ sh.bits = 2 ∨ sh.bits = 3
  copies_le : sh.copies = [] ∨ ∃ c, sh.copies = [c]
  forwarded : sh.bits = 3 → ∃ c, sh.copies = [c] ∧ sh.ptr = c ∧ sh.queue = [c]
  idle_nocopy : sh.bits = 0 → sh.copies = []
  marked_nocopy : sh.marked = true → sh.copies = []
  marked_mono : m0 = true → sh.marked = true
  copyspace_unmarked : immix = false → sh.marked = false
  queue_cases : (sh.queue = [] ∧ sh.bits ≠ 3) ∨ (∃ c, sh.queue = [c] ∧ sh.copies = [c] ∧ sh.bits = 3) ∨
    -- an Immix winner declined, marked in place and queued the unmoved object
    (sh.queue = [orig] ∧ sh.marked = true ∧ m0 = false ∧ sh.copies = [])
  -- marked during this race and not queued yet: the thread that marked still holds the bits
  mark_window : sh.marked = true → m0 = false → sh.queue = [] → sh.bits = 2
  -- the bits go back to `00` only when an Immix winner leaves the object in place, marked
  released : sh.triggered = true → sh.bits = 0 → sh.marked = true ∧ immix = true
  -- `triggered` is the ghost "some CAS has succeeded"; it is what a spinning thread knows
  untriggered : sh.triggered = false → sh.bits = 0

/-- A winner that finds the object marked (`.won`, `.clearSeenMarked`) knows the mark was there at the
start or its setter has queued the object already: that is what lets it release the bits without breaking
`G.mark_window`. -/
def L (immix m0 : Bool) (sh : Shared) : PC → Prop
  | .start | .cas => True
  | .spin => sh.triggered = true
  | .readPtr => sh.bits = 3
  | .won => sh.bits = 2 ∧ sh.copies = [] ∧ (sh.marked = true → m0 = true ∨ sh.queue ≠ [])
  | .decide => sh.bits = 2 ∧ sh.copies = [] ∧ sh.marked = false ∧ immix = true
  | .copied c => sh.bits = 2 ∧ sh.copies = [c] ∧ sh.marked = false
  | .ptrWritten c => sh.bits = 2 ∧ sh.copies = [c] ∧ sh.marked = false ∧ sh.ptr = c
  | .markPending => sh.bits = 2 ∧ sh.copies = [] ∧ sh.marked = false ∧ immix = true ∧ m0 = false ∧ sh.queue = []
  | .clearAfterMark => sh.bits = 2 ∧ sh.copies = [] ∧ sh.marked = true ∧ immix = true ∧ m0 = false ∧ sh.queue = []
  | .clearSeenMarked => sh.bits = 2 ∧ sh.copies = [] ∧ sh.marked = true ∧ immix = true ∧ (m0 = true ∨ sh.queue ≠ [])
  | .done r => (r = orig ∧ sh.marked = true ∧ immix = true) ∨ sh.copies = [r]

structure Inv (immix m0 : Bool) (s : State) : Prop where
  g : G immix m0 s.sh
  l : ∀ x, L immix m0 s.sh (s.pc x)
  unique : ∀ x y, inCrit (s.pc x) = true → inCrit (s.pc y) = true → x = y
  owner : s.sh.bits = 2 → ∃ x, inCrit (s.pc x) = true

theorem crit_bits {immix m0 : Bool} {sh : Shared} {p : PC} (h : L immix m0 sh p) (hc : inCrit p = true) :
    sh.bits = 2 := by
  cases p <;> first | exact h.1 | cases hc

section
variable {immix m0 : Bool} {sh : Shared}

theorem G.bits_three (hg : G immix m0 sh) (h0 : ¬ sh.bits = 0) (h2 : ¬ sh.bits = 2) : sh.bits = 3 :=
  (hg.bits_vals.resolve_left h0).resolve_left h2
theorem G.bits_zero (hg : G immix m0 sh) (h2 : ¬ sh.bits = 2) (h3 : ¬ sh.bits = 3) : sh.bits = 0 :=
  hg.bits_vals.resolve_right fun h => h3 (h.resolve_left h2)

theorem G.queue_nil (hg : G immix m0 sh) (hb : sh.bits = 2) (hm : sh.marked = false) : sh.queue = [] := by
  rcases hg.queue_cases with h | ⟨c, -, -, h3⟩ | ⟨-, h, -⟩
  · exact h.1
  · exact nomatch hb.symm.trans h3
  · rw [hm] at h; cases h

theorem G.setPtr (hg : G immix m0 sh) (hb : sh.bits ≠ 3) (c : Nat) : G immix m0 { sh with ptr := c } :=
  { hg with forwarded := fun h => absurd h hb }

/-- `ObjectModel::copy` by the winner. -/
theorem G.copy (hg : G immix m0 sh) (hb : sh.bits = 2) (hc : sh.copies = []) (hm : sh.marked = false)
    (c : Nat) : G immix m0 { sh with copies := c :: sh.copies } :=
  { hg with
    copies_le := .inr ⟨c, congrArg _ hc⟩
    forwarded := fun (h : sh.bits = 3) => nomatch hb.symm.trans h
    idle_nocopy := fun (h : sh.bits = 0) => nomatch hb.symm.trans h
    marked_nocopy := fun (h : sh.marked = true) => by rw [hm] at h; cases h
    queue_cases := .inl ⟨hg.queue_nil hb hm, fun (h : sh.bits = 3) => nomatch hb.symm.trans h⟩ }

/-- The store that publishes the copy `c` already in the pointer word: bits `10 → 11`, `c` is queued. -/
theorem G.publish (hg : G immix m0 sh) (hb : sh.bits = 2) {c : Nat} (hc : sh.copies = [c])
    (hm : sh.marked = false) (hp : sh.ptr = c) :
    G immix m0 { sh with bits := FORWARDED, queue := c :: sh.queue } := by
  have hq : c :: sh.queue = [c] := congrArg _ (hg.queue_nil hb hm)
  exact { hg with
    bits_vals := .inr (.inr rfl)
    forwarded := fun _ => ⟨c, hc, hp, hq⟩
    idle_nocopy := nofun
    queue_cases := .inr (.inl ⟨c, hq, hc, rfl⟩)
    mark_window := fun (h : sh.marked = true) => by rw [hm] at h; cases h
    released := fun _ => nofun
    untriggered := fun h => nomatch hb.symm.trans (hg.untriggered h) }

end

/-- The two shapes of the shared memory once nobody is inside the critical section and some tracer
has returned `r`: marked in place and released, or `r` is the one copy, published and queued. -/
theorem Inv.quiescent {immix m0 : Bool} {s : State} (inv : Inv immix m0 s) (hq : ∀ x, inCrit (s.pc x) = false)
    {y r : Nat} (hy : s.pc y = .done r) :
    (r = orig ∧ s.sh.copies = [] ∧ s.sh.marked = true ∧ immix = true ∧ s.sh.bits = 0 ∧
        s.sh.queue = if m0 = true then [] else [orig]) ∨
      (s.sh.copies = [r] ∧ m0 = false ∧ s.sh.marked = false ∧ s.sh.bits = 3 ∧ s.sh.ptr = r ∧ s.sh.queue = [r]) := by
  obtain ⟨hg, hl, -, ho⟩ := inv
  have hb2 : s.sh.bits ≠ 2 := fun e => by
    obtain ⟨x, hx⟩ := ho e; rw [hq x] at hx; cases hx
  rcases hy ▸ hl y with ⟨e, hm, hi⟩ | c
  · have hc := hg.marked_nocopy hm
    have h3 : s.sh.bits ≠ 3 := fun e3 => by
      obtain ⟨c, hc', _⟩ := hg.forwarded e3; rw [hc] at hc'; cases hc'
    refine .inl ⟨e, hc, hm, hi, hg.bits_zero hb2 h3, ?_⟩
    rcases hg.queue_cases with ⟨q, _⟩ | ⟨c, _, hc', _⟩ | ⟨q, _, hm0, _⟩
    · cases hm0 : m0 with
      | true => exact q
      | false => exact absurd (hg.mark_window hm hm0 q) hb2
    · rw [hc] at hc'; cases hc'
    · rw [hm0]; exact q
  · have hm : s.sh.marked = false := Bool.eq_false_iff.mpr fun hm => by
      rw [hg.marked_nocopy hm] at c; cases c
    have h0 : s.sh.bits ≠ 0 := fun e => by rw [hg.idle_nocopy e] at c; cases c
    have h3 := hg.bits_three h0 hb2
    obtain ⟨c', hc', hp, hq⟩ := hg.forwarded h3
    rw [c] at hc'; injection hc' with e _
    rw [← e] at hp hq
    have hm0 : m0 = false := Bool.eq_false_iff.mpr fun h => by rw [hg.marked_mono h] at hm; cases hm
    exact .inr ⟨c, hm0, hm, h3, hp, hq⟩

/-- A thread's step keeps `G` and gives the thread what it knows at its new program point. -/
theorem local_ok (immix oneStep m0 : Bool) (t : Nat) (d : Bool) (sh : Shared) (p : PC)
    (hg : G immix m0 sh) (hl : L immix m0 sh p) :
    G immix m0 (localStep immix oneStep t d sh p).1 ∧ L immix m0 (localStep immix oneStep t d sh p).1
      (localStep immix oneStep t d sh p).2 := by
  cases p with
  | start =>
    dsimp only [localStep]
    by_cases h0 : sh.bits = NOT_TRIGGERED
    · rw [if_pos h0]; exact ⟨hg, trivial⟩
    rw [if_neg h0]
    by_cases h2 : sh.bits = BEING_FORWARDED
    · rw [if_pos h2]; exact ⟨hg, Bool.of_not_eq_false fun ht => h0 (hg.untriggered ht)⟩
    · rw [if_neg h2]; exact ⟨hg, hg.bits_three h0 h2⟩
  | cas =>
    dsimp only [localStep]
    by_cases h0 : sh.bits = NOT_TRIGGERED
    · rw [if_pos h0]
      have h0 : sh.bits = 0 := h0
      refine ⟨{ hg with
        bits_vals := .inr (.inl rfl)
        forwarded := nofun
        idle_nocopy := nofun
        queue_cases := ?_
        mark_window := fun _ _ _ => rfl
        released := fun _ => nofun
        untriggered := nofun }, rfl, hg.idle_nocopy h0, fun hm => ?_⟩
      · rcases hg.queue_cases with h | ⟨c, -, -, h3⟩ | h
        · exact .inl ⟨h.1, nofun⟩
        · exact nomatch h0.symm.trans h3
        · exact .inr (.inr h)
      · cases hm0 : m0 with
        | true => exact .inl rfl
        | false => exact .inr fun hq => nomatch h0.symm.trans (hg.mark_window hm hm0 hq)
    · rw [if_neg h0]; exact ⟨hg, trivial⟩
  | spin =>
    dsimp only [localStep]
    by_cases h2 : sh.bits = BEING_FORWARDED
    · rw [if_pos h2]; exact ⟨hg, hl⟩
    rw [if_neg h2]
    by_cases h3 : sh.bits = FORWARDED
    · rw [if_pos h3]; exact ⟨hg, h3⟩
    · rw [if_neg h3]; exact ⟨hg, .inl ⟨rfl, hg.released hl (hg.bits_zero h2 h3)⟩⟩
  | readPtr =>
    obtain ⟨c, hc, hp, _⟩ := hg.forwarded hl
    exact ⟨hg, .inr (hp ▸ hc)⟩
  | won =>
    obtain ⟨hb, hc, hw⟩ := hl
    cases immix with
    | false =>
      have hm := hg.copyspace_unmarked rfl
      exact ⟨hg.copy hb hc hm _, hb, congrArg _ hc, hm⟩
    | true =>
      dsimp only [localStep]
      by_cases hm : sh.marked = true
      · rw [if_pos rfl, if_pos hm]; exact ⟨hg, hb, hc, hm, rfl, hw hm⟩
      · rw [if_pos rfl, if_neg hm]; exact ⟨hg, hb, hc, Bool.eq_false_iff.mpr hm, rfl⟩
  | decide =>
    obtain ⟨hb, hc, hm, hi⟩ := hl
    cases d with
    | true =>
      refine ⟨hg, hb, hc, hm, hi, ?_, hg.queue_nil hb hm⟩
      cases hm0 : m0 with
      | false => rfl
      | true => rw [hg.marked_mono hm0] at hm; cases hm
    | false => exact ⟨hg.copy hb hc hm _, hb, congrArg _ hc, hm⟩
  | copied c =>
    obtain ⟨hb, hc, hm⟩ := hl
    have hg' := hg.setPtr (fun h => nomatch hb.symm.trans h) c
    cases oneStep with
    | true => exact ⟨hg'.publish hb hc hm rfl, .inr hc⟩
    | false => exact ⟨hg', hb, hc, hm, rfl⟩
  | ptrWritten c =>
    obtain ⟨hb, hc, hm, hp⟩ := hl
    exact ⟨hg.publish hb hc hm hp, .inr hc⟩
  | markPending =>
    obtain ⟨hb, hc, hm, hi, hm0, hq⟩ := hl
    exact ⟨{ hg with
      marked_nocopy := fun _ => hc
      marked_mono := fun _ => rfl
      copyspace_unmarked := fun h => by rw [hi] at h; cases h
      queue_cases := .inl ⟨hq, fun (h : sh.bits = 3) => nomatch hb.symm.trans h⟩
      mark_window := fun _ _ _ => hb
      released := fun _ (h : sh.bits = 0) => nomatch hb.symm.trans h }, hb, hc, rfl, hi, hm0, hq⟩
  | clearAfterMark =>
    obtain ⟨hb, hc, hm, hi, hm0, hq⟩ := hl
    exact ⟨{ hg with
      bits_vals := .inl rfl
      forwarded := nofun
      idle_nocopy := fun _ => hc
      queue_cases := .inr (.inr ⟨congrArg _ hq, hm, hm0, hc⟩)
      mark_window := fun _ _ h => by cases h
      released := fun _ _ => ⟨hm, hi⟩
      untriggered := fun _ => rfl }, .inl ⟨rfl, hm, hi⟩⟩
  | clearSeenMarked =>
    obtain ⟨hb, hc, hm, hi, hw⟩ := hl
    refine ⟨{ hg with
      bits_vals := .inl rfl
      forwarded := nofun
      idle_nocopy := fun _ => hc
      queue_cases := ?_
      mark_window := fun _ hm0 hq => (hw.elim (fun h => by rw [hm0] at h; cases h) (fun h => h hq)).elim
      released := fun _ _ => ⟨hm, hi⟩
      untriggered := fun _ => rfl }, .inl ⟨rfl, hm, hi⟩⟩
    rcases hg.queue_cases with h | ⟨c, -, -, h3⟩ | h
    · exact .inl ⟨h.1, nofun⟩
    · exact nomatch hb.symm.trans h3
    · exact .inr (.inr h)
  | done r => exact ⟨hg, hl⟩

/-- What every step guarantees to the threads outside the critical section: the facts they rely on
are never taken back. -/
structure Grows (sh sh' : Shared) : Prop where
  triggered : sh.triggered = true → sh'.triggered = true
  forwarded : sh.bits = 3 → sh'.bits = 3
  marked : sh.marked = true → sh'.marked = true
  copies : ∀ r, sh.copies = [r] → sh'.copies = [r]

theorem Grows.refl (sh : Shared) : Grows sh sh := ⟨id, id, id, fun _ => id⟩

theorem Grows.inside {sh sh' : Shared} (hb : sh.bits = 2) (ht : sh'.triggered = sh.triggered)
    (hm : sh.marked = true → sh'.marked = true) (hc : sh.copies = [] ∨ sh'.copies = sh.copies) :
    Grows sh sh' :=
  ⟨fun h => ht ▸ h, fun h => (nomatch hb.symm.trans h), hm,
    fun r h => hc.elim (fun e => by rw [e] at h; cases h) (fun e => e ▸ h)⟩

/-- The three kinds of step: an outsider looks and stays outside; the CAS on `00` takes a thread inside;
the thread inside works on the object and may leave, storing `11` or `00`. -/
inductive Kind (sh : Shared) (p : PC) (sh' : Shared) (p' : PC) : Prop
  | look (hs : sh' = sh) (hp : inCrit p = false) (hp' : inCrit p' = false)
  | enter (hb : sh.bits = 0) (hs : sh' = { sh with bits := BEING_FORWARDED, triggered := true }) (hp' : inCrit p' = true)
  | work (hp : inCrit p = true) (g : Grows sh sh') (hout : inCrit p' = true ∨ sh'.bits ≠ 2)

theorem step_kind (immix oneStep m0 : Bool) (t : Nat) (d : Bool) {sh : Shared} {p : PC} (hl : L immix m0 sh p) :
    Kind sh p (localStep immix oneStep t d sh p).1 (localStep immix oneStep t d sh p).2 := by
  cases p with
  | start | spin => dsimp only [localStep]; (repeat' split) <;> exact .look rfl rfl rfl
  | readPtr | done r => exact .look rfl rfl rfl
  | cas =>
    dsimp only [localStep]
    by_cases h0 : sh.bits = NOT_TRIGGERED
    · rw [if_pos h0]; exact .enter h0 rfl rfl
    · rw [if_neg h0]; exact .look rfl rfl rfl
  | won | decide =>
    dsimp only [localStep]
    (repeat' split) <;> exact .work rfl (.inside hl.1 rfl id (.inl hl.2.1)) (.inl rfl)
  | copied c =>
    cases oneStep
    · exact .work rfl (.inside hl.1 rfl id (.inr rfl)) (.inl rfl)
    · exact .work rfl (.inside hl.1 rfl id (.inr rfl)) (.inr nofun)
  | markPending => exact .work rfl (.inside hl.1 rfl (fun _ => rfl) (.inr rfl)) (.inl rfl)
  | ptrWritten c | clearAfterMark | clearSeenMarked => exact .work rfl (.inside hl.1 rfl id (.inr rfl)) (.inr nofun)

theorem Kind.grows {sh sh' : Shared} {p p' : PC} : Kind sh p sh' p' → Grows sh sh'
  | .look hs _ _ => hs ▸ .refl sh
  | .enter hb hs _ => hs ▸ ⟨fun _ => rfl, fun h3 => (nomatch hb.symm.trans h3), id, fun _ => id⟩
  | .work _ g _ => g

/-- The only way in is the CAS on `00`: while a thread (at `q`) is inside, an outsider's step only looks. -/
theorem Kind.outside {immix m0 : Bool} {sh sh' : Shared} {p p' q : PC} (hp : inCrit p = false)
    (hq : L immix m0 sh q) (hcq : inCrit q = true) : Kind sh p sh' p' → sh' = sh ∧ inCrit p' = false
  | .look hs _ hp' => ⟨hs, hp'⟩
  | .enter h0 _ _ => nomatch (crit_bits hq hcq).symm.trans h0
  | .work h _ _ => by rw [hp] at h; cases h

/-- Bits `10` after a step: the stepper is inside, or it only looked while another thread holds them. -/
theorem Kind.being_after {sh sh' : Shared} {p p' : PC} (h : sh'.bits = 2) :
    Kind sh p sh' p' → inCrit p' = true ∨ (sh.bits = 2 ∧ inCrit p = false)
  | .look hs hp _ => .inr ⟨hs ▸ h, hp⟩
  | .enter _ _ hp' => .inl hp'
  | .work _ _ hout => .inl (hout.resolve_right fun h' => h' h)

theorem L_grows {immix m0 : Bool} {sh sh' : Shared} {q : PC} (hc : inCrit q = false)
    (h : Grows sh sh') (hq : L immix m0 sh q) : L immix m0 sh' q := by
  cases q with
  | start | cas => trivial
  | spin => exact h.triggered hq
  | readPtr => exact h.forwarded hq
  | done r => exact hq.imp (fun a => ⟨a.1, h.marked a.2.1, a.2.2⟩) (h.copies r)
  | _ => cases hc

/-- What another thread (at `q`) knows stays true when a thread at `p` takes a step, provided they
are not both inside the critical section. -/
theorem stable (immix oneStep m0 : Bool) (t : Nat) (d : Bool) (sh : Shared) (p q : PC)
    (hl : L immix m0 sh p) (hq : L immix m0 sh q)
    (hx : inCrit p = true → inCrit q = true → False) :
    L immix m0 (localStep immix oneStep t d sh p).1 q := by
  have k := step_kind immix oneStep m0 t d hl
  cases hcq : inCrit q
  · exact L_grows hcq k.grows hq
  · have hcp : inCrit p = false := by
      cases h : inCrit p
      · rfl
      · exact (hx h hcq).elim
    rw [(k.outside hcp hq hcq).1]
    exact hq

/-- `hcs`: `marked` is Immix's mark bit.  A CopySpace race never reads or sets it, and copies whatever it
says, so it can keep `G.marked_nocopy` only if it starts with the bit clear (`G.copyspace_unmarked`). -/
theorem init_inv (immix m0 : Bool) (hcs : immix = false → m0 = false) : Inv immix m0 (init m0) :=
  ⟨⟨.inl rfl, .inl rfl, nofun, fun _ => rfl, fun _ => rfl, id, hcs, .inl ⟨rfl, nofun⟩,
      fun hm hm0 _ => (nomatch hm.symm.trans hm0), nofun, fun _ => rfl⟩,
    fun _ => trivial, fun _ _ => nofun, nofun⟩

theorem step_pc_self (immix oneStep : Bool) (s : State) (t : Nat) (d : Bool) :
    (step immix oneStep s t d).pc t = (localStep immix oneStep t d s.sh (s.pc t)).2 := if_pos rfl

theorem step_eq (immix oneStep : Bool) (S : State) (x : Nat) (d : Bool) {p p' : PC} {sh' : Shared} (hp : S.pc x = p)
    (h : localStep immix oneStep x d S.sh p = (sh', p')) :
    step immix oneStep S x d = { sh := sh', pc := fun y => if y = x then p' else S.pc y } := by
  unfold step; rw [hp, h]

theorem state_ext {a b : State} (h1 : a.sh = b.sh) (h2 : ∀ x, a.pc x = b.pc x) : a = b := by
  cases a; cases b
  simp only at h1 h2
  subst h1
  congr
  exact funext h2

theorem exec_append (immix oneStep : Bool) (s : State) (r1 r2 : List (Nat × Bool)) :
    exec immix oneStep s (r1 ++ r2) = exec immix oneStep (exec immix oneStep s r1) r2 := by
  induction r1 generalizing s with
  | nil => rfl
  | cons a r ih => obtain ⟨t, d⟩ := a; exact ih _

theorem step_inv (immix oneStep m0 : Bool) (hcs : immix = false → m0 = false)
    (s : State) (t : Nat) (d : Bool) (h : Inv immix m0 s) :
    Inv immix m0 (step immix oneStep s t d) := by
  obtain ⟨hg, hl, hu, ho⟩ := h
  have loc := local_ok immix oneStep m0 t d s.sh (s.pc t) hg (hl t)
  have k := step_kind immix oneStep m0 t d (hl t)
  refine ⟨loc.1,
    Threads.forall_upd (P := fun _ p => L immix m0 _ p) loc.2 fun x hx =>
      stable immix oneStep m0 t d s.sh (s.pc t) (s.pc x) (hl t) (hl x) fun h1 h2 => hx (hu x t h2 h1),
    Threads.unique_upd (C := fun p => inCrit p = true) hu fun y hyt hy ht => ?_, fun hb => ?_⟩
  · -- a thread that is inside keeps the stepping thread out
    cases hp : inCrit (s.pc t)
    · rw [(k.outside hp (hl y) hy).2] at ht; cases ht
    · exact hyt (hu y t hy hp)
  · rcases k.being_after hb with h1 | ⟨h1, h2⟩
    · exact ⟨t, (step_pc_self ..).symm ▸ h1⟩
    · exact Threads.exists_upd (C := fun p => inCrit p = true) (ho h1) fun h => by rw [h2] at h; cases h

theorem exec_inv (immix oneStep m0 : Bool) (hcs : immix = false → m0 = false)
    (s : State) (run : List (Nat × Bool)) (h : Inv immix m0 s) :
    Inv immix m0 (exec immix oneStep s run) := by
  induction run generalizing s with
  | nil => exact h
  | cons a rest ih =>
    obtain ⟨t, d⟩ := a
    exact ih _ (step_inv immix oneStep m0 hcs s t d h)

def Reachable (immix oneStep m0 : Bool) (s : State) : Prop :=
  ∃ run : List (Nat × Bool), s = exec immix oneStep (init m0) run

theorem reachable_inv {immix oneStep m0 : Bool} (hcs : immix = false → m0 = false) {s : State}
    (h : Reachable immix oneStep m0 s) : Inv immix m0 s := by
  obtain ⟨run, rfl⟩ := h
  exact exec_inv immix oneStep m0 hcs _ run (init_inv immix m0 hcs)

variable {immix oneStep m0 : Bool} {s : State}

/-- **C17 (1)** at most one thread is between a successful CAS and its final store / clear. -/
theorem one_winner_at_a_time (hcs : immix = false → m0 = false) (h : Reachable immix oneStep m0 s) (x y : Nat)
    (hx : inCrit (s.pc x) = true) (hy : inCrit (s.pc y) = true) : x = y :=
  (reachable_inv hcs h).unique x y hx hy

/-- **C17 (2)** the object is copied at most once. -/
theorem copy_at_most_once (hcs : immix = false → m0 = false) (h : Reachable immix oneStep m0 s) : s.sh.copies.length ≤ 1 := by
  rcases (reachable_inv hcs h).g.copies_le with e | ⟨c, e⟩ <;> simp [e]

/-- **C17 (3)** all finished tracers agree: they all returned the same reference — the unique copy,
or the unmoved object if no copy was made. -/
theorem agreement (hcs : immix = false → m0 = false) (h : Reachable immix oneStep m0 s) (x y r r' : Nat)
    (hx : s.pc x = .done r) (hy : s.pc y = .done r') :
    r = r' ∧ ((r = orig ∧ s.sh.copies = []) ∨ s.sh.copies = [r]) := by
  have inv := reachable_inv hcs h
  rcases hx ▸ inv.l x with ⟨e1, m1, _⟩ | c1 <;> rcases hy ▸ inv.l y with ⟨e2, m2, _⟩ | c2
  · exact ⟨by rw [e1, e2], Or.inl ⟨e1, inv.g.marked_nocopy m1⟩⟩
  · have := inv.g.marked_nocopy m1; rw [this] at c2; cases c2
  · have := inv.g.marked_nocopy m2; rw [this] at c1; cases c1
  · rw [c1] at c2; exact ⟨by injection c2, Or.inr c1⟩

/-- **C17 (4)** a thread that is about to read the forwarding pointer reads the copy the winner
wrote (never the word's previous content), and that is what it returns. -/
theorem ptr_read_only_after_write (hcs : immix = false → m0 = false) (h : Reachable immix oneStep m0 s) (x : Nat) (d : Bool)
    (hx : s.pc x = .readPtr) :
    ∃ c, s.sh.copies = [c] ∧ s.sh.ptr = c ∧ (step immix oneStep s x d).pc x = .done c := by
  have inv := reachable_inv hcs h
  have lx := inv.l x
  rw [hx] at lx
  obtain ⟨c, hc, hp, _⟩ := inv.g.forwarded lx
  exact ⟨c, hc, hp, by rw [step_pc_self, hx]; exact congrArg PC.done hp⟩

/-- **C17 (5)** in a copying space (CopySpace) every tracer that finishes returns the one copy:
exactly one copy is made as soon as anybody finishes. -/
theorem copy_exactly_once_copyspace (h : Reachable false oneStep false s) (x r : Nat)
    (hx : s.pc x = .done r) : s.sh.copies = [r] := by
  have inv := reachable_inv (immix := false) (m0 := false) (fun _ => rfl) h
  rcases hx ▸ inv.l x with ⟨_, _, hi⟩ | c
  · cases hi
  · exact c

/-- **C17 (6)** the object (the copy, or the unmoved object) is pushed to the scan queue at most
once. -/
theorem enqueued_at_most_once (hcs : immix = false → m0 = false) (h : Reachable immix oneStep m0 s) : s.sh.queue.length ≤ 1 := by
  rcases (reachable_inv hcs h).g.queue_cases with ⟨e, _⟩ | ⟨c, e, _⟩ | ⟨e, _⟩ <;> simp [e]

/-- **C17 (6)** the scan queue holds exactly the reference the tracers returned, once, as soon as
some tracer has returned, nobody is inside the critical section and the object had not been marked
before these tracers arrived (`m0 = false`). -/
theorem enqueued_exactly_once (hcs : immix = false → m0 = false) (h : Reachable immix oneStep m0 s) (hm0 : m0 = false)
    (hq : ∀ x, inCrit (s.pc x) = false) (y r : Nat) (hy : s.pc y = .done r) :
    s.sh.queue = [r] := by
  rcases (reachable_inv hcs h).quiescent hq hy with ⟨e, _, _, _, _, q⟩ | ⟨_, _, _, _, _, q⟩
  · rw [q, hm0, e]; rfl
  · exact q

/-- An object that was already marked when the tracers arrived is never copied nor re-queued. -/
theorem already_marked_untouched (hi : immix = true) (h : Reachable immix oneStep true s) :
    s.sh.copies = [] ∧ s.sh.queue = [] := by
  have inv := reachable_inv (m0 := true) (fun hf => by rw [hi] at hf; cases hf) h
  have hm := inv.g.marked_mono rfl
  have hc := inv.g.marked_nocopy hm
  refine ⟨hc, ?_⟩
  rcases inv.g.queue_cases with ⟨q, _⟩ | ⟨c, _, hc', _⟩ | ⟨_, _, e, _⟩
  · exact q
  · rw [hc] at hc'; cases hc'
  · cases e

/-- **C17 (reader)** A reader that is not a tracer (`SFT::get_forwarded_object`: weak-reference and
finalizer processing, the binding) may run at ANY point of ANY interleaving: whenever it answers
`some c`, `c` is the one copy that was made and the winner has written it. -/
theorem reader_sound (hcs : immix = false → m0 = false) (h : Reachable immix oneStep m0 s) (c : Nat)
    (hr : getForwarded s.sh = some c) : s.sh.copies = [c] ∧ s.sh.ptr = c ∧ s.sh.bits = FORWARDED := by
  have inv := reachable_inv hcs h
  unfold getForwarded at hr
  split at hr
  · rename_i hb
    obtain ⟨c', hc', hp, _⟩ := inv.g.forwarded hb
    injection hr with e
    rw [← e, hp]; exact ⟨hc', rfl, hb⟩
  · cases hr

/-- The reader answers `none` whenever the bits are not `FORWARDED` — for any shared memory, reachable
or not; in the protocol that is the window in which the winner is copying or deciding
(`BEING_FORWARDED`), and `NOT_TRIGGERED` before the race or after a winner declined. -/
theorem reader_none_in_window (sh : Shared) (hb : sh.bits = BEING_FORWARDED ∨ sh.bits = NOT_TRIGGERED) :
    getForwarded sh = none := by
  unfold getForwarded
  rcases hb with e | e <;> simp [e, BEING_FORWARDED, NOT_TRIGGERED, FORWARDED]

/-- The answers a reader gets along the winner's path (what the harness op `fwdwin` observes on the real
spaces): before the CAS, after the CAS, after the pointer store of the two-store layout (bits still
`10`), and after an Immix winner that declined released the bits — `none` each time. -/
theorem reader_window_trace :
    getForwarded (init false).sh = none ∧
    getForwarded (exec false false (init false) [(0, false), (0, false)]).sh = none ∧
    getForwarded (exec false false (init false) [(0, false), (0, false), (0, false), (0, false)]).sh = none ∧
    getForwarded (exec true false (init false) [(0, true), (0, true)]).sh = none ∧
    getForwarded (exec true false (init false)
      [(0, true), (0, true), (0, true), (0, true), (0, true), (0, true)]).sh = none := by decide

/-- The reader that also accepts `BEING_FORWARDED` is observably wrong: after the CAS of thread 0 and
before its pointer store it returns the stale word (`garbage`, the initial `ptr` of `Model/Fwd.lean`), a
reference nobody copied to. -/
theorem eager_reader_sees_unwritten_pointer :
    ∃ s, Reachable false false false s ∧ getForwardedEager s.sh = some garbage ∧ s.sh.copies ≠ [garbage] :=
  ⟨exec false false (init false) [(0, false), (0, false)], ⟨_, rfl⟩, by decide, by decide⟩

/-- CopySpace, two-store layout, three racing threads: thread 0 wins the CAS, thread 1 loses the CAS
and spins, thread 2 arrives while the copy is in flight; all return copy `2`, queued once. -/
example :
    let s := exec false false (init false)
      [(0,false),(1,false),(0,false),(1,false),(1,false),(2,false),(0,false),(0,false),(2,false),(0,false),
       (1,false),(1,false),(2,false),(2,false)]
    s.pc 0 = .done 2 ∧ s.pc 1 = .done 2 ∧ s.pc 2 = .done 2 ∧ s.sh.queue = [2] ∧ s.sh.copies = [2] := by
  decide

/-- Immix: thread 0 wins and declines (pinned): marks in place, releases the bits; thread 1, which
was spinning, returns the unmoved object (`0` = `orig`); thread 2 arrives later, wins the CAS, sees
the mark and releases again.  Nobody copies; the object is queued once. -/
example :
    let s := exec true false (init false)
      [(0,true),(0,true),(1,true),(0,true),(0,true),(0,true),(1,true),(0,true),(1,true),(2,false),(2,false),
       (2,false),(2,false)]
    s.pc 0 = .done 0 ∧ s.pc 1 = .done 0 ∧ s.pc 2 = .done 0 ∧ s.sh.queue = [0] ∧ s.sh.copies = [] := by
  decide

/-- An Immix winner that declines marks first and clears the bits afterwards: after load, CAS, mark
test and `decline` thread 0 stands before the mark (`.markPending`), the bits still `10`. -/
example : (exec true false (init false) [(0,true),(0,true),(0,true),(0,true)]).pc 0 = .markPending := by decide

/-- **C17 (tie)** Every quiescent reachable state has an outcome accepted by the executable predicate
`outcomeOk` (`Model/FwdTie.lean`) that the check evaluates on real-thread races. -/
theorem outcome_sound (hcs : immix = false → m0 = false) (h : Reachable immix oneStep m0 s) (n : Nat)
    (hn : 0 < n) (hfin : ∀ x, x < n → ∃ r, s.pc x = .done r) (hidle : ∀ x, n ≤ x → s.pc x = .start) :
    outcomeOk immix m0 (outcomeOf n s) = true := by
  have inv := reachable_inv hcs h
  have hq : ∀ x, inCrit (s.pc x) = false := by
    intro x
    by_cases hx : x < n
    · obtain ⟨r, hr⟩ := hfin x hx; rw [hr]; rfl
    · rw [hidle x (Nat.le_of_not_lt hx)]; rfl
  obtain ⟨r0, hr0⟩ := hfin 0 hn
  have hres : ∀ v, r0 = v → (outcomeOf n s).results.all (· == v) = true := by
    intro v e
    simp only [outcomeOf, List.all_eq_true, List.mem_map, List.mem_range]
    rintro y ⟨x, hx, rfl⟩
    obtain ⟨r, hr⟩ := hfin x hx
    rw [hr]
    exact beq_iff_eq.mpr ((agreement hcs h x 0 r r0 hr hr0).1.trans e)
  unfold outcomeOk
  rcases inv.quiescent hq hr0 with ⟨e, hc, hm, hi, h0, q⟩ | ⟨c, hm0, hm, h3, hp, q⟩
  · rw [show (outcomeOf n s).copies = 0 from congrArg List.length hc]
    simp only [Bool.and_eq_true]
    refine ⟨⟨⟨⟨hi, hm⟩, beq_iff_eq.mpr h0⟩, hres orig e⟩, ?_⟩
    cases m0 <;> exact beq_iff_eq.mpr q
  · rw [show (outcomeOf n s).copies = 1 from congrArg List.length c]
    simp only [Bool.and_eq_true]
    exact ⟨⟨⟨⟨by rw [hm0]; rfl, (Bool.not_eq_true' _).mpr hm⟩, beq_iff_eq.mpr h3⟩, hres _ hp.symm⟩,
      beq_iff_eq.mpr (q.trans (congrArg (fun c => [c]) hp.symm))⟩

/-- `outcomeOk` is not vacuous: it rejects a second copy, disagreeing tracers, a pointer that is not
the copy, bits left at `BEING_FORWARDED`, and a double enqueue. -/
example : outcomeOk false false { results := [4, 4, 4], copies := 1, queue := [4], bits := 3, ptr := 4, marked := false } = true ∧
    outcomeOk false false { results := [4, 2, 4], copies := 1, queue := [4], bits := 3, ptr := 4, marked := false } = false ∧
    outcomeOk false false { results := [4, 4], copies := 2, queue := [4], bits := 3, ptr := 4, marked := false } = false ∧
    outcomeOk false false { results := [4, 4], copies := 1, queue := [4], bits := 3, ptr := 2, marked := false } = false ∧
    outcomeOk false false { results := [4, 4], copies := 1, queue := [4], bits := 2, ptr := 4, marked := false } = false ∧
    outcomeOk false false { results := [4, 4], copies := 1, queue := [4, 4], bits := 3, ptr := 4, marked := false } = false ∧
    outcomeOk true false { results := [0, 0], copies := 0, queue := [0], bits := 0, ptr := 1, marked := true } = true ∧
    outcomeOk true false { results := [0, 0], copies := 0, queue := [0], bits := 0, ptr := 1, marked := false } = false := by
  decide

end Mmtk.Fwd
