import MmtkModel.Model.Snap
import MmtkModel.Lemmas.HeapOps
import MmtkModel.Lemmas.HeapVerdict
/-!
# C01 — Collection preserves every reachable object and the reachable graph

What the snapshot monitor (`gcm`, lean/Driver/GCMon) relies on when it decides C01 at every `snap` of a real collector
run: its worklist closure `reach` (fuel = number of objects + 1) marks exactly the ids of the inductive relation
`Reachable`, for every heap (`reach_iff`); every mutator op keeps the shadow heap well-formed (`applyOp_wf`); a snapshot
that `checkSnap` accepts lists every reachable id exactly once and nothing else (`checkSnap_sound`).

Level: proof of the monitor's model; partial w.r.t. the code (real collections are sampled by the runs).
-/
namespace Mmtk.Heap

theorem marked_set {v : Array Bool} {i j : Nat} :
    (v.setIfInBounds i true).getD j false = true ↔ i = j ∧ i < v.size ∨ v.getD j false = true := by
  simp only [Array.getD_eq_getD_getElem?, Array.getElem?_setIfInBounds]
  by_cases hij : i = j
  · subst hij
    by_cases hi : i < v.size <;> simp [hi]
  · simp [hij]

theorem getD_congr {v : Array Bool} {i : Nat} (hi : i < v.size) (d d' : Bool) : v.getD i d = v.getD i d' := by
  unfold Array.getD; rw [dif_pos hi, dif_pos hi]

theorem lt_of_getD_eq_not {v : Array Bool} {i : Nat} {d : Bool} (h : v.getD i d = !d) : i < v.size :=
  Decidable.by_contra fun hi => by unfold Array.getD at h; rw [dif_neg hi] at h; cases d <;> cases h

theorem getD_false_true {v : Array Bool} {i : Nat} (h : v.getD i false = true) : v.getD i true = true :=
  getD_congr (lt_of_getD_eq_not h) .. ▸ h

theorem marked_lt {v : Array Bool} {i : Nat} (h : v.getD i false = true) : i < v.size :=
  lt_of_getD_eq_not h

/-- The number of `false` entries: what the fuel of `reachAux` is measured against (each round marks one). -/
def unmarked (v : Array Bool) : Nat := v.toList.count false

theorem unmarked_set {v : Array Bool} {i : Nat} (h : v.getD i true = false) :
    unmarked (v.setIfInBounds i true) + 1 = unmarked v := by
  have hi := lt_of_getD_eq_not h
  have hl : v.toList[i] = false := by unfold Array.getD at h; rwa [dif_pos hi] at h
  unfold unmarked
  rw [Array.toList_setIfInBounds, List.count_set hi, hl]
  exact Nat.sub_add_cancel (List.count_pos_iff.2 (hl ▸ List.getElem_mem hi))

theorem skipVisited_eq (v : Array Bool) : ∀ work : List Id, skipVisited v work = work.dropWhile (v.getD · true)
  | [] => rfl
  | a :: work => by rw [skipVisited, List.dropWhile_cons, skipVisited_eq v work]

theorem skipVisited_subset (v : Array Bool) (work : List Id) (x : Id) (h : x ∈ skipVisited v work) : x ∈ work :=
  (List.dropWhile_sublist _).subset (skipVisited_eq v work ▸ h)

theorem skipVisited_head (v : Array Bool) (work : List Id) (i : Id) (rest : List Id)
    (h : skipVisited v work = i :: rest) : v.getD i true = false := by
  have := List.head?_dropWhile_not (v.getD · true) work
  rwa [← skipVisited_eq, h] at this

theorem mem_skipVisited_or (v : Array Bool) (work : List Id) (x : Id) (h : x ∈ work) :
    x ∈ skipVisited v work ∨ v.getD x true = true := by
  rw [skipVisited_eq]
  rw [← List.takeWhile_append_dropWhile (p := (v.getD · true)) (l := work)] at h
  exact (List.mem_append.1 h).symm.imp_right (List.all_eq_true.1 List.all_takeWhile x)
theorem reachAux_sound (h : Heap) (roots : List Id) : ∀ (fuel : Nat) (work : List Id) (v : Array Bool),
    v.size = h.objs.size →
    (∀ i, v.getD i false = true → ReachableFrom h roots i) →
    (∀ i ∈ work, i < h.objs.size → ReachableFrom h roots i) →
    ∀ i, (reachAux h fuel work v).getD i false = true → ReachableFrom h roots i
  | 0, _, v, _, hv, _ => hv
  | fuel + 1, work, v, hs, hv, hw => by
    unfold reachAux
    cases hsk : skipVisited v work with
    | nil => exact hv
    | cons i rest =>
      have hsub : ∀ x ∈ i :: rest, x ∈ work := hsk ▸ skipVisited_subset v work
      have hi := lt_of_getD_eq_not (skipVisited_head v work i rest hsk)
      have hir : ReachableFrom h roots i := hw i (hsub i List.mem_cons_self) (hs ▸ hi)
      apply reachAux_sound h roots fuel
      · rw [Array.size_setIfInBounds, hs]
      · intro j hj
        rcases marked_set.1 hj with ⟨rfl, _⟩ | hj
        · exact hir
        · exact hv j hj
      · intro j hj hjs
        rcases List.mem_append.1 hj with hj | hj
        · exact ReachableFrom.step hir hj hjs
        · exact hw j (hsub j (List.mem_cons_of_mem _ hj)) hjs

/-- The loop invariant of the completeness proof: every in-range child of a marked object is marked or still
waits in `work`.  With `work = []` the marked set is closed under `childrenOf`. -/
def Closed (h : Heap) (v : Array Bool) (work : List Id) : Prop :=
  ∀ i, v.getD i false = true → ∀ j ∈ h.childrenOf i, j < h.objs.size → v.getD j false = true ∨ j ∈ work

theorem reachAux_complete (h : Heap) : ∀ (fuel : Nat) (work : List Id) (v : Array Bool),
    v.size = h.objs.size → unmarked v < fuel → Closed h v work →
    (∀ i, v.getD i false = true → (reachAux h fuel work v).getD i false = true) ∧
    (∀ i ∈ work, i < h.objs.size → (reachAux h fuel work v).getD i false = true) ∧
    Closed h (reachAux h fuel work v) []
  | 0, _, _, _, hf, _ => absurd hf (Nat.not_lt_zero _)
  | fuel + 1, work, v, hs, hf, hc => by
    unfold reachAux
    have hwork : ∀ j ∈ work, j < h.objs.size → j ∈ skipVisited v work ∨ v.getD j false = true :=
      fun j hj hjs => (mem_skipVisited_or v work j hj).imp_right (getD_congr (hs ▸ hjs) .. ▸ ·)
    cases hsk : skipVisited v work with
    | nil =>
      rw [hsk] at hwork
      have hdone : ∀ j ∈ work, j < h.objs.size → v.getD j false = true :=
        fun j hj hjs => (hwork j hj hjs).resolve_left List.not_mem_nil
      exact ⟨fun _ hi => hi, hdone, fun i hi j hj hjs => .inl ((hc i hi j hj hjs).elim id (hdone j · hjs))⟩
    | cons i rest =>
      rw [hsk] at hwork
      have h2 := skipVisited_head v work i rest hsk
      have hi := lt_of_getD_eq_not h2
      have hmono : ∀ j, v.getD j false = true → (v.setIfInBounds i true).getD j false = true :=
        fun j hj => marked_set.2 (.inr hj)
      -- an in-range work item is marked by now (it was, or it is `i`) or still waits in `rest`
      have hwork' : ∀ j ∈ work, j < h.objs.size →
          (v.setIfInBounds i true).getD j false = true ∨ j ∈ h.childrenOf i ++ rest := by
        intro j hj hjs
        rcases hwork j hj hjs with hr | hvis
        · rcases List.mem_cons.1 hr with rfl | hr
          · exact .inl (marked_set.2 (.inl ⟨rfl, hi⟩))
          · exact .inr (List.mem_append_right _ hr)
        · exact .inl (hmono j hvis)
      have hcl : Closed h (v.setIfInBounds i true) (h.childrenOf i ++ rest) := by
        intro k hk j hj hjs
        rcases marked_set.1 hk with ⟨rfl, _⟩ | hk
        · exact .inr (List.mem_append_left _ hj)
        · exact (hc k hk j hj hjs).elim (fun hm => .inl (hmono j hm)) (hwork' j · hjs)
      have ⟨r1, r2, r3⟩ := reachAux_complete h fuel (h.childrenOf i ++ rest) (v.setIfInBounds i true)
        (by rw [Array.size_setIfInBounds, hs]) (Nat.lt_of_succ_lt_succ ((unmarked_set h2).symm ▸ hf : unmarked (v.setIfInBounds i true) + 1 < fuel + 1)) hcl
      exact ⟨fun j hj => r1 j (hmono j hj), fun j hj hjs => (hwork' j hj hjs).elim (r1 j) (r2 j · hjs), r3⟩

theorem unmarked_replicate (n : Nat) : unmarked (Array.replicate n false) = n := by
  simp [unmarked]

theorem getD_replicate_false {n i : Nat} : (Array.replicate n false).getD i false ≠ true := by
  simp only [Array.getD_eq_getD_getElem?]
  by_cases hi : i < n <;> simp [hi]

theorem reachFrom_iff (h : Heap) (roots : List Id) (i : Id) :
    (reachFrom h roots).getD i false = true ↔ ReachableFrom h roots i := by
  unfold reachFrom
  constructor
  · apply reachAux_sound h roots
    · simp
    · exact fun j hj => absurd hj getD_replicate_false
    · intro j hj hjs; exact ReachableFrom.root hj hjs
  · intro hr
    have ⟨_, r2, r3⟩ := reachAux_complete h (h.objs.size + 1) roots (Array.replicate h.objs.size false)
      (by simp) (by rw [unmarked_replicate]; exact Nat.lt_succ_self _)
      (fun k hk => absurd hk getD_replicate_false)
    induction hr with
    | root hm hs => exact r2 _ hm hs
    | step _ hj hjs ih =>
      rcases r3 _ ih _ hj hjs with hm | hm
      · exact hm
      · cases hm

theorem reach_iff (h : Heap) (i : Id) : h.isReachable i = true ↔ Reachable h i :=
  reachFrom_iff h h.rootIds i

theorem reachableFrom_mono {objs : Array Obj} {t t' : List (Nat × Id)} {r r' : List Id} (hsub : ∀ x ∈ r, x ∈ r')
    {i : Id} (hr : ReachableFrom ⟨objs, t⟩ r i) : ReachableFrom ⟨objs, t'⟩ r' i := by
  induction hr with
  | root hm hs => exact .root (hsub _ hm) hs
  | step _ hj hjs ih => exact .step ih hj hjs

theorem reach_mono_roots (h : Heap) (r r' : List Id) (hsub : ∀ x ∈ r, x ∈ r') (i : Id)
    (hm : (reachFrom h r).getD i false = true) : (reachFrom h r').getD i false = true :=
  (reachFrom_iff h r' i).2 (reachableFrom_mono hsub ((reachFrom_iff h r i).1 hm))

theorem mem_setRoot : ∀ (l : List (Nat × Id)) (k : Nat) (v : Option Id) (kv : Nat × Id),
    kv ∈ setRoot l k v → v = some kv.2 ∧ kv.1 = k ∨ kv ∈ l
  | [], _, none, _, h => nomatch h
  | [], _, some _, _, h => .inl (by rw [List.mem_singleton.1 h]; exact ⟨rfl, rfl⟩)
  | (k', v') :: rest, k, v, kv, h => by
    unfold setRoot at h
    by_cases h1 : k' < k
    · rw [if_pos h1] at h
      rcases List.mem_cons.1 h with rfl | h
      · exact .inr List.mem_cons_self
      · exact (mem_setRoot rest k v kv h).imp_right (List.mem_cons_of_mem _)
    rw [if_neg h1] at h
    by_cases h2 : k' = k
    · rw [if_pos h2] at h
      cases v with
      | none => exact .inr (List.mem_cons_of_mem _ h)
      | some x => exact (List.mem_cons.1 h).imp (fun (e : kv = (k, x)) => e ▸ ⟨rfl, rfl⟩) (List.mem_cons_of_mem _)
    · rw [if_neg h2] at h
      cases v with
      | none => exact .inr h
      | some x => exact (List.mem_cons.1 h).imp_left (fun (e : kv = (k, x)) => e ▸ ⟨rfl, rfl⟩)

theorem mem_setRoot_none (l : List (Nat × Id)) (k : Nat) (kv : Nat × Id) (h : kv ∈ setRoot l k none) : kv ∈ l :=
  (mem_setRoot l k none kv h).resolve_left fun h => nomatch h.1

theorem reach_drop_root (h : Heap) (k : Nat) (i : Id)
    (hm : Heap.isReachable { h with roots := setRoot h.roots k none } i = true) : h.isReachable i = true := by
  refine (reach_iff h i).2 (reachableFrom_mono (fun x hx => ?_) ((reach_iff _ i).1 hm))
  obtain ⟨kv, hkv, rfl⟩ := List.mem_map.1 hx
  exact List.mem_map.2 ⟨kv, mem_setRoot_none _ _ _ hkv, rfl⟩

theorem wf_empty : WF {} := by
  constructor
  · intro i hi; exact absurd hi (Nat.not_lt_zero i)
  · intro i hi; exact absurd hi (Nat.not_lt_zero i)
  · intro i hi; exact absurd hi (Nat.not_lt_zero i)
  · intro kv hkv; exact absurd hkv List.not_mem_nil

/-- `n` = the size of the object table: what the fields of the object at index `i` must stay below -/
def ObjOk (n i : Nat) (o : Obj) : Prop :=
  o.id = i ∧ o.fields.length = o.nfields ∧ ∀ j, some j ∈ o.fields → j < n

/-- `WF` object by object, read through `objs[i]?`: no bound proofs to carry through `push` and `modify`. -/
theorem wf_iff {h : Heap} :
    WF h ↔ (∀ i o, h.objs[i]? = some o → ObjOk h.objs.size i o) ∧ ∀ kv ∈ h.roots, kv.2 < h.objs.size := by
  refine ⟨fun wf => ⟨fun i o hio => ?_, wf.roots⟩, fun ⟨ho, hr⟩ => ⟨fun i hi => ?_, fun i hi => ?_, fun i hi => ?_, hr⟩⟩
  · obtain ⟨hi, rfl⟩ := Array.getElem?_eq_some_iff.1 hio
    exact ⟨wf.ids i hi, wf.len i hi, wf.fields i hi⟩
  · exact (ho i _ (Array.getElem?_eq_getElem hi)).1
  · exact (ho i _ (Array.getElem?_eq_getElem hi)).2.1
  · exact (ho i _ (Array.getElem?_eq_getElem hi)).2.2

theorem WF.obj {h : Heap} (wf : WF h) {i : Id} {o : Obj} (ho : h.objs[i]? = some o) : ObjOk h.objs.size i o :=
  (wf_iff.1 wf).1 i o ho

theorem wf_modify {h : Heap} (wf : WF h) (i : Id) (f : Obj → Obj)
    (hf : ∀ o, h.objs[i]? = some o → ObjOk h.objs.size i (f o)) : WF (h.modifyObj i f) := by
  refine wf_iff.2 ⟨fun k o' hk => ?_, by rw [modifyObj_objs, Array.size_modify]; exact wf.roots⟩
  rw [modifyObj_objs, Array.size_modify]
  rw [modifyObj_objs, Array.getElem?_modify] at hk
  split at hk
  · obtain ⟨o, ho, rfl⟩ := Option.map_eq_some_iff.1 hk
    subst ‹i = k›; exact hf o ho
  · exact wf.obj hk

theorem wf_push {h : Heap} (wf : WF h) (o : Obj) (roots : List (Nat × Id))
    (ho : ObjOk (h.objs.size + 1) h.objs.size o) (hr : ∀ kv ∈ roots, kv.2 < h.objs.size + 1) :
    WF { objs := h.objs.push o, roots := roots } := by
  refine wf_iff.2 ⟨fun k o' hk => ?_, by rw [Array.size_push]; exact hr⟩
  rw [Array.size_push]
  rw [Array.getElem?_push] at hk
  split at hk
  · cases hk; subst ‹k = _›; exact ho
  · have ⟨a, b, c⟩ := wf.obj hk
    exact ⟨a, b, fun j hj => Nat.lt_succ_of_lt (c j hj)⟩

theorem length_splice {α} (l vals : List α) (i n : Nat) (h : i + n ≤ l.length) (hv : vals.length = n) :
    (l.take i ++ vals ++ l.drop (i + n)).length = l.length := by
  rw [List.length_append, List.length_append, List.length_take_of_le (Nat.le_trans (Nat.le_add_right i n) h),
    hv, List.length_drop]
  exact Nat.add_sub_of_le h

theorem applyOp_wf {h h' : Heap} (wf : WF h) (op : Op) (hop : applyOp h op = some h') : WF h' := by
  cases applyOp_sound hop with
  | alloc hid =>
    refine wf_push wf _ _ ⟨hid, List.length_replicate .., fun j hj => nomatch (List.mem_replicate.1 hj).2⟩
      (fun kv hkv => ?_)
    rcases mem_setRoot _ _ _ _ hkv with ⟨h, _⟩ | hm
    · cases h; exact hid ▸ Nat.lt_succ_self _
    · exact Nat.lt_succ_of_lt (wf.roots kv hm)
  | allocFail hid =>
    exact wf_push wf _ _ ⟨hid, rfl, fun j hj => nomatch hj⟩ (fun kv hkv => Nat.lt_succ_of_lt (wf.roots kv hkv))
  | @root key v hk =>
    refine ⟨wf.ids, wf.len, wf.fields, fun kv hkv => ?_⟩
    rcases mem_setRoot _ _ _ _ hkv with ⟨rfl, _⟩ | hm
    · simpa [Heap.knows] using hk
    · exact wf.roots kv hm
  | @write src f v o ho hf hk =>
    refine wf_modify wf _ _ fun o ho => ?_
    have ⟨a, b, c⟩ := wf.obj ho
    refine ⟨a, (List.length_set ..).trans b, fun j hj => ?_⟩
    rcases List.mem_or_eq_of_mem_set hj with hm | he
    · exact c j hm
    · subst he; simpa [Heap.knows] using hk
  | @copyrange src sf dst df n s d hs hd h1 h2 =>
    refine wf_modify wf _ _ fun o ho => ?_
    cases hd.symm.trans ho
    have ⟨a, b, c⟩ := wf.obj ho
    have ⟨_, bs, cs⟩ := wf.obj hs
    refine ⟨a, (length_splice d.fields _ df n (b ▸ h2)
      (List.length_take_of_le (by rw [List.length_drop, bs]; exact Nat.le_sub_of_add_le' h1))).trans b, fun j hj => ?_⟩
    simp only [List.mem_append] at hj
    rcases hj with (hj | hj) | hj
    · exact c j (List.mem_of_mem_take hj)
    · exact cs j (List.mem_of_mem_drop (List.mem_of_mem_take hj))
    · exact c j (List.mem_of_mem_drop hj)
  | destroy => exact ⟨wf.ids, wf.len, wf.fields, fun kv hkv => wf.roots kv (List.mem_filter.1 hkv).1⟩
  | mkref | pin => exact wf_modify wf _ _ fun _ => wf.obj

theorem strictIncr_pairwise (l : List Id) : strictIncr l = true → l.Pairwise (· < ·) :=
  pairwise_of_neighbours (· < ·) (fun _ _ _ => Nat.lt_trans) strictIncr (fun _ _ _ => rfl) l

theorem firstSome_eq_findSome? {α β} (f : α → Option β) : ∀ l : List α, firstSome f l = l.findSome? f
  | [] => rfl
  | a :: l => by rw [firstSome, List.findSome?_cons, firstSome_eq_findSome? f l]; cases f a <;> rfl

theorem checkObj_none {h : Heap} {r : Array Bool} {o : SObj} (hc : checkObj h r o = none) :
    ∃ w, h.objs[o.id]? = some w ∧ r.getD o.id false = true ∧ o.size = w.size ∧ o.hashok = true ∧
      objFieldsOk w o = true := by
  unfold checkObj at hc
  cases hw : h.objs[o.id]? with
  | none => rw [hw] at hc; cases hc
  | some w =>
    rw [hw] at hc
    simp only [ite_some_eq_none, Bool.not_eq_true', bne_iff_ne, ne_eq, Decidable.not_not, Bool.not_eq_false,
      and_true] at hc
    exact ⟨w, rfl, hc⟩

theorem firstLost_none (r seen : Array Bool) : ∀ (n : Nat), firstLost r seen n = none →
    ∀ i, i < n → r.getD i false = true → seen.getD i false = true
  | 0, _, i, hi, _ => absurd hi (Nat.not_lt_zero _)
  | n + 1, h, i, hi, hr => by
    unfold firstLost at h
    split at h
    · cases h
    · rename_i hn
      by_cases hin : i = n
      · subst hin
        by_cases hs : seen.getD i false = true
        · exact hs
        · simp [hr, hs] at h
      · exact firstLost_none r seen n hn i (Nat.lt_of_le_of_ne (Nat.le_of_lt_succ hi) hin) hr

theorem foldl_mark_mem (j : Nat) (ids : List Id) (a : Array Bool) :
    (ids.foldl (fun a i => a.setIfInBounds i true) a).getD j false = true → a.getD j false = true ∨ j ∈ ids :=
  List.foldlRecOn (motive := fun b : Array Bool => b.getD j false = true → a.getD j false = true ∨ j ∈ ids) ids _ .inl
    fun _ hb _ hi h => (marked_set.1 h).elim (fun e => .inr (e.1 ▸ hi)) hb

theorem reachable_lt {h : Heap} {roots : List Id} {i : Id} (hr : ReachableFrom h roots i) : i < h.objs.size := by
  cases hr with
  | root _ hs => exact hs
  | step _ _ hs => exact hs

/-- C01 on the graph: if `checkSnap` accepts a snapshot then every id is listed at most once, every listed object is
`Reachable` in the shadow heap with the shadow object's size and an intact payload hash, and every `Reachable` id is
listed.  The agreement of fields and root slots is passed on as the checker's own Booleans `objFieldsOk`, `rootsOk`
(Model/Snap.lean), which no lemma characterises; and `checkSnap` never reads `SObj.ref`: that two ids do not share an
address is C02's `noOverlap`, which the monitor runs on the same snapshot. -/
theorem checkSnap_sound (h : Heap) (s : Snap) (hc : checkSnap h s = none) :
    (s.objs.map (·.id)).Pairwise (· < ·) ∧
    (∀ o ∈ s.objs, Reachable h o.id ∧ ∃ w, h.objs[o.id]? = some w ∧ o.size = w.size ∧ o.hashok = true ∧
      objFieldsOk w o = true) ∧
    (∀ i, Reachable h i → ∃ o ∈ s.objs, o.id = i) ∧
    rootsOk h.roots s.roots = true := by
  unfold checkSnap at hc
  obtain ⟨hinc, hc⟩ := ite_some_eq_none.1 hc
  dsimp only at hc
  split at hc
  · cases hc
  rename_i hobjs
  split at hc
  · cases hc
  rename_i hlost
  have hroots := (ite_some_eq_none.1 hc).1
  refine ⟨strictIncr_pairwise _ (by simpa using hinc), ?_, ?_, by simpa using hroots⟩
  · intro o ho
    have ⟨w, hw, hr, h2, h3, h4⟩ := checkObj_none (List.findSome?_eq_none_iff.1 ((firstSome_eq_findSome? _ _).symm.trans hobjs) o ho)
    exact ⟨(reach_iff h o.id).1 hr, w, hw, h2, h3, h4⟩
  · intro i hi
    have hm : (reach h).getD i false = true := (reach_iff h i).2 hi
    have hseen := firstLost_none _ _ _ hlost i (reachable_lt hi) hm
    rcases foldl_mark_mem i _ _ hseen with h0 | hmem
    · exact absurd h0 getD_replicate_false
    · obtain ⟨o, ho, rfl⟩ := List.mem_map.1 hmem
      exact ⟨o, ho, rfl⟩

/-! ### the hypotheses are satisfiable: a concrete heap (a cycle 0 → 1 → 0, garbage 2, shared 3) -/

def exHeap : Heap :=
  { objs := #[{ id := 0, size := 48, sem := .default, nfields := 2, fields := [some 1, some 3] },
              { id := 1, size := 40, sem := .los, nfields := 1, fields := [some 0] },
              { id := 2, size := 40, sem := .default, nfields := 1, fields := [some 3] },
              { id := 3, size := 32, sem := .immortal, nfields := 0, fields := [] }],
    roots := [(mutKey 0 5, 0)] }

example : exHeap.isReachable 1 = true ∧ exHeap.isReachable 3 = true ∧ exHeap.isReachable 2 = false := by decide
example : Reachable exHeap 3 :=
  .step (i := 0) (.root (by decide) (by decide)) (by decide) (by decide)
def exSnap (withShared : Bool) : Snap :=
  { gcs := 1, roots := [(mutKey 0 5, SVal.id 0)],
    objs := [⟨0, 0x1010, 48, 'D', true, [SVal.id 1, SVal.id 3]⟩, ⟨1, 0x2008, 40, 'L', true, [SVal.id 0]⟩] ++
            (if withShared then [⟨3, 0x3008, 32, 'I', true, []⟩] else []) }

example : (checkSnap exHeap (exSnap true)).map (·.1) = none := rfl
example : (checkSnap exHeap (exSnap false)).map (·.1) = some "gc:lost-object" := rfl

end Mmtk.Heap
