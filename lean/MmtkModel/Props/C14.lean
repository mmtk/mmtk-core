import MmtkModel.Lemmas.SchedLive
import MmtkModel.Lemmas.SchedExitGc
import MmtkModel.Lemmas.SchedLiveWitness
import MmtkModel.Props.C15Stages
/-!
# C14 — Every requested GC completes; workers never deadlock or lose a wake-up

Model: `Model/Sched.lean` (interleaving transition system, `n` workers for every `n`, every stage
table).  All theorems quantify over **every reachable state**, i.e. every interleaving of worker,
mutator and spurious-wake-up actions, every packet-spawning pattern, every `n ≥ 1`.

Proved (safety part of C14):
* `parked_count_exact` — `parked_workers` is exactly the number of workers inside `Condvar::wait` or
  woken-but-not-yet-unparked; the pool of surrendered `GCWorker` structs is counted exactly.
* `no_lost_request` — whenever a goal is requested or current, some worker is *not* waiting: the
  `notify_one` of `make_request` finds a waiter if all wait, and the last parked worker never goes to
  sleep with a request pending (`last_parker_sleeps_only_when_idle`).
* `no_stranded_packet` — a packet in an open ∧ enabled bucket or in a local deque is covered: some
  worker is running a packet or is polling and has not yet seen that container empty.  Hence
  `all_parked_no_work`: if no worker is running/polling, nothing is runnable.  Hypothesis (explicit):
  mutators do not push into open ∧ enabled buckets (`mutAddOpen = false`; true for the
  stop-the-world plans).
* `stranded_with_mutator_push` — the hypothesis is necessary: with one worker and a mutator that
  pushes into an open bucket (the SATB barrier of ConcurrentImmix during concurrent marking) the
  state "the only worker waits, a runnable packet exists, no wake-up in flight" is reachable
  (kernel-evaluated witness run).  This is the race the comment in `park_and_wait` describes.
* `designated_not_forgotten` — designated work exists only during a GC and never while all workers wait.
* `gc_never_sleeps_partial` — the safety half of "each GC request eventually leads to a completed
  collection": while a Gc goal is current, never do all workers wait (no deadlock inside a GC), and
  the transition that makes the last worker wait has no request pending.  (The liveness half is
  `gc_completes_under_fairness` below.)

Proved (liveness part of C14; fair runs are defined in `Lemmas/SchedLiveRun.lean`, the progress lemma is proved in
`Lemmas/SchedLivePark.lean`, the completion of a GC in `Lemmas/SchedLive.lean`, each with its argument in the header):
* hypotheses, all explicit: `FairRun` (weak fairness of each worker's loop actions; what a running packet does, mutator /
  binding actions and spurious wake-ups are unconstrained), `FiniteSpawn` (finitely many packets are created),
  `FiniteEnv` (from some point on only GC workers act: finitely many mutator actions **and finitely many spurious
  wake-ups**), `NoAssert` (a worker about to park can park: no debug assertion of `on_last_parked` fires; the model
  disables `park` exactly where the code panics), `GcPending` (a Gc request is pending or a Gc goal is current, no exit
  goal is current, no worker thread has surrendered).  `mutAddOpen = false` is in the statements too, but only the last
  conjunct of `gc_completes_under_fairness` (no worker runs a packet, deques empty: `quiescent_at_end`) uses it; the
  proofs that the GC completes do not.
* `all_workers_park_eventually` — the progress lemma: the run reaches a `park` of the last parker.
* `request_leads_to_goal`, `gc_in_progress_completes` — the two halves of the way from the request to the completed GC.
* **`gc_completes_under_fairness`** — the full statement: the run reaches the `park` that completes *that* GC.
* `no_lost_request_at_gc_end` — a `Shutdown` / `StopForFork` request made *while a GC is in progress* is not lost
  (`Lemmas/SchedExitGc.lean`; liveness from there: C16 `workers_exit_under_fairness_during_gc`).
* `live_hypotheses_satisfiable` — a concrete run (1 worker, request → ScheduleCollection → completion →
  sleep, then stuttering) satisfies every hypothesis (kernel-evaluated), and the theorem applied to it.
Why `FiniteEnv` (finitely many spurious wake-ups) and not "spurious wake-ups allowed without bound": with two
workers A, B the schedule  A.spurious, A.wake, B.park, A.observe…, A.pollMiss, B.spurious, B.wake, A.park, …
is weakly fair for every class above and never lets `parked_workers` reach `n`: the GC never completes.  The
hypothesis cannot be dropped; it is the model's form of "spurious wake-ups are rare".  (Not proved as a Lean
counterexample — it needs an infinite fair run with unboundedly many wake-ups; only the argument is given.)
Not assumed: any bound on what a packet does while it runs, on the number of workers, on the interleaving.
-/
namespace Mmtk.Sched

theorem parked_count_exact {c : Cfg} {s : State} (h : Reachable c s) :
    s.parked = countW c.n (fun x => (s.pc x).isParked) :=
  (reachable_invA h).parked_eq

/-- `InvA.pool` of a reachable state (C16 states the same fact as `surrender_once`) -/
theorem pool_count_exact {c : Cfg} {s : State} (h : Reachable c s) (k : Nat) (hk : s.creation = .surrendered k) :
    k = countW c.n (fun x => decide (s.pc x = .surrendered)) :=
  (reachable_invA h).pool k hk

/-- `0 < n`: MMTk always has at least one GC worker. -/
theorem no_lost_request {c : Cfg} (hn : 0 < c.n) {s : State} (h : Reachable c s)
    (hreq : anyRequested s = true ∨ s.current ≠ none) : ∃ x, x < c.n ∧ s.pc x ≠ .waiting := by
  apply Classical.byContradiction
  intro hno
  obtain ⟨h1, h2⟩ := reachable_invB hn h (fun x hx => Classical.byContradiction fun hx2 => hno ⟨x, hx, hx2⟩)
  rcases hreq with h | h
  · rw [h1] at h; cases h
  · exact h h2

theorem last_parker_sleeps_only_when_idle {c : Cfg} {s s' : State} {tag : Nat}
    (h : onLastParked c s tag = some (s', .parkSelf)) : anyRequested s' = false ∧ s'.current = none :=
  onLastParked_parkSelf h

theorem no_stranded_packet {c : Cfg} (hn : 0 < c.n) (hmut : c.mutAddOpen = false) {s : State}
    (h : Reachable c s) (k : Cont) (hk : NonEmpty c s k) :
    ∃ x, x < c.n ∧ ((s.pc x).isExec = true ∨ ∃ seen, s.pc x = .polling seen ∧ k ∉ seen) := by
  obtain ⟨x, hx, hc⟩ := (reachable_inv hn hmut h).c' k hk
  exact ⟨x, hx, covers_iff.1 hc⟩

theorem all_parked_no_work {c : Cfg} (hn : 0 < c.n) (hmut : c.mutAddOpen = false) {s : State}
    (h : Reachable c s)
    (hidle : ∀ x, x < c.n → (s.pc x).isExec = false ∧ ∀ seen, s.pc x ≠ .polling seen) :
    (∀ b, b < c.L → (s.bkt b).runnable = false) ∧ ∀ v, v < c.n → s.buf v = [] := by
  apply noRun_of_invC (reachable_inv hn hmut h).c'
  intro x k hx hc
  obtain ⟨h1, h2⟩ := hidle x hx
  rcases covers_iff.1 hc with e | ⟨seen, e, _⟩
  · rw [h1] at e; cases e
  · exact h2 seen e

/-- designated work (packets only one worker may run) is never forgotten: it exists only while a Gc
goal is current, so (by `no_lost_request`) never while all workers wait; and the last parked
worker that finds designated work wakes everybody (`on_last_parked`, first branch). -/
theorem designated_not_forgotten {c : Cfg} (hn : 0 < c.n) {s : State} (h : Reachable c s) (x : Nat) (hx : x < c.n)
    (hd : s.desig x ≠ []) : s.current = some .gc ∧ ∃ y, y < c.n ∧ s.pc y ≠ .waiting := by
  have hg := reachable_invD hn h x hx hd
  exact ⟨hg, no_lost_request hn h (Or.inr (by rw [hg]; simp))⟩

/-- Contrapositive of `no_lost_request` (the invariant `InvB` as it stands): if every worker waits, no goal is current and
nothing is requested; so inside a GC the workers never all sleep. -/
theorem gc_never_sleeps_partial {c : Cfg} (hn : 0 < c.n) {s : State} (h : Reachable c s)
    (hall : ∀ x, x < c.n → s.pc x = .waiting) : s.current = none ∧ anyRequested s = false :=
  let ⟨h1, h2⟩ := reachable_invB hn h hall
  ⟨h2, h1⟩

/-- the run reaches a `park` step of the *last* parker, the worker that runs `on_last_parked` (every other worker is parked
then, by `parked_count_exact`); the request / goal is still there (`Pending`) at that step. -/
theorem all_workers_park_eventually {c : Cfg} {tr : Nat → State} {act : Nat → Option Act}
    (hn : 0 < c.n) (hmut : c.mutAddOpen = false) (hu : c.unconIdx < c.L)
    (R : FairRun c tr act) (hN : FiniteSpawn tr) (hE : FiniteEnv act) (hA : NoAssert c tr) (hP : Pending c (tr 0)) :
    ∃ j, IsLastPark c (tr j) (act j) ∧ ∀ i, i ≤ j → Pending c (tr i) :=
  last_park_eventually hn hu R hN hE hA hP

theorem request_leads_to_goal {c : Cfg} {tr : Nat → State} {act : Nat → Option Act}
    (hn : 0 < c.n) (hmut : c.mutAddOpen = false) (hu : c.unconIdx < c.L)
    (R : FairRun c tr act) (hN : FiniteSpawn tr) (hE : FiniteEnv act) (hA : NoAssert c tr) (hP : GcPending c (tr 0)) :
    ∃ j, (tr j).current = some .gc ∧ ∀ i, i ≤ j → (tr i).gcDone = (tr 0).gcDone := by
  obtain ⟨j0, h1, h2, _⟩ := gc_request_completes hn hmut hu R hN hE hA hP
  exact ⟨j0, h1, h2⟩

theorem gc_in_progress_completes {c : Cfg} {tr : Nat → State} {act : Nat → Option Act}
    (hn : 0 < c.n) (hmut : c.mutAddOpen = false) (hu : c.unconIdx < c.L)
    (R : FairRun c tr act) (hN : FiniteSpawn tr) (hE : FiniteEnv act) (hA : NoAssert c tr) (hP : Pending c (tr 0))
    (hc : (tr 0).current = some .gc) : ∃ j, (tr j).gcDone ≠ (tr 0).gcDone :=
  gc_done_changes hn hu R hN hE hA hP hc

/-- **Every requested GC completes.**  The run reaches the transition `j → j+1` that
completes that GC: up to `j` the counter `gcDone` is unchanged and at `j+1` it is one larger; the transition is
the `park` of the last parker `w` while the Gc goal is current and every other worker is parked; afterwards
every stop-the-world bucket is closed and empty, no worker runs a packet and every local deque is empty. -/
theorem gc_completes_under_fairness {c : Cfg} {tr : Nat → State} {act : Nat → Option Act}
    (hwf : c.WF) (hmut : c.mutAddOpen = false) (hu : c.unconIdx < c.L)
    (R : FairRun c tr act) (hN : FiniteSpawn tr) (hE : FiniteEnv act) (hA : NoAssert c tr) (hP : GcPending c (tr 0)) :
    ∃ j w tag, (∀ i, i ≤ j → (tr i).gcDone = (tr 0).gcDone) ∧ act j = some (.park w tag) ∧
      (tr (j+1)).gcDone = (tr 0).gcDone + 1 ∧ (tr j).current = some .gc ∧ w < c.n ∧ (tr j).pc w = .parking ∧
      (∀ x, x < c.n → x ≠ w → ((tr j).pc x).isParked = true) ∧
      (∀ b, b < c.L → (c.info b).isStw = true → ((tr (j+1)).bkt b).isOpen = false ∧ ((tr (j+1)).bkt b).q = []) ∧
      (∀ x, x < c.n → ((tr (j+1)).pc x).isExec = false ∧ (tr (j+1)).buf x = []) := by
  obtain ⟨j, w, tag, ha, hsame, hne⟩ := gc_completing_step hwf.npos hu R hN hE hA hP
  have hs := R.step_at ha
  obtain ⟨_, hplus, hcur, hstw⟩ := all_closed_at_end hwf hs hne
  obtain ⟨hw, hpc, hcase⟩ := step_park_eff hs
  refine ⟨j, w, tag, hsame, ha, by rw [hplus, hsame j (Nat.le_refl _)], hcur, hw, hpc, ?_, hstw, ?_⟩
  · rcases hcase with ⟨_, e⟩ | ⟨hlast, _⟩
    · rw [e] at hne; exact absurd rfl hne
    · exact others_parked_when_last (reachable_invA (R.reach j)) hw hpc hlast
  · exact fun x hx => ⟨idle_at_end hwf hmut (R.reach j) hs hne x hx, (quiescent_at_end hwf hmut (R.reach j) hs hne).2 x hx⟩

/-- **No request is lost at the end of a GC:** a `Shutdown` / `StopForFork` request that is pending when the
last parker completes a GC (`gcDone` changes) — i.e. a request made while the GC was in progress, whose single
`notify_one` may have been consumed by a worker that found `current = Gc` and parked again — is served or kept:
after that `park` step the parker is not waiting, no worker is waiting (every other worker has been woken), and
either an exit goal is current or the request flag is still set.  Hence `no_lost_request` holds across the
end of a GC with an exit request pending without relying on any further notification. -/
theorem no_lost_request_at_gc_end {c : Cfg} {s s' : State} {w tag : Nat} (hr : Reachable c s)
    (hs : step c s (.park w tag) = some s') (hd : s'.gcDone ≠ s.gcDone)
    (hreq : s.reqShutdown = true ∨ s.reqFork = true) :
    (∀ x, x < c.n → s'.pc x ≠ .waiting) ∧
    ((∃ g, s'.current = some g ∧ g.isExit = true) ∨ (s'.reqShutdown = true ∨ s'.reqFork = true)) := by
  obtain ⟨_, _, _, _, hothers, hcases⟩ := exit_request_survives_gc hr hs hd hreq
  obtain ⟨hw, _⟩ := step_park_eff hs
  refine ⟨fun x hx => ?_, ?_⟩
  · by_cases e : x = w
    · subst e
      rcases hcases with ⟨_, h⟩ | ⟨_, _, _, h⟩ <;> rw [h] <;> simp
    · rw [hothers x hx e]; simp
  · rcases hcases with ⟨h, _⟩ | ⟨_, _, h, _⟩
    · exact Or.inl h
    · exact Or.inr h

open Mmtk.Generated.Stages in
/-- the state after `GCTrigger::request` + `make_request(Gc)`: one worker, a Gc request is pending -/
def liveStart : State := (exec (cfg 1) (init (cfg 1)) [.requestFlag, .makeRequest .gc none]).getD (init (cfg 1))

open Mmtk.Generated.Stages in
/-- the worker finds nothing, parks (last parker: starts the Gc goal), runs `ScheduleCollection`, finds
nothing, parks again (last parker: completes the GC and goes to sleep) -/
def liveRun : List Act :=
  (allConts (cfg 1)).map (Act.observeEmpty 0) ++ [.pollMiss 0, .park 0 7, .pollBucket 0 0 ⟨0, 0, 7⟩, .execEnd 0] ++
  (allConts (cfg 1)).map (Act.observeEmpty 0) ++ [.pollMiss 0, .park 0 0]

open Mmtk.Generated.Stages in
theorem live_hypotheses_satisfiable :
    (cfg 1).WF ∧ (cfg 1).mutAddOpen = false ∧ (cfg 1).unconIdx < (cfg 1).L ∧
    FairRun (cfg 1) (runStates (cfg 1) liveStart liveRun) (fun k => liveRun[k]?) ∧
    FiniteSpawn (runStates (cfg 1) liveStart liveRun) ∧ FiniteEnv (fun k => liveRun[k]?) ∧
    NoAssert (cfg 1) (runStates (cfg 1) liveStart liveRun) ∧
    GcPending (cfg 1) (runStates (cfg 1) liveStart liveRun 0) := by
  have hreach : Reachable (cfg 1) liveStart := reachable_getD (by decide +kernel)
  obtain ⟨hF, hS, hEv, hNA, _⟩ := finite_run_fair (l := liveRun) hreach 1 (fun _ => true) (by decide +kernel)
  have h0 : liveStart.reqGc = true ∧ liveStart.current = none ∧ liveStart.pc 0 ≠ .surrendered := by decide +kernel
  refine ⟨generated_wf 1 (by decide) false, rfl, by decide, hF, hS, hEv, hNA, ?_⟩
  rw [runStates_zero]
  refine ⟨Or.inl h0.1, fun g hg => ?_, fun w hw => ?_⟩
  · rw [h0.2.1] at hg; cases hg
  · have : w = 0 := by have : (cfg 1).n = 1 := rfl; omega
    subst this; exact h0.2.2

open Mmtk.Generated.Stages in
example : ∃ j w tag, liveRun[j]? = some (.park w tag) ∧
    (runStates (cfg 1) liveStart liveRun (j+1)).gcDone = (runStates (cfg 1) liveStart liveRun 0).gcDone + 1 := by
  obtain ⟨h1, h2, h3, h4, h5, h6, h7, h8⟩ := live_hypotheses_satisfiable
  obtain ⟨j, w, tag, _, ha, hg, _⟩ := gc_completes_under_fairness h1 h2 h3 h4 h5 h6 h7 h8
  exact ⟨j, w, tag, ha, hg⟩

open Mmtk.Generated.Stages in
/-- a non-trivial reachable state: 2 workers, a GC has been requested, worker 1 waits, worker 0
(last parked) started the Gc goal, polled `ScheduleCollection` and runs it -/
def demoRun : List Act :=
  (allConts (cfg 2)).map (Act.observeEmpty 1) ++ [.pollMiss 1, .park 1 0, .requestFlag, .makeRequest .gc (some 1)] ++
  (allConts (cfg 2)).map (Act.observeEmpty 0) ++ [.pollMiss 0, .wake 1] ++
  (allConts (cfg 2)).map (Act.observeEmpty 1) ++ [.pollMiss 1, .park 1 0, .park 0 7,
    .pollBucket 0 0 ⟨0, 0, 7⟩, .push 0 2 9]

open Mmtk.Generated.Stages in
example : (exec (cfg 2) (init (cfg 2)) demoRun).map
    (fun s => (s.current, s.parked, s.pc 0, s.pc 1, (s.bkt 2).q.length)) =
    some (some .gc, 1, .exec ⟨0, 0, 7⟩, .waiting, 1) := by decide +kernel

open Mmtk.Generated.Stages in
/-- One worker and a mutator that may push into open buckets (ConcurrentImmix's SATB barrier).
The Concurrent bucket is open and enabled during concurrent marking: reach that state first
(a GC that schedules concurrent work), then the mutator pushes between the worker's last poll and its
`wait`: the only worker sleeps, the packet is runnable, the `notify_one` found nobody. -/
def strandRun2 : List Act :=
  -- request + start a GC
  [.requestFlag, .makeRequest .gc none] ++
  (allConts (cfg 1 true)).map (Act.observeEmpty 0) ++ [.pollMiss 0, .park 0 7, .pollBucket 0 0 ⟨0, 0, 7⟩,
    -- the packet leaves a packet in the (disabled) Concurrent bucket and ends
    .push 0 1 8, .execEnd 0] ++
  (allConts (cfg 1 true)).map (Act.observeEmpty 0) ++
  -- last parked: nothing to open (Prepare was never opened in this abstract run), GC ends, the
  -- Concurrent bucket is enabled and opened, the worker is woken and runs the concurrent packet
  [.pollMiss 0, .park 0 0, .pollBucket 0 1 ⟨1, 1, 8⟩, .execEnd 0] ++
  (allConts (cfg 1 true)).map (Act.observeEmpty 0) ++
  -- the worker has seen everything empty; now the mutator's barrier pushes and notifies nobody
  [.pollMiss 0, .mutPush 1 5, .mutNotifyOne 1 none, .park 0 0]

open Mmtk.Generated.Stages in
theorem stranded_with_mutator_push :
    (exec (cfg 1 true) (init (cfg 1 true)) strandRun2).map
      (fun s => (s.pc 0, s.current, anyRequested s, (s.bkt 1).runnable, (s.bkt 1).q.length)) =
    some (.waiting, none, false, true, 1) := by decide +kernel

open Mmtk.Generated.Stages in
example : 0 < (cfg 3).n ∧ (cfg 3).mutAddOpen = false := by decide

end Mmtk.Sched
