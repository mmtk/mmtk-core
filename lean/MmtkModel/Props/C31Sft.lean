import MmtkModel.Props.C29
/-!
# C31 (SFT part) — the chunk-granular SFT map agrees with the VM-map descriptor after every `srun` history

`St.sft` = the process-global `SFTSparseChunkMap` (chunk index ↦ owning space, named by its descriptor,
`0` = `EMPTY_SPACE_SFT`).  `Space::grow_space` writes it for a new region (`sftUpdate`, through
`PR.growSpace`), `free_contiguous_chunks_no_lock` clears it chunk by chunk (the `sft := …` line of
`freeNoLock`).  `SftEq st` = the SFT map and the `Map32` descriptor table agree on every chunk.

* `sft_matches_descriptor` — `SftEq` is preserved by every history of `growSpace` / `release` /
  `releaseAll` (`SOp`, `sstep`, `srun`), and `sft_matches_descriptor_init` from the finalised state.
  The only hypothesis is `ZeroSafe`: the region map never hands out chunk `0` (chunk `0` *is*
  `Address::ZERO`, in the code as in the model, so a region at chunk 0 is indistinguishable from
  "exhausted" and `grow_space` is skipped).  With debug assertions (`debug = true`) the hypothesis is
  not needed at all (`sft_matches_descriptor_debug`: `debug_assert!(chunk != 0)` fires instead), and
  under C29's invariant it always holds (`alloc_ne_zero_of_inv`: chunk 0 is below the discontiguous
  range).  No protocol hypothesis (which heads are passed, which chunks are released) is needed.
  `SOp`/`sstep`/`srun` are C29PR's `POp`/`pstep`/`prun` without the bookkeeping and with `grow` replaced by
  `growSpace` (= `grow`, then the SFT write); no theorem turns an `srun` history into a `prun` history.
* `sft_exact_of_inv` (`sftGet_exact_of_inv` for `get_checked`) — for a state that has both C29's `Inv` and
  `SftEq`: a chunk of an allocated region resolves to the region's owner, every other chunk to no space.  `Inv` is established along
  `run`/`prun` histories (whose `grow` does not write the SFT), `SftEq` along `srun` histories; nothing here
  gives both for the states of one history.
* A `decide`-checked witness that clearing only the first chunk of a released region
  (`freeNoLockFirstOnly`) breaks `SftEq`, and satisfiability examples.
-/
namespace Mmtk.Map32

def SftEq (st : St) : Prop := ∀ c, st.sft c = st.desc c

theorem sftEq_free {debug : Bool} {st st' : St} {c n : Nat} (hS : SftEq st)
    (h : freeNoLock debug st c = some (st', n)) : SftEq st' := by
  intro x
  rw [freeNoLock_sft debug st st' c n h x, freeNoLock_clears_descriptors debug st st' c n h x, hS x]

theorem sftEq_freeAll {debug : Bool} {st st' : St} {c fuel : Nat} (hS : SftEq st)
    (h : freeAll debug st c fuel = some st') : SftEq st' :=
  freeAll_preserves (P := SftEq) sftEq_free hS h

/-- `SFT_MAP.update` on chunks whose entries are all empty: the `debug_assert!` of `set` does not fire
and exactly the entries of `[c, c + k)` become `d`. -/
theorem sftUpdate_ok (debug : Bool) (st : St) (d c k : Nat)
    (h0 : ∀ x, c ≤ x → x < c + k → st.sft x = 0) :
    sftUpdate debug st d c k =
      ({ st with sft := fun x => if c ≤ x ∧ x < c + k then d else st.sft x }, true) := by
  have hnone : (if debug then (List.range' c k).find? (fun x => st.sft x != 0 && st.sft x != d) else none)
      = none := by
    split
    · rw [List.find?_eq_none]
      intro x hx
      rw [List.mem_range'_1] at hx
      simp [h0 x hx.1 hx.2]
    · rfl
  unfold sftUpdate
  rw [hnone]

/-- **`grow_space` keeps the tables equal** as long as the region map does not hand out chunk `0` (the
null address of the model): the `set` assertion does not fire, and both tables get `d` on `[c, c + k)`.
With debug assertions the hypothesis is not needed: a region at chunk 0 trips `debug_assert!(chunk != 0)`
of `allocate_contiguous_chunks`, so a normal return never carries it. -/
theorem sftEq_growSpace {debug : Bool} {p p' : PR} {sp d k c : Nat} {ok : Bool} (hS : SftEq p.st)
    (hz : debug = true ∨ (p.st.fl.alloc k).1 ≠ some 0)
    (h : p.growSpace debug sp d k = (p', .val c, ok)) : ok = true ∧ SftEq p'.st := by
  obtain ⟨p1, hg, hup⟩ := PR.growSpace_val h
  rcases allocate_val_iff.1 (PR.grow_val hg).1 with ⟨_, rfl, hst⟩ | ⟨hsome, hd0, hdb, hst⟩
  · rw [if_pos rfl] at hup
    rw [hup.1, hst]; exact ⟨hup.2, hS⟩
  · have hc : c ≠ 0 := hz.elim (fun e => (hdb e).1) (fun hz e => hz (e ▸ hsome))
    have hsft : p1.st.sft = p.st.sft := by rw [hst]
    have hdesc : ∀ x, p1.st.desc x = if c ≤ x ∧ x < c + k then d else p.st.desc x := fun x => by rw [hst]
    rw [if_neg hc, sftUpdate_ok debug p1.st d c k
      (fun x h1 h2 => by rw [hsft]; exact (hS x).trans (hd0 x h1 h2))] at hup
    obtain ⟨hst', rfl⟩ := Prod.mk.inj hup.1
    refine ⟨rfl, fun x => ?_⟩
    rw [← hst', hdesc x, ← hS x, ← hsft]

/-- Under C29's invariant the region map never hands out chunk 0 (it lies below the range). -/
theorem alloc_ne_zero_of_inv {lo hi : Nat} {g : G} {st : St} (hI : Inv lo hi g st) {k : Nat} (hk : 1 ≤ k) :
    (st.fl.alloc k).1 ≠ some 0 := by
  intro hsome
  obtain ⟨s, hfree, -⟩ := alloc_spec hI.fl hk hsome
  exact (hI.free_run_fresh hfree).2.1 rfl

theorem sftEq_growSpace_inv {lo hi : Nat} {g : G} {debug : Bool} {p p' : PR} {sp d k c : Nat} {ok : Bool}
    (hI : Inv lo hi g p.st) (hk : 1 ≤ k) (hS : SftEq p.st)
    (h : p.growSpace debug sp d k = (p', .val c, ok)) : ok = true ∧ SftEq p'.st :=
  sftEq_growSpace hS (.inr (alloc_ne_zero_of_inv hI hk)) h

theorem sftEq_release {debug : Bool} {p p' : PR} {sp c : Nat} (hS : SftEq p.st)
    (h : p.release debug sp c = some p') : SftEq p'.st := by
  obtain ⟨n, hf, -⟩ := PR.release_spec h
  exact sftEq_free hS hf

theorem sftEq_releaseAll {debug : Bool} {p p' : PR} {sp : Nat} (hS : SftEq p.st)
    (h : p.releaseAll debug sp = some p') : SftEq p'.st :=
  sftEq_freeAll hS (PR.releaseAll_spec h).1

/-- The operations of a space on its page resource, with the SFT write of `Space::grow_space`. -/
inductive SOp
  /-- `Space::acquire` needing a new region: `grow_discontiguous_space` + `grow_space` -/
  | grow (sp d k : Nat)
  /-- `release_discontiguous_chunks(chunk)` -/
  | release (sp c : Nat)
  /-- `release_all_chunks()` -/
  | releaseAll (sp : Nat)
deriving Repr, DecidableEq

/-- One operation; `none` = a panic or a fired assertion (of `allocate_contiguous_chunks`, of
`SFTSparseChunkMap::set`, of `free_contiguous_chunks_no_lock`). -/
def sstep (debug : Bool) (p : PR) : SOp → Option PR
  | .grow sp d k =>
    match p.growSpace debug sp d k with
    | (p', .val _, true) => some p'
    | _ => none
  | .release sp c => p.release debug sp c
  | .releaseAll sp => p.releaseAll debug sp

def srun (debug : Bool) : PR → List SOp → Option PR
  | p, [] => some p
  | p, op :: ops =>
    match sstep debug p op with
    | none => none
    | some p' => srun debug p' ops

/-- Chunk 0 is the null address: the region map does not hand it out at any `grow` of the history. -/
def ZeroSafe (debug : Bool) : PR → List SOp → Prop
  | _, [] => True
  | p, op :: ops =>
    (match op with
      | .grow _ _ k => (p.st.fl.alloc k).1 ≠ some 0
      | _ => True) ∧
    match sstep debug p op with
    | none => True
    | some p' => ZeroSafe debug p' ops

theorem sftEq_sstep {debug : Bool} {p p' : PR} {op : SOp} (hS : SftEq p.st)
    (hz : debug = true ∨ match op with
      | .grow _ _ k => (p.st.fl.alloc k).1 ≠ some 0
      | _ => True)
    (h : sstep debug p op = some p') : SftEq p'.st := by
  cases op with
  | grow sp d k =>
    simp only [sstep] at h
    split at h
    · rename_i p1 c heq
      simp only [Option.some.injEq] at h
      subst h
      exact (sftEq_growSpace hS hz heq).2
    · cases h
  | release sp c => exact sftEq_release hS h
  | releaseAll sp => exact sftEq_releaseAll hS h

theorem sft_history {debug : Bool} : ∀ (ops : List SOp) {p p' : PR}, SftEq p.st →
    debug = true ∨ ZeroSafe debug p ops → srun debug p ops = some p' → SftEq p'.st
  | [], p, p', hS, _, h => by
    simp only [srun, Option.some.injEq] at h
    subst h; exact hS
  | op :: ops, p, p', hS, hz, h => by
    rw [srun] at h
    cases hs : sstep debug p op with
    | none => rw [hs] at h; cases h
    | some p1 =>
      rw [hs] at h
      refine sft_history ops (sftEq_sstep hS (hz.imp_right (·.1)) hs) (hz.imp_right fun hz => ?_) h
      have hz2 := hz.2
      rw [hs] at hz2
      exact hz2

/-- **The SFT map matches the descriptor table after every history** of `grow_space` / release /
release-all that does not panic.  No protocol hypothesis; `ZeroSafe` = chunk 0 is never handed out. -/
theorem sft_matches_descriptor {debug : Bool} : ∀ (ops : List SOp) {p p' : PR}, SftEq p.st →
    ZeroSafe debug p ops → srun debug p ops = some p' → SftEq p'.st :=
  fun ops _ _ hS hz h => sft_history ops hS (Or.inr hz) h

theorem sft_matches_descriptor_debug : ∀ (ops : List SOp) {p p' : PR}, SftEq p.st →
    srun true p ops = some p' → SftEq p'.st :=
  fun ops _ _ hS h => sft_history ops hS (Or.inl rfl) h

theorem sftEq_finalize (M first last : Nat) : SftEq (finalize M first last) := fun _ => rfl

theorem sft_matches_descriptor_init {M first last : Nat} {debug : Bool} {ops : List SOp} {heads : Nat → Nat}
    {p' : PR} (hz : ZeroSafe debug { st := finalize M first last, heads := heads } ops)
    (h : srun debug { st := finalize M first last, heads := heads } ops = some p') : SftEq p'.st :=
  sft_matches_descriptor ops (sftEq_finalize M first last) hz h

theorem sft_matches_descriptor_init_debug {M first last : Nat} {ops : List SOp} {heads : Nat → Nat}
    {p' : PR} (h : srun true { st := finalize M first last, heads := heads } ops = some p') : SftEq p'.st :=
  sft_matches_descriptor_debug ops (sftEq_finalize M first last) h

/-- In a state with both C29's invariant and `SftEq`, a chunk of an allocated region resolves to the space
that owns the region and every other chunk (in particular every freed chunk) to no space. -/
theorem sft_exact_of_inv {lo hi : Nat} {g : G} {st : St} (hI : Inv lo hi g st) (hS : SftEq st) :
    (∀ r ∈ g.regions, ∀ x, r.start ≤ x → x < r.start + r.size → st.sft x = r.desc) ∧
    (∀ x, (∀ r ∈ g.regions, ¬ (r.start ≤ x ∧ x < r.start + r.size)) → st.sft x = 0) :=
  ⟨fun r hr x h1 h2 => (hS x).trans (hI.descriptor_exact.1 r hr x h1 h2),
   fun x hx => (hS x).trans (hI.descriptor_exact.2 x hx)⟩

/-- `get_checked` of a chunk of the map: the owner of the region, or `EMPTY_SPACE_SFT`. -/
theorem sftGet_exact_of_inv {lo hi : Nat} {g : G} {st : St} (hI : Inv lo hi g st) (hS : SftEq st) {M : Nat}
    (hM : hi ≤ M) :
    (∀ r ∈ g.regions, ∀ x, r.start ≤ x → x < r.start + r.size → sftGet st M x = r.desc) ∧
    (∀ x, (∀ r ∈ g.regions, ¬ (r.start ≤ x ∧ x < r.start + r.size)) → sftGet st M x = 0) := by
  obtain ⟨h1, h2⟩ := sft_exact_of_inv hI hS
  refine ⟨?_, ?_⟩
  · intro r hr x hx1 hx2
    have := (hI.regions_disjoint.2 r hr).2.2
    unfold sftGet
    rw [if_pos (by omega)]
    exact h1 r hr x hx1 hx2
  · intro x hx
    unfold sftGet
    split
    · exact h2 x hx
    · rfl

/-- `free_contiguous_chunks_no_lock` with `SFT_MAP.clear` hoisted out of the per-chunk loop (the seeded
regression): only the region's first chunk is cleared. -/
def freeNoLockFirstOnly (debug : Bool) (st : St) (chunk : Nat) : Option (St × Nat) :=
  if debug && st.fl.isFree chunk then none else
  let (chunks, fl) := st.fl.freeRun chunk
  let next := st.next chunk
  let prev := st.prev chunk
  let prevL := if next != 0 then upd st.prev next prev else st.prev
  let nextL := if prev != 0 then upd st.next prev next else st.next
  some ({ st with fl := fl, avail := st.avail + chunks,
                  prev := upd prevL chunk 0, next := upd nextL chunk 0,
                  desc := fun c => if chunk ≤ c ∧ c < chunk + chunks then 0 else st.desc c,
                  sft := fun c => if c = chunk then 0 else st.sft c }, chunks)

/-- `growSpace` of 3 chunks for descriptor 4 on `finalize 12 2 9`, then `free` of that region with the
given free function: (region start, freed size, `sft (start + 1)`, `desc (start + 1)`). -/
def sftWitness (free : Bool → St → Nat → Option (St × Nat)) : Option (Nat × Nat × Nat × Nat) :=
  match PR.growSpace true { st := finalize 12 2 9 } 0 4 3 with
  | (p', .val c, true) => (free true p'.st c).map (fun q => (c, q.2, q.1.sft (c + 1), q.1.desc (c + 1)))
  | _ => none

/-- The mutated free leaves chunk `start + 1` resolving to space 4 although its descriptor is 0 … -/
example : sftWitness freeNoLockFirstOnly = some (2, 3, 4, 0) := by decide +kernel
example : sftWitness freeNoLock = some (2, 3, 0, 0) := by decide +kernel

/-- So `SftEq` fails after the mutated free. -/
example : ∀ st' n,
    freeNoLockFirstOnly true (PR.growSpace true { st := finalize 12 2 9 } 0 4 3).1.st 2 = some (st', n) →
    ¬ SftEq st' := by
  intro st' n hf hS
  have hw : (freeNoLockFirstOnly true (PR.growSpace true { st := finalize 12 2 9 } 0 4 3).1.st 2).map
      (fun q => (q.1.sft 3, q.1.desc 3)) = some (4, 0) := by decide +kernel
  rw [hf] at hw
  simp only [Option.map_some, Option.some.injEq, Prod.mk.injEq] at hw
  have := hS 3
  omega

/-- A history on `finalize 12 2 9`: two spaces (descriptors 4 and 8). -/
def exSOps : List SOp :=
  [.grow 0 4 3, .grow 0 4 2, .grow 1 8 1, .grow 0 4 1, .release 0 5, .grow 1 8 1, .release 0 8,
   .releaseAll 0, .grow 0 4 9, .grow 1 8 2, .releaseAll 1]

def sview (p : Option PR) : Option (Nat × Nat × List Nat × List Nat) :=
  p.map fun p => (p.heads 0, p.heads 1, (List.range' 1 10).map p.st.sft, (List.range' 1 10).map p.st.desc)

example : sview (srun true { st := finalize 12 2 9 } (exSOps.take 7)) =
    some (2, 5, [0, 4, 4, 4, 8, 0, 8, 0, 0, 0], [0, 4, 4, 4, 8, 0, 8, 0, 0, 0]) := by decide +kernel
example : sview (srun false { st := finalize 12 2 9 } (exSOps.take 7)) =
    some (2, 5, [0, 4, 4, 4, 8, 0, 8, 0, 0, 0], [0, 4, 4, 4, 8, 0, 8, 0, 0, 0]) := by decide +kernel

example : (srun true { st := finalize 12 2 9 } exSOps).isSome = true := by decide +kernel
example : (srun false { st := finalize 12 2 9 } exSOps).isSome = true := by decide +kernel

/-- So the theorem applies to a non-trivial history. -/
example : ∃ p', srun true { st := finalize 12 2 9 } exSOps = some p' ∧ SftEq p'.st := by
  have h : (srun true { st := finalize 12 2 9 } exSOps).isSome = true := by decide +kernel
  obtain ⟨p', hp⟩ := Option.isSome_iff_exists.1 h
  exact ⟨p', hp, sft_matches_descriptor_init_debug hp⟩

def zeroSafeB (debug : Bool) : PR → List SOp → Bool
  | _, [] => true
  | p, op :: ops =>
    (match op with
      | .grow _ _ k => decide ((p.st.fl.alloc k).1 ≠ some 0)
      | _ => true) &&
    match sstep debug p op with
    | none => true
    | some p' => zeroSafeB debug p' ops

theorem zeroSafe_of_zeroSafeB {debug : Bool} : ∀ (ops : List SOp) {p : PR},
    zeroSafeB debug p ops = true → ZeroSafe debug p ops
  | [], _, _ => trivial
  | op :: ops, p, h => by
    simp only [zeroSafeB, Bool.and_eq_true] at h
    refine ⟨?_, ?_⟩
    · cases op with
      | grow sp d k => simpa using h.1
      | release sp c => trivial
      | releaseAll sp => trivial
    · cases hs : sstep debug p op with
      | none => trivial
      | some p' =>
        rw [hs] at h
        exact zeroSafe_of_zeroSafeB ops h.2

/-- `ZeroSafe` holds for the example history without debug assertions, so `sft_matches_descriptor_init`
applies in release mode too. -/
example : ZeroSafe false { st := finalize 12 2 9 } exSOps := zeroSafe_of_zeroSafeB _ (by decide +kernel)

example : ∃ p', srun false { st := finalize 12 2 9 } exSOps = some p' ∧ SftEq p'.st := by
  have h : (srun false { st := finalize 12 2 9 } exSOps).isSome = true := by decide +kernel
  obtain ⟨p', hp⟩ := Option.isSome_iff_exists.1 h
  exact ⟨p', hp, sft_matches_descriptor_init (zeroSafe_of_zeroSafeB _ (by decide +kernel)) hp⟩

/-- Why `ZeroSafe` is there: WITHOUT debug assertions and OUTSIDE the protocol (space 0 releases chunk 0,
which it never owned: the blocked-out bottom of the map becomes free) the region map hands out chunk 0,
`allocate_contiguous_chunks` writes its descriptor, and the caller takes the zero address for
"exhausted" and skips `grow_space`: `sft 0 = 0` but `desc 0 = 4`.  With debug assertions the same
history panics (`debug_assert!(chunk != 0)`); under C29's invariant it cannot happen
(`alloc_ne_zero_of_inv`). -/
example : (srun false { st := finalize 12 2 9 } [.release 0 0, .grow 0 4 1]).map
    (fun p => (p.st.sft 0, p.st.desc 0)) = some (0, 4) := by decide +kernel
example : (srun true { st := finalize 12 2 9 } [.release 0 0, .grow 0 4 1]).isSome = false := by decide +kernel

end Mmtk.Map32
