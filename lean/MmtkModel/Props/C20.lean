import MmtkModel.Lemmas.SideGeom
import MmtkModel.Props.C23
/-!
# C20 — Side metadata behaves as an array of independent fixed-width integers

`absArr m s r` reads the entry of region `r` out of byte memory: bit `i` of it is memory bit `fieldBase s r + i`
(`Lemmas/SideGeom.lean`), and the fields of different regions are disjoint bit sets (`field_disjoint`), so an operation
that changes only bits of one field updates one entry (`Refines`). A sub-byte field is a header-style field (`fieldSpec`)
and goes through the splice lemmas and accessor specifications of C23; a byte-or-wider field is a little-endian word. One
theorem per operation, one for a single call of any operation (`step_refines`), then any history of calls by induction.
-/
namespace Mmtk.SideMeta
open Mmtk.Mem

theorem lb_cases {lb : Nat} (h : lb ≤ 6) : lb = 0 ∨ lb = 1 ∨ lb = 2 ∨ lb = 3 ∨ lb = 4 ∨ lb = 5 ∨ lb = 6 := by omega

/-- `lshift_closed` for 64-bit addresses; `ha` is not used. -/
theorem lshift_eq (s : Spec) (a : Nat) (hlb : s.logBits < 3) (ha : a < 2 ^ 64) :
    lshift s a = ((a >>> s.logRegion) % 2 ^ (3 - s.logBits)) * 2 ^ s.logBits :=
  lshift_closed s a hlb

example : lshift { start := 0, logBits := 1, logRegion := 3 } 0x1f000000038 = 6 := by decide

theorem field_disjoint (s : Spec) (r r' p : Nat) (hne : r ≠ r') (h : InFieldOf s r p) : ¬ InFieldOf s r' p := by
  unfold InFieldOf fieldBase at *
  intro h'
  rcases Nat.lt_or_gt_of_ne hne with hlt | hlt
  · have := Nat.mul_le_mul_right (2 ^ s.logBits) (Nat.succ_le_of_lt hlt)
    rw [Nat.succ_mul] at this
    omega
  · have := Nat.mul_le_mul_right (2 ^ s.logBits) (Nat.succ_le_of_lt hlt)
    rw [Nat.succ_mul] at this
    omega

open Mmtk.HeaderMeta (ByteMem)

/-- `m'` is `m` with the entry of `a`'s region replaced by `nv`. -/
structure Refines (s : Spec) (m m' : Mem) (a nv : Nat) : Prop where
  arr : absArr m' s = upd (absArr m s) (a >>> s.logRegion) nv
  frame : ∀ p, ¬ InFieldOf s (a >>> s.logRegion) p → bitAt m' p = bitAt m p
  bytes : ByteMem m'

theorem refines_of_frame (s : Spec) (m m' : Mem) (hm : ByteMem m) (hm' : ByteMem m') (a nv : Nat)
    (hframe : ∀ p, ¬ InFieldOf s (a >>> s.logRegion) p → bitAt m' p = bitAt m p)
    (hnew : absArr m' s (a >>> s.logRegion) = nv) : Refines s m m' a nv := by
  refine ⟨?_, hframe, hm'⟩
  funext r'
  unfold upd
  by_cases e : r' = a >>> s.logRegion
  · simp [e, hnew]
  · simp only [e, if_false]
    apply absArr_congr m m' hm hm' s
    intro p hp
    exact hframe p (field_disjoint s r' _ p e hp)

theorem refines_noop (s : Spec) (m : Mem) (hm : ByteMem m) (a : Nat) :
    Refines s m m a (absArr m s (a >>> s.logRegion)) :=
  refines_of_frame s m m hm hm a _ (fun _ _ => rfl) rfl

theorem refines_of_bitsPost (s : Spec) (hs : s.ok) (m m' : Mem) (hm : ByteMem m) (a : Nat) (ha : a < 2 ^ 64)
    (hlb : s.logBits < 3) (ret nf : Nat)
    (post : HeaderMeta.BitsPost (fieldSpec s a) m (metaAddr s a) m' ret nf) :
    Refines s m m' a nf := by
  have haddr := fs_addr s a (metaAddr s a) hlb
  have hsh := fs_shift s a hlb
  have hpos := field_position s hs a ha
  have hbound := lshift_bound s a hlb
  obtain ⟨ob, obits, _, fnew, bok⟩ := post
  rw [haddr] at ob obits fnew bok
  have hm' : ByteMem m' := by
    intro x
    by_cases e : x = metaAddr s a
    · rw [e]; exact bok
    · rw [ob x e]; exact hm x
  refine refines_of_frame s m m' hm hm' a nf ?_ ?_
  · intro p hp
    unfold bitAt
    by_cases e : p / 8 = metaAddr s a
    · rw [e]
      apply obits
      unfold HeaderMeta.InField
      rw [hsh]
      unfold InFieldOf at hp
      show ¬ (lshift s a ≤ p % 8 ∧ p % 8 < lshift s a + 2 ^ s.logBits)
      omega
    · rw [ob _ e]
  · rw [absArr_bits m' s a hlb]; exact fnew

theorem tbytes_pow (s : Spec) (hlb : ¬ s.logBits < 3) : 256 ^ tbytes s = 2 ^ 2 ^ s.logBits := by
  unfold tbytes
  rw [show (256 : Nat) = 2 ^ 8 from rfl, ← Nat.pow_mul, ← pow_wide (Nat.le_of_not_lt hlb)]

theorem mod_word_lt (s : Spec) (hlb : ¬ s.logBits < 3) (x : Nat) : x % 256 ^ tbytes s < 2 ^ 2 ^ s.logBits := by
  rw [← tbytes_pow s hlb]; exact Nat.mod_lt _ (Nat.pow_pos (by decide))

theorem refines_word_write (s : Spec) (hs : s.ok) (m : Mem) (hm : ByteMem m) (a : Nat) (ha : a < 2 ^ 64)
    (hlb : ¬ s.logBits < 3) (nv : Nat) (hv : nv < 2 ^ 2 ^ s.logBits) :
    Refines s m (writeLE m (metaAddr s a) (tbytes s) nv) a nv := by
  have hpos := field_position s hs a ha
  have hl0 := lshift_wide s a hlb
  have hW : 2 ^ s.logBits = 8 * tbytes s := pow_wide (Nat.le_of_not_lt hlb)
  have hm' := HeaderMeta.writeLE_byteMem m hm (metaAddr s a) (tbytes s) nv
  refine refines_of_frame s m _ hm hm' a nv ?_ ?_
  · intro p hp
    unfold bitAt
    rw [HeaderMeta.writeLE_other]
    unfold InFieldOf at hp
    omega
  · rw [absArr_word _ s hs a hlb ha, HeaderMeta.readLE_writeLE, tbytes_pow s hlb]
    exact Nat.mod_eq_of_lt hv

theorem refines_bits_write (s : Spec) (hs : s.ok) (m : Mem) (hm : ByteMem m) (a : Nat) (ha : a < 2 ^ 64)
    (hlb : s.logBits < 3) (nv : Nat) (hv : nv < 2 ^ 2 ^ s.logBits) :
    Refines s m (set m (metaAddr s a) (HeaderMeta.setBits (fieldSpec s a) (m (metaAddr s a)) nv)) a nv := by
  have := HeaderMeta.set_post (fieldSpec s a) (fs_ok s a hlb) m (metaAddr s a) nv
    (by rw [fs_addr s a _ hlb]; exact hm _) hv
  rw [fs_addr s a _ hlb] at this
  exact refines_of_bitsPost s hs m _ hm a ha hlb _ nv this

/-- `assert_value_type` passes on a value that fits the field. -/
theorem valueOk_of_lt {α : Type} (debug : Bool) (s : Spec) (v : Nat) (hv : v < 2 ^ 2 ^ s.logBits) (x : Option α) :
    (if !valueOk debug s v then none else x) = x := by
  unfold valueOk; simp [hv]

/-- `(raw & !mask) | ((nv << lshift) & mask)` is the splice of `nv mod 2^width`. -/
theorem splice_masked (fs : HeaderMeta.Spec) (h : fs.bitsOk) (raw nv : Nat) (hr : raw < 256) :
    (raw &&& (255 - HeaderMeta.mask8 fs)) ||| (((nv <<< fs.shift) % 256) &&& HeaderMeta.mask8 fs) =
      HeaderMeta.setBits fs raw (nv % 2 ^ fs.numBits) := by
  have hlt : nv % 2 ^ fs.numBits < 2 ^ fs.numBits := Nat.mod_lt _ (Nat.two_pow_pos _)
  apply Nat.eq_of_testBit_eq
  intro i
  rw [HeaderMeta.testBit_setBits fs h raw _ hr hlt, Nat.testBit_or, HeaderMeta.testBit_clear fs h raw hr, Nat.testBit_and,
    HeaderMeta.testBit_mask8 fs h]
  have e : (256 : Nat) = 2 ^ 8 := by decide
  rw [e, Nat.testBit_mod_two_pow, Nat.testBit_shiftLeft, Nat.testBit_mod_two_pow]
  obtain ⟨_, _, h3⟩ := h
  by_cases hf : HeaderMeta.InField fs i
  · have h8 : i < 8 := by unfold HeaderMeta.InField at hf; omega
    have hge : i ≥ fs.shift := hf.1
    have hlt' : i - fs.shift < fs.numBits := by unfold HeaderMeta.InField at hf; omega
    simp [hf, h8, hge, hlt']
  · simp [hf]

/-- subtracting on `u8` and truncating to a field whose size `M` divides 256 is subtracting modulo `M`
(`old + 256 - v % 256` is `old.wrapping_sub(v)` before the `% 256`, as `fetchSub` spells it). -/
theorem sub_wrap (M old v : Nat) (hM : M ∣ 256) (hv : v < M) :
    (old + 256 - v % 256) % 256 % M = (old + M - v) % M := by
  obtain ⟨k, hk⟩ := hM
  have hle := Nat.le_of_dvd (by decide) ⟨k, hk⟩
  rw [Nat.mod_mod_of_dvd _ ⟨k, hk⟩, Nat.mod_eq_of_lt (by omega : v < 256)]
  cases k with
  | zero => omega
  | succ j =>
    rw [Nat.mul_succ] at hk
    rw [show old + 256 - v = old + M - v + M * j by omega, Nat.add_mul_mod_self_left]

section ops
variable (debug : Bool) (s : Spec) (hs : s.ok) (m : Mem) (hm : ByteMem m) (a : Nat) (ha : a < 2 ^ 64)
include hs hm ha

/-- **C20 (load)**: returns the entry, memory untouched (`load_atomic` is the same function in the model:
`step_refines`). -/
theorem load_refines : load s m a = absArr m s (a >>> s.logRegion) ∧ Refines s m m a (absArr m s (a >>> s.logRegion)) :=
  ⟨load_eq_absArr s hs m a ha, refines_noop s m hm a⟩

/-- **C20 (store)**: only the entry of `a`'s region changes, to `v`. -/
theorem store_refines (v : Nat) (hv : v < 2 ^ 2 ^ s.logBits) :
    ∃ m', store debug s m a v = some m' ∧ Refines s m m' a v := by
  unfold store
  rw [valueOk_of_lt debug s v hv]
  by_cases hlb : s.logBits < 3
  · simp only [hlb, if_true, fmask_eq s a hlb]
    rw [← fs_shift s a hlb]
    exact ⟨_, rfl, refines_bits_write s hs m hm a ha hlb v hv⟩
  · simp only [hlb, if_false]
    exact ⟨_, rfl, refines_word_write s hs m hm a ha hlb v hv⟩

theorem storeAtomic_refines (v : Nat) (hv : v < 2 ^ 2 ^ s.logBits) :
    ∃ m', storeAtomic debug s m a v = some m' ∧ Refines s m m' a v := by
  have : storeAtomic debug s m a v = store debug s m a v := rfl
  rw [this]; exact store_refines debug s hs m hm a ha v hv

/-- `set_zero` (and `set_zero_atomic`, the same function in the model) is `store 0`. -/
theorem setZero_refines : ∃ m', setZero debug s m a = some m' ∧ Refines s m m' a 0 := by
  unfold setZero
  simp only [hs.1, if_true]
  exact store_refines debug s hs m hm a ha 0 (Nat.two_pow_pos _)

/-- **C20 (compare_exchange)**: succeeds iff the entry equals `old`; then only that entry changes (to
`new`); both outcomes return the previous entry. -/
theorem cmpxchg_refines (old new : Nat) (ho : old < 2 ^ 2 ^ s.logBits) (hn : new < 2 ^ 2 ^ s.logBits) :
    ∃ m' ok, cmpxchg debug s m a old new = some (m', ok, absArr m s (a >>> s.logRegion)) ∧
      (ok = true ↔ absArr m s (a >>> s.logRegion) = old) ∧
      Refines s m m' a (if ok then new else absArr m s (a >>> s.logRegion)) := by
  by_cases hlb : s.logBits < 3
  · have e : cmpxchg debug s m a old new = HeaderMeta.cmpxchgBits false (fieldSpec s a) m (metaAddr s a) old new := by
      unfold cmpxchg HeaderMeta.cmpxchgBits
      simp only [valueOk_of_lt debug s new hn, Bool.false_eq_true, if_false, hlb, if_true,
        fmask_eq s a hlb, fs_addr s a _ hlb, HeaderMeta.setBitsChecked, Bool.false_and,
        HeaderMeta.setBits, HeaderMeta.getBits, fs_shift s a hlb]
    obtain ⟨m', ok, h1, h2, h3⟩ := HeaderMeta.cmpxchgBits_spec false (fieldSpec s a) (fs_ok s a hlb) m (metaAddr s a)
      old new (by rw [fs_addr s a _ hlb]; exact hm _) ho hn
    rw [fs_addr s a _ hlb] at h1 h2 h3
    rw [← absArr_bits m s a hlb] at h1 h2 h3
    exact ⟨m', ok, by rw [e, h1], h2, refines_of_bitsPost s hs m m' hm a ha hlb _ _ h3⟩
  · unfold cmpxchg
    simp only [valueOk_of_lt debug s new hn, hlb, if_false]
    rw [← absArr_word m s hs a hlb ha]
    by_cases e : absArr m s (a >>> s.logRegion) = old
    · exact ⟨_, true, if_pos e, by simp [e], refines_word_write s hs m hm a ha hlb new hn⟩
    · exact ⟨m, false, if_neg e, by simp [e], refines_noop s m hm a⟩

/-- `fetch_ops_on_bits(update)`: the entry becomes `update(old) mod 2^width`, the old entry is returned. -/
theorem fetchOpsOnBits_refines (hlb : s.logBits < 3) (update : Nat → Nat) :
    (fetchOpsOnBits s m a update).2 = absArr m s (a >>> s.logRegion) ∧
    Refines s m (fetchOpsOnBits s m a update).1 a (update (absArr m s (a >>> s.logRegion)) % 2 ^ 2 ^ s.logBits) := by
  unfold fetchOpsOnBits
  simp only [fmask_eq s a hlb]
  rw [← fs_shift s a hlb, absArr_bits m s a hlb, splice_masked _ (fs_ok s a hlb) _ _ (hm _)]
  exact ⟨rfl, refines_bits_write s hs m hm a ha hlb _ (Nat.mod_lt _ (Nat.two_pow_pos _))⟩

/-- **C20 (fetch_add)**: wrap-around modulo `2^width`. -/
theorem fetchAdd_refines (v : Nat) (hv : v < 2 ^ 2 ^ s.logBits) :
    ∃ m', fetchAdd debug s m a v = some (m', absArr m s (a >>> s.logRegion)) ∧
      Refines s m m' a ((absArr m s (a >>> s.logRegion) + v) % 2 ^ 2 ^ s.logBits) := by
  unfold fetchAdd
  rw [valueOk_of_lt debug s v hv]
  by_cases hlb : s.logBits < 3
  · simp only [hlb, if_true]
    obtain ⟨h1, h2⟩ := fetchOpsOnBits_refines s hs m hm a ha hlb (fun x => (x + v) % 256)
    refine ⟨_, by rw [← h1], ?_⟩
    rw [Nat.mod_mod_of_dvd _ (fieldSize_dvd_256 s hlb)] at h2
    exact h2
  · simp only [hlb, if_false]
    rw [absArr_word m s hs a hlb ha, ← tbytes_pow s hlb]
    exact ⟨_, rfl, refines_word_write s hs m hm a ha hlb _ (mod_word_lt s hlb _)⟩

/-- **C20 (fetch_sub)**: wrap-around modulo `2^width`. -/
theorem fetchSub_refines (v : Nat) (hv : v < 2 ^ 2 ^ s.logBits) :
    ∃ m', fetchSub debug s m a v = some (m', absArr m s (a >>> s.logRegion)) ∧
      Refines s m m' a ((absArr m s (a >>> s.logRegion) + 2 ^ 2 ^ s.logBits - v) % 2 ^ 2 ^ s.logBits) := by
  unfold fetchSub
  rw [valueOk_of_lt debug s v hv]
  by_cases hlb : s.logBits < 3
  · simp only [hlb, if_true]
    obtain ⟨h1, h2⟩ := fetchOpsOnBits_refines s hs m hm a ha hlb (fun x => (x + 256 - v % 256) % 256)
    refine ⟨_, by rw [← h1], ?_⟩
    rw [sub_wrap _ _ v (fieldSize_dvd_256 s hlb) hv] at h2
    exact h2
  · simp only [hlb, if_false]
    rw [absArr_word m s hs a hlb ha, ← tbytes_pow s hlb]
    rw [← tbytes_pow s hlb] at hv
    rw [Nat.mod_eq_of_lt hv]
    exact ⟨_, rfl, refines_word_write s hs m hm a ha hlb _ (mod_word_lt s hlb _)⟩

theorem fetchAnd_refines (v : Nat) (hv : v < 2 ^ 2 ^ s.logBits) :
    ∃ m', fetchAnd debug s m a v = some (m', absArr m s (a >>> s.logRegion)) ∧
      Refines s m m' a (absArr m s (a >>> s.logRegion) &&& v) := by
  unfold fetchAnd
  rw [valueOk_of_lt debug s v hv]
  by_cases hlb : s.logBits < 3
  · simp only [hlb, if_true, fmask_eq s a hlb]
    rw [← fs_shift s a hlb, HeaderMeta.and_splice _ (fs_ok s a hlb) _ v (hm _) hv, absArr_bits m s a hlb]
    exact ⟨_, rfl, refines_bits_write s hs m hm a ha hlb _ (Nat.lt_of_le_of_lt Nat.and_le_right hv)⟩
  · simp only [hlb, if_false]
    rw [absArr_word m s hs a hlb ha]
    exact ⟨_, rfl, refines_word_write s hs m hm a ha hlb _ (Nat.lt_of_le_of_lt Nat.and_le_right hv)⟩

theorem fetchOr_refines (v : Nat) (hv : v < 2 ^ 2 ^ s.logBits) :
    ∃ m', fetchOr debug s m a v = some (m', absArr m s (a >>> s.logRegion)) ∧
      Refines s m m' a (absArr m s (a >>> s.logRegion) ||| v) := by
  have hnew := Nat.or_lt_two_pow (absArr_lt m hm s (a >>> s.logRegion)) hv
  unfold fetchOr
  rw [valueOk_of_lt debug s v hv]
  by_cases hlb : s.logBits < 3
  · simp only [hlb, if_true, fmask_eq s a hlb]
    rw [← fs_shift s a hlb, HeaderMeta.or_splice _ (fs_ok s a hlb) _ v (hm _) hv]
    rw [absArr_bits m s a hlb] at hnew ⊢
    exact ⟨_, rfl, refines_bits_write s hs m hm a ha hlb _ hnew⟩
  · simp only [hlb, if_false]
    rw [absArr_word m s hs a hlb ha] at hnew ⊢
    exact ⟨_, rfl, refines_word_write s hs m hm a ha hlb _ hnew⟩

/-- **C20 (fetch_update)**: `Err(old)` and no change when `f` declines, otherwise `Ok(old)` and only
the entry changes, to `f(old) mod 2^width`. -/
theorem fetchUpdate_refines (f : Nat → Option Nat) :
    ∃ m' ok, fetchUpdate s m a f = (m', ok, absArr m s (a >>> s.logRegion)) ∧
      ok = (f (absArr m s (a >>> s.logRegion))).isSome ∧
      Refines s m m' a (match f (absArr m s (a >>> s.logRegion)) with
        | some nv => nv % 2 ^ 2 ^ s.logBits
        | none => absArr m s (a >>> s.logRegion)) := by
  by_cases hlb : s.logBits < 3
  · unfold fetchUpdate
    simp only [hlb, if_true, fmask_eq s a hlb]
    rw [← fs_shift s a hlb, show (m (metaAddr s a) &&& HeaderMeta.mask8 (fieldSpec s a)) >>> (fieldSpec s a).shift =
      absArr m s (a >>> s.logRegion) from (absArr_bits m s a hlb).symm]
    cases hf : f (absArr m s (a >>> s.logRegion)) with
    | none => exact ⟨m, false, rfl, by simp, refines_noop s m hm a⟩
    | some nv =>
      refine ⟨_, true, rfl, by simp, ?_⟩
      rw [splice_masked _ (fs_ok s a hlb) _ nv (hm _)]
      exact refines_bits_write s hs m hm a ha hlb _ (Nat.mod_lt _ (Nat.two_pow_pos _))
  · unfold fetchUpdate
    simp only [hlb, if_false]
    rw [← absArr_word m s hs a hlb ha]
    cases hf : f (absArr m s (a >>> s.logRegion)) with
    | none => exact ⟨m, false, rfl, by simp, refines_noop s m hm a⟩
    | some nv =>
      refine ⟨_, true, rfl, by simp, ?_⟩
      simp only
      rw [← tbytes_pow s hlb]
      exact refines_word_write s hs m hm a ha hlb _ (mod_word_lt s hlb _)

end ops

/-- API preconditions of a call: a 64-bit address, values that fit the field (`assert_value_type`). For `cmpxchg` the
code checks `new` only; `old` fitting the field is a precondition it does not check, and without it the byte-wide CAS
can succeed where the array's fails (1-bit field, byte `3`, `old = 3`). -/
def Op.valid (s : Spec) : Op → Prop
  | .load a | .loadAtomic a | .setZero a | .setZeroAtomic a | .fetchUpdate a _ => a < 2 ^ 64
  | .store a v | .storeAtomic a v | .fetchAdd a v | .fetchSub a v | .fetchAnd a v | .fetchOr a v =>
    a < 2 ^ 64 ∧ v < 2 ^ 2 ^ s.logBits
  | .cmpxchg a o n => a < 2 ^ 64 ∧ o < 2 ^ 2 ^ s.logBits ∧ n < 2 ^ 2 ^ s.logBits

theorem upd_self (f : Nat → Nat) (r : Nat) : upd f r (f r) = f := by
  funext x; unfold upd; by_cases e : x = r <;> simp [e]

/-- **C20, one call**: the implementation's step abstracts to the array step, returns what the array
step returns, and leaves every bit outside the field of its own region unchanged. -/
theorem step_refines (debug : Bool) (s : Spec) (hs : s.ok) (m : Mem) (hm : ByteMem m) (op : Op) (hv : op.valid s) :
    ∃ m' r, stepImpl debug s m op = some (m', r) ∧
      stepSpec (2 ^ s.logBits) s.logRegion (absArr m s) op = (absArr m' s, r) ∧
      ByteMem m' ∧ (∀ p, ¬ InFieldOf s (op.addr >>> s.logRegion) p → bitAt m' p = bitAt m p) := by
  cases op with
  | load a | loadAtomic a =>
    exact ⟨m, .val (load s m a), rfl, by simp [stepSpec, load_eq_absArr s hs m a hv], hm, fun _ _ => rfl⟩
  | store a v =>
    obtain ⟨m', h1, h2⟩ := store_refines debug s hs m hm a hv.1 v hv.2
    exact ⟨m', .unit, by simp [stepImpl, h1], by simp [stepSpec, h2.arr], h2.bytes, h2.frame⟩
  | storeAtomic a v =>
    obtain ⟨m', h1, h2⟩ := storeAtomic_refines debug s hs m hm a hv.1 v hv.2
    exact ⟨m', .unit, by simp [stepImpl, h1], by simp [stepSpec, h2.arr], h2.bytes, h2.frame⟩
  | setZero a | setZeroAtomic a =>
    obtain ⟨m', h1, h2⟩ := setZero_refines debug s hs m hm a hv
    exact ⟨m', .unit, by simp [stepImpl, h1], by simp [stepSpec, h2.arr], h2.bytes, h2.frame⟩
  | cmpxchg a o n =>
    obtain ⟨m', ok, h1, h2, h3⟩ := cmpxchg_refines debug s hs m hm a hv.1 o n hv.2.1 hv.2.2
    refine ⟨m', .res ok (absArr m s (a >>> s.logRegion)), by simp [stepImpl, h1], ?_, h3.bytes, h3.frame⟩
    cases ok with
    | true =>
      have e := h2.1 rfl
      simp only [stepSpec, e, if_true]
      have := h3.arr
      simp only [if_true, e] at this
      rw [this]
    | false =>
      have e : ¬ absArr m s (a >>> s.logRegion) = o := fun c => by have := h2.2 c; cases this
      simp only [stepSpec, e, if_false]
      have := h3.arr
      simp only [Bool.false_eq_true, if_false, upd_self] at this
      rw [this]
  | fetchAdd a v =>
    obtain ⟨m', h1, h2⟩ := fetchAdd_refines debug s hs m hm a hv.1 v hv.2
    exact ⟨m', .val (absArr m s (a >>> s.logRegion)), by simp [stepImpl, h1], by simp [stepSpec, h2.arr], h2.bytes, h2.frame⟩
  | fetchSub a v =>
    obtain ⟨m', h1, h2⟩ := fetchSub_refines debug s hs m hm a hv.1 v hv.2
    exact ⟨m', .val (absArr m s (a >>> s.logRegion)), by simp [stepImpl, h1], by simp [stepSpec, h2.arr], h2.bytes, h2.frame⟩
  | fetchAnd a v =>
    obtain ⟨m', h1, h2⟩ := fetchAnd_refines debug s hs m hm a hv.1 v hv.2
    exact ⟨m', .val (absArr m s (a >>> s.logRegion)), by simp [stepImpl, h1], by simp [stepSpec, h2.arr], h2.bytes, h2.frame⟩
  | fetchOr a v =>
    obtain ⟨m', h1, h2⟩ := fetchOr_refines debug s hs m hm a hv.1 v hv.2
    exact ⟨m', .val (absArr m s (a >>> s.logRegion)), by simp [stepImpl, h1], by simp [stepSpec, h2.arr], h2.bytes, h2.frame⟩
  | fetchUpdate a f =>
    obtain ⟨m', ok, h1, h2, h3⟩ := fetchUpdate_refines s hs m hm a hv f
    refine ⟨m', .res ok (absArr m s (a >>> s.logRegion)), by simp [stepImpl, h1], ?_, h3.bytes, h3.frame⟩
    have harr := h3.arr
    cases hf : f (absArr m s (a >>> s.logRegion)) with
    | none =>
      rw [hf] at h2 harr
      simp only [upd_self] at harr
      simp [stepSpec, hf, h2, harr]
    | some nv =>
      rw [hf] at h2 harr
      simp only at harr
      simp [stepSpec, hf, h2, harr]

/-- `history_refines` and `history_frame` in one: every memory bit that belongs to none of the touched fields — in
particular every other field of this table and all other tables — is unchanged. -/
theorem history_refines_frame (debug : Bool) (s : Spec) (hs : s.ok) (ops : List Op) (hv : ∀ op ∈ ops, op.valid s)
    (m : Mem) (hm : ByteMem m) :
    ∃ m' rets, runImpl debug s m ops = some (m', rets) ∧
      runSpec (2 ^ s.logBits) s.logRegion (absArr m s) ops = (absArr m' s, rets) ∧ ByteMem m' ∧
      (∀ p, (∀ op ∈ ops, ¬ InFieldOf s (op.addr >>> s.logRegion) p) → bitAt m' p = bitAt m p) := by
  induction ops generalizing m with
  | nil => exact ⟨m, [], rfl, rfl, hm, fun _ _ => rfl⟩
  | cons op ops ih =>
    obtain ⟨m1, r, h1, h2, h3, h4⟩ := step_refines debug s hs m hm op (hv op (List.mem_cons_self ..))
    obtain ⟨m2, rs, g1, g2, g3, g4⟩ := ih (fun o ho => hv o (List.mem_cons_of_mem _ ho)) m1 h3
    refine ⟨m2, r :: rs, ?_, ?_, g3, ?_⟩
    · simp [runImpl, h1, g1]
    · simp [runSpec, h2, g2]
    · intro p hp
      rw [g4 p (fun o ho => hp o (List.mem_cons_of_mem _ ho)), h4 p (hp op (List.mem_cons_self ..))]

/-- **C20, any history**: the final memory abstracts to the result of running the same calls on a plain array,
and every call returned what the array returned. -/
theorem history_refines (debug : Bool) (s : Spec) (hs : s.ok) (ops : List Op) (hv : ∀ op ∈ ops, op.valid s)
    (m : Mem) (hm : ByteMem m) :
    ∃ m' rets, runImpl debug s m ops = some (m', rets) ∧
      runSpec (2 ^ s.logBits) s.logRegion (absArr m s) ops = (absArr m' s, rets) := by
  obtain ⟨m', rets, h1, h2, _, _⟩ := history_refines_frame debug s hs ops hv m hm
  exact ⟨m', rets, h1, h2⟩

/-- **C20, frame of a history**: a memory bit that belongs to the field of none of the calls' regions is unchanged. -/
theorem history_frame (debug : Bool) (s : Spec) (hs : s.ok) (ops : List Op) (hv : ∀ op ∈ ops, op.valid s)
    (m : Mem) (hm : ByteMem m) (m' : Mem) (rets : List Ret) (hrun : runImpl debug s m ops = some (m', rets))
    (p : Nat) (hp : ∀ op ∈ ops, ¬ InFieldOf s (op.addr >>> s.logRegion) p) : bitAt m' p = bitAt m p := by
  obtain ⟨m2, r2, h1, _, _, h4⟩ := history_refines_frame debug s hs ops hv m hm
  rw [hrun] at h1
  cases h1
  exact h4 p hp

/-- `set_raw_byte_atomic` is *not* part of the isolation claim (its doc says so): it sets the whole
byte, i.e. the neighbouring fields too. -/
theorem setRawByte_pollutes_witness :
    let s : Spec := { start := 1000, logBits := 0, logRegion := 3 }
    let m : Mem := fun _ => 0
    absArr (setRawByte s m 0) s 1 = 1 ∧ absArr m s 1 = 0 := by
  decide

example : ({ start := 0x300000000000, logBits := 1, logRegion := 3 } : Spec).ok := by decide
example : ({ start := 0x300000000000, logBits := 6, logRegion := 3 } : Spec).ok := by decide
example : (Op.cmpxchg 0x1f000000008 1 2).valid { start := 0x300000000000, logBits := 1, logRegion := 3 } := by
  unfold Op.valid; decide
/-- two neighbouring 2-bit fields share a byte: regions 1 and 2 of a spec are bits 2..3 and 4..5. -/
example : let s : Spec := { start := 10, logBits := 1, logRegion := 3 }
    fieldBase s 1 = 82 ∧ fieldBase s 2 = 84 ∧ metaAddr s 8 = 10 ∧ metaAddr s 16 = 10 ∧ lshift s 8 = 2 ∧ lshift s 16 = 4 := by
  decide

end Mmtk.SideMeta
