import MmtkModel.Props.C06
import MmtkModel.Model.WeakMon
/-!
# C06 — the monitor's collection pipeline `gcStages` meets the stage specifications of `Props/C06.lean`

`gcStages` (Model/WeakMon.lean) is what the `gcw` monitor runs at every pause: the theorems of `Props/C06.lean`
are about one `scanRefs` / one `FinState.scan`; here they are lifted to the pipeline.

The second half (namespace `Los`) is about the `live` those theorems take as given: the mark/nursery bits of the
large-object space, and `is_live` = "not freed by this collection" for them.
-/
namespace Mmtk.WeakMon
open Mmtk Mmtk.RefProc

/-- the tables stay duplicate-free (the hypothesis of every theorem about `scanRefs`) -/
theorem gcStages_tables_nodup (i : GcIn) (w : WState) (hs : w.soft.Nodup) (hw : w.weak.Nodup) (hp : w.phantom.Nodup) :
    (gcStages i w).w.soft.Nodup ∧ (gcStages i w).w.weak.Nodup ∧ (gcStages i w).w.phantom.Nodup :=
  -- each table is scanned twice (its own stage, then the rescan), the phantom table once
  ⟨scan_table_nodup (live2 i w) { soft1 i w with referent := (weak1 i w).referent }
      (scan_table_nodup (live1 i w) (softState i w) hs),
   scan_table_nodup (live2 i w) { weak1 i w with referent := (soft2 i w).referent }
      (scan_table_nodup (live1 i w) { table := w.weak, referent := (soft1 i w).referent, enqueued := [] } hw),
   scan_table_nodup (live2 i w) { table := w.phantom, referent := (weak2 i w).referent, enqueued := [] } hp⟩

/-- by definition of `gcStages`, its finalizable processor is `FinState.scan` on the liveness of the weak stage: by
`fin_scan_spec` a registration is ready afterwards iff its object is not live at that point -/
theorem gcStages_fin_spec (i : GcIn) (w : WState) : (gcStages i w).w.fin = w.fin.scan (live1 i w) := rfl

theorem enq_mono (live : Nat → Bool) (s : RefState) (h : s.table.Nodup) (r : Nat) (hr : r ∈ s.enqueued) :
    r ∈ (scanRefs live s).enqueued := by
  rw [(scanRefs_closed live s h).2.1]
  exact List.mem_append_left _ hr

/-- A registered weak reference (not also registered as a soft one) that is live
when the weak table is scanned and whose referent is not live at that point is enqueued in this pause, leaves the
table, and the weak stage clears its referent field. -/
theorem gcStages_weak_spec (i : GcIn) (w : WState) (hs : w.soft.Nodup) (hw : w.weak.Nodup) (r o : Nat)
    (hr : r ∈ w.weak) (hns : r ∉ w.soft) (hl : live1 i w r = true) (ho : referentOf i.heap r = some o)
    (hd : live1 i w o = false) :
    r ∈ (gcStages i w).enqNow ∧ r ∉ (gcStages i w).w.weak ∧ (weak1 i w).referent r = none := by
  have href : (soft1 i w).referent r = some o := by
    have := scan_frame (live1 i w) (softState i w) hs r hns
    simpa [soft1, softState, ho] using this
  have h1 := (weak_cleared_iff (live1 i w) { table := w.weak, referent := (soft1 i w).referent, enqueued := [] } hw r o hr hl href).1 hd
  have hnd1 : (weak1 i w).table.Nodup := scan_table_nodup _ _ hw
  refine ⟨?_, ?_, h1.1⟩
  · have : r ∈ (weak2 i w).enqueued :=
      enq_mono (live2 i w) { weak1 i w with referent := (soft2 i w).referent } hnd1 r h1.2.1
    simp only [gcStages, List.mem_append]
    exact Or.inl (Or.inr this)
  · intro hm
    have hsub : r ∈ (weak1 i w).table := by
      have hc := (scanRefs_closed (live2 i w) { weak1 i w with referent := (soft2 i w).referent } hnd1).1
      have : r ∈ (weak2 i w).table := hm
      rw [weak2, hc] at this
      exact (List.mem_filter.1 this).1
    exact h1.2.2 hsub

/-- one weak reference 1 → 0, nothing rooted but the reference object: the pipeline enqueues and clears it as a weak
reference and keeps it as a soft one -/
def demoHeap : Heap.Heap :=
  { objs := #[{ id := 0, size := 32, sem := .default, nfields := 0, fields := [] },
              { id := 1, size := 40, sem := .default, nfields := 1, fields := [some 0], isRef := true }],
    roots := [(0, 1)] }
def demoIn : GcIn := { heap := demoHeap, seeds := [1], immortal := fun _ => false }
example : (gcStages demoIn { weak := [1] }).enqNow = [1] ∧ (gcStages demoIn { weak := [1] }).cleared = [1] ∧
    (gcStages demoIn { weak := [1] }).w.weak = [] := ⟨rfl, rfl, rfl⟩
example : (gcStages demoIn { soft := [1] }).enqNow = [] ∧ (gcStages demoIn { soft := [1] }).w.soft = [1] := ⟨rfl, rfl⟩

/-! ## The liveness test of the large-object space (defect `gc:los-nursery-weak-dangling`)

`live` in `scanRefs` / `FinState.scan` is `ObjectReference::is_live`, i.e. the policy's `is_live`. The theorems above
need it to be the survivor set of the collection. For `LargeObjectSpace` (src/policy/largeobjectspace.rs) that
holds in every full-heap collection and for mature objects, but NOT for an untraced young object in a nursery
collection: before the `fix:` commit `is_live` (`isLiveOld`) says `true` and `release` frees the object
(`young_untraced_live_but_swept`; every other case is `isLive_iff_survives_partial`).  For `is_live` after the
`fix:` commit the statement holds in all cases (`isLive_iff_survives`). -/
namespace Los

/-- the per-object byte `LOCAL_LOS_MARK_NURSERY_SPEC`: value of `MARK_BIT`, `NURSERY_BIT` -/
structure Bits where
  mark : Bool
  nursery : Bool
  deriving DecidableEq, Repr

/-- `initialize_object_metadata(alloc = true)`: `mark_state | NURSERY_BIT` -/
def init (markState : Bool) : Bits := ⟨markState, true⟩
/-- `is_live` before the `fix:` commit: the body of `fn is_live` (largeobjectspace.rs:40) was `test_mark_bit(object, self.mark_state)` alone -/
def isLiveOld (markState : Bool) (b : Bits) : Bool := b.mark == markState
/-- `is_live` after the `fix:` commit: in a nursery GC a young object is live only once
tracing has cleared its nursery bit -/
def isLive (inNurseryGc markState : Bool) (b : Bits) : Bool := b.mark == markState && !(inNurseryGc && b.nursery)
/-- `prepare(full_heap)`: the mark state flips only in a full-heap collection -/
def prepare (fullHeap markState : Bool) : Bool := if fullHeap then !markState else markState
/-- `trace_object`: in a nursery GC only nursery objects are (test-and-)marked; marking clears the nursery bit -/
def trace (inNurseryGc markState : Bool) (b : Bits) : Bits :=
  if !inNurseryGc || b.nursery then ⟨markState, false⟩ else b
/-- `release(full_heap)`: `sweep_large_pages(true)` frees what is still in the collection nursery (never traced),
`sweep_large_pages(false)` (full heap only) what is still in from-space -/
def swept (fullHeap markState : Bool) (b : Bits) : Bool := b.nursery || (fullHeap && b.mark != markState)

def after (fullHeap ms : Bool) (b : Bits) (traced : Bool) : Bits :=
  if traced then trace (!fullHeap) (prepare fullHeap ms) b else b

/-- **witness**, before the `fix:` commit: a young, unreachable large object in a nursery collection is `live` for the
reference and finalizable processors and is freed by the same collection (`gc:los-nursery-weak-dangling`). -/
theorem young_untraced_live_but_swept :
    isLiveOld (prepare false true) (after false true (init true) false) = true ∧
    swept false (prepare false true) (after false true (init true) false) = true := by decide

/-- before the `fix:` commit, **partial**: `isLiveOld` is exactly "not freed by this collection" in a full-heap collection,
for mature objects, and for traced objects — everything but the witness' case. -/
theorem isLive_iff_survives_partial (fullHeap ms : Bool) (b : Bits) (traced : Bool) (hb : b.mark = ms)
    (h : fullHeap = true ∨ b.nursery = false ∨ traced = true) :
    isLiveOld (prepare fullHeap ms) (after fullHeap ms b traced) = !swept fullHeap (prepare fullHeap ms) (after fullHeap ms b traced) := by
  -- a truth table over the four flags
  obtain ⟨m, n⟩ := b
  subst hb
  revert fullHeap m n traced
  decide

/-- **after the `fix:` commit (full)**: `is_live` is exactly "not freed by this collection", in nursery and full-heap collections, for
young and mature, traced and untraced objects. (The same statement over whole histories of the real treadmill sets is
`Mmtk.LOS.los_is_live_iff_not_swept` in Props/C36.lean.) -/
theorem isLive_iff_survives (fullHeap ms : Bool) (b : Bits) (traced : Bool) (hb : b.mark = ms) :
    isLive (!fullHeap) (prepare fullHeap ms) (after fullHeap ms b traced)
      = !swept fullHeap (prepare fullHeap ms) (after fullHeap ms b traced) := by
  obtain ⟨m, n⟩ := b
  subst hb
  revert fullHeap m n traced
  decide

end Los

end Mmtk.WeakMon
