import MmtkModel.Lemmas.MetaBits
/-!
# C23 — In-header metadata fields are isolated and report their own previous value

For every header spec (any bit offset including negative ones; sub-byte fields under `Spec.bitsOk`,
byte-or-wider fields of any number `w` of bytes, with an optional mask) every accessor modifies only
the bits of its field and value-returning operations return the previous value of that field only
(`BitsPost`, `WordPost`). No theorem ties `w` to `s.numBits`: `s` only locates the word (`s.addr h`).

One theorem per accessor of the model, except that `fetchSubBits` and the four `fetch…Word` are instances
of the generic update theorems (`fetchOpBits_spec`, `fetchOpWord_spec`) and are not restated.
-/
namespace Mmtk.HeaderMeta
open Mmtk.Mem

/-- **C23 (load, sub-byte)** returns exactly the field, changes nothing. -/
theorem loadBits_spec (s : Spec) (m : Mem) (h : Nat) :
    loadBits s m h = some (m, getBits s (m (s.addr h))) := rfl

/-- **C23 (store, sub-byte)** only the field changes, and it holds `v`. -/
theorem storeBits_spec (debug : Bool) (s : Spec) (hs : s.bitsOk) (m : Mem) (h v : Nat)
    (hb : m (s.addr h) < 256) (hv : v < 2 ^ s.numBits) :
    ∃ m', storeBits debug s m h v = some (m', 0) ∧
      BitsPost s m h m' (getBits s (m (s.addr h))) v :=
  ⟨_, by simp [storeBits, setBitsChecked, hv], set_post s hs m h v hb hv⟩

/-- **C23 (compare_exchange, sub-byte)** succeeds iff the field equals `old`; on success only the
field changes (to `new`); both outcomes return the field's previous value — not the raw byte. -/
theorem cmpxchgBits_spec (debug : Bool) (s : Spec) (hs : s.bitsOk) (m : Mem) (h old new : Nat)
    (hb : m (s.addr h) < 256) (ho : old < 2 ^ s.numBits) (hn : new < 2 ^ s.numBits) :
    ∃ m' ok, cmpxchgBits debug s m h old new = some (m', ok, getBits s (m (s.addr h))) ∧
      (ok = true ↔ getBits s (m (s.addr h)) = old) ∧
      BitsPost s m h m' (getBits s (m (s.addr h))) (if ok then new else getBits s (m (s.addr h))) := by
  unfold cmpxchgBits
  simp only [setBitsChecked, ho, hn, decide_true, Bool.not_true, Bool.and_false, Bool.false_eq_true, if_false]
  by_cases e : m (s.addr h) = setBits s (m (s.addr h)) old
  · have hf := (setBits_eq_self_iff s hs _ old hb ho).1 e
    exact ⟨_, true, by rw [if_pos e, setBits_setBits s hs _ old new hb ho hn], by simp [hf], set_post s hs m h new hb hn⟩
  · have hf := mt (setBits_eq_self_iff s hs _ old hb ho).2 e
    exact ⟨m, false, if_neg e, by simp [hf], noop_post s m h hb⟩

/-- `cmpxchgBitsOld` is `compare_exchange` before the `fix:` commit of mmtk-core on its return value (modelled
as `cmpxchgBits` returning the raw byte): with a non-zero neighbour the returned value is not the field
(one input: byte `0xF7`, field = bits 2..3, `compare_exchange(1 → 2)`). -/
theorem cmpxchgBitsOld_returns_raw_byte_witness :
    let s : Spec := { bitOffset := 2, numBits := 2 }
    let m : Mem := fun x => if x = 100 then 0xF7 else 0
    s.bitsOk ∧ getBits s (m (s.addr 100)) = 1 ∧
    (cmpxchgBitsOld true s m 100 1 2).map (fun r => r.2.2) = some 0xF7 ∧
    (cmpxchgBits true s m 100 1 2).map (fun r => r.2.2) = some 1 := by
  decide

/-- `truncate_bits_in_u8` makes the debug assertion of `set_bits_to_u8` pass, and the field takes the value
`mod 2^bits`. -/
theorem setBitsChecked_trunc (debug : Bool) (s : Spec) (hs : s.bitsOk) (raw x : Nat) :
    setBitsChecked debug s raw (truncBits s (x % 256)) = some (setBits s raw (x % 2 ^ s.numBits)) := by
  rw [← trunc_mod s hs]
  simp [setBitsChecked, truncBits_lt]

/-- **C23 (`fetch_ops_on_bits` with any `update`, sub-byte)** only the field changes, to
`update(old) mod 2^bits`; the old field is returned. `fetchAddBits`/`fetchSubBits` are instances. -/
theorem fetchOpBits_spec (debug : Bool) (s : Spec) (hs : s.bitsOk) (m : Mem) (h : Nat) (update : Nat → Nat)
    (hb : m (s.addr h) < 256) :
    ∃ m', fetchOpBits debug s m h update = some (m', getBits s (m (s.addr h))) ∧
      BitsPost s m h m' (getBits s (m (s.addr h))) (update (getBits s (m (s.addr h))) % 2 ^ s.numBits) :=
  ⟨_, by simp only [fetchOpBits, setBitsChecked_trunc debug s hs],
    set_post s hs m h _ hb (Nat.mod_lt _ (Nat.two_pow_pos _))⟩

theorem fetchAddBits_spec (debug : Bool) (s : Spec) (hs : s.bitsOk) (m : Mem) (h v : Nat)
    (hb : m (s.addr h) < 256) :
    ∃ m', fetchAddBits debug s m h v = some (m', getBits s (m (s.addr h))) ∧
      BitsPost s m h m' (getBits s (m (s.addr h))) ((getBits s (m (s.addr h)) + v) % 2 ^ s.numBits) := by
  obtain ⟨m', h1, h2⟩ := fetchOpBits_spec debug s hs m h (fun x => (x + v) % 256) hb
  refine ⟨m', h1, ?_⟩
  simpa [mod256_mod s hs] using h2

/-- `fetch_and` is done on the whole byte with `(v << shift) | !mask`: that is `setBits` of `field & v`. -/
theorem and_splice (s : Spec) (hs : s.bitsOk) (raw v : Nat) (hb : raw < 256) (hv : v < 2 ^ s.numBits) :
    raw &&& ((v <<< s.shift) % 256 ||| (255 - mask8 s)) = setBits s raw (getBits s raw &&& v) := by
  apply Nat.eq_of_testBit_eq
  intro i
  rw [testBit_setBits s hs _ _ hb (Nat.lt_of_le_of_lt Nat.and_le_right hv), Nat.testBit_and, Nat.testBit_or,
    testBit_shifted s hs v hv, testBit_notmask8 s hs]
  by_cases hf : InField s i
  · simp only [hf, decide_true, Bool.true_and, Bool.not_true, Bool.and_false, Bool.or_false, if_true]
    rw [Nat.testBit_and, testBit_getBits_inField s hs _ hf]
  · simp only [hf, decide_false, Bool.false_and, Bool.not_false, Bool.and_true, Bool.false_or, if_false]
    by_cases h8 : i < 8
    · simp [h8]
    · simp [testBit_high (n := 8) hb (by omega : 8 ≤ i)]

theorem fetchAndBits_spec (s : Spec) (hs : s.bitsOk) (m : Mem) (h v : Nat)
    (hb : m (s.addr h) < 256) (hv : v < 2 ^ s.numBits) :
    ∃ m', fetchAndBits s m h v = some (m', getBits s (m (s.addr h))) ∧
      BitsPost s m h m' (getBits s (m (s.addr h))) (getBits s (m (s.addr h)) &&& v) :=
  ⟨_, by simp only [fetchAndBits, and_splice s hs _ v hb hv],
    set_post s hs m h _ hb (Nat.lt_of_le_of_lt Nat.and_le_right hv)⟩

/-- `fetch_or` on the whole byte with `(v << shift) & mask` is `setBits` of `field | v`. -/
theorem or_splice (s : Spec) (hs : s.bitsOk) (raw v : Nat) (hb : raw < 256) (hv : v < 2 ^ s.numBits) :
    raw ||| ((v <<< s.shift) % 256 &&& mask8 s) = setBits s raw (getBits s raw ||| v) := by
  apply Nat.eq_of_testBit_eq
  intro i
  rw [testBit_setBits s hs _ _ hb (Nat.or_lt_two_pow (getBits_lt s hs _) hv), Nat.testBit_or, Nat.testBit_and,
    testBit_shifted s hs v hv, testBit_mask8 s hs]
  by_cases hf : InField s i
  · simp only [hf, decide_true, Bool.true_and, Bool.and_true, if_true]
    rw [Nat.testBit_or, testBit_getBits_inField s hs _ hf]
  · simp [hf]

theorem fetchOrBits_spec (s : Spec) (hs : s.bitsOk) (m : Mem) (h v : Nat)
    (hb : m (s.addr h) < 256) (hv : v < 2 ^ s.numBits) :
    ∃ m', fetchOrBits s m h v = some (m', getBits s (m (s.addr h))) ∧
      BitsPost s m h m' (getBits s (m (s.addr h))) (getBits s (m (s.addr h)) ||| v) :=
  ⟨_, by simp only [fetchOrBits, or_splice s hs _ v hb hv],
    set_post s hs m h _ hb (Nat.or_lt_two_pow (getBits_lt s hs _) hv)⟩

/-- **C23 (fetch_update, sub-byte)** `Err(old field)` and no change when `f` declines; otherwise
`Ok(old field)` and only the field changes (to `f(old) mod 2^bits`). -/
theorem fetchUpdateBits_spec (debug : Bool) (s : Spec) (hs : s.bitsOk) (m : Mem) (h : Nat)
    (f : Nat → Option Nat) (hb : m (s.addr h) < 256) :
    ∃ m' ok, fetchUpdateBits debug s m h f = some (m', ok, getBits s (m (s.addr h))) ∧
      (ok = (f (getBits s (m (s.addr h)))).isSome) ∧
      BitsPost s m h m' (getBits s (m (s.addr h)))
        (match f (getBits s (m (s.addr h))) with
         | some nv => nv % 2 ^ s.numBits
         | none => getBits s (m (s.addr h))) := by
  unfold fetchUpdateBits
  cases hf : f (getBits s (m (s.addr h))) with
  | none => exact ⟨m, false, by simp only [hf], by simp, noop_post s m h hb⟩
  | some nv =>
    exact ⟨_, true, by simp only [hf, setBitsChecked_trunc debug s hs], by simp,
      set_post s hs m h _ hb (Nat.mod_lt _ (Nat.two_pow_pos _))⟩

/-- **C23 (load, byte-or-wider)** returns the field (the masked bits when a mask is given). -/
theorem loadWord_spec (s : Spec) (w : Nat) (m : Mem) (h : Nat) (mask : Option Nat) :
    loadWord s w m h mask = some (m, match mask with
      | some k => readLE m (s.addr h) w &&& k
      | none => readLE m (s.addr h) w) := rfl

theorem storeWord_spec (s : Spec) (w : Nat) (m : Mem) (hm : ByteMem m) (h v : Nat) (hv : v < wordMax w) :
    ∃ m', storeWord s w m h v none = some (m', 0) ∧ WordPost s w m h m' v :=
  ⟨writeLE m (s.addr h) w v, rfl, write_post s w m hm h v hv⟩

/-- **C23 (store under a mask)** bytes outside the word are unchanged; inside the word the bits
outside the mask keep their value and the masked bits take those of `v`. -/
theorem storeWord_masked_spec (s : Spec) (w : Nat) (m : Mem) (hm : ByteMem m) (h v k : Nat)
    (hk : k < wordMax w) :
    ∃ m' nw, storeWord s w m h v (some k) = some (m', 0) ∧ WordPost s w m h m' nw ∧
      nw &&& k = v &&& k ∧
      nw &&& (wordMax w - 1 - k) = readLE m (s.addr h) w &&& (wordMax w - 1 - k) := by
  have hc : readLE m (s.addr h) w < wordMax w := readLE_lt m hm (s.addr h) w
  exact ⟨_, (readLE m (s.addr h) w &&& (wordMax w - 1 - k)) ||| (v &&& k), rfl,
    write_post s w m hm h _ (splice_lt _ _ _ _ hc hk), splice_in _ _ _ _ hk, splice_out _ _ _ _ hk⟩

/-- **C23 (compare_exchange, no mask)** succeeds iff the word equals `old`; returns the previous word. -/
theorem cmpxchgWord_spec (s : Spec) (w : Nat) (m : Mem) (hm : ByteMem m) (h old new : Nat)
    (hn : new < wordMax w) :
    ∃ m' ok, cmpxchgWord s w m h old new none = some (m', ok, readLE m (s.addr h) w) ∧
      (ok = true ↔ readLE m (s.addr h) w = old) ∧
      WordPost s w m h m' (if ok then new else readLE m (s.addr h) w) := by
  unfold cmpxchgWord
  by_cases e : readLE m (s.addr h) w = old
  · exact ⟨_, true, if_pos e, by simp [e], write_post s w m hm h new hn⟩
  · exact ⟨m, false, if_neg e, by simp [e], keep_post s w m hm h⟩

/-- **C23 (compare_exchange under a mask)** for `old`, `new` inside the mask: succeeds iff the
masked bits equal `old`; on success the masked bits become `new` and the bits outside the mask are
unchanged; both outcomes return the previous *masked* value. `ho`, `hn`: the code ORs `old_metadata`/`new_metadata`
into the word without masking them, so bits outside the mask would leak into the neighbours. -/
theorem cmpxchgWord_masked_spec (s : Spec) (w : Nat) (m : Mem) (hm : ByteMem m) (h old new k : Nat)
    (hk : k < wordMax w) (ho : old &&& k = old) (hn : new &&& k = new) :
    ∃ m' ok nw, cmpxchgWord s w m h old new (some k) = some (m', ok, readLE m (s.addr h) w &&& k) ∧
      (ok = true ↔ readLE m (s.addr h) w &&& k = old) ∧
      WordPost s w m h m' nw ∧
      nw &&& k = (if ok then new else readLE m (s.addr h) w &&& k) ∧
      nw &&& (wordMax w - 1 - k) = readLE m (s.addr h) w &&& (wordMax w - 1 - k) := by
  have hc : readLE m (s.addr h) w < wordMax w := readLE_lt m hm (s.addr h) w
  -- `old` and `new` lie inside the mask: write them as `o &&& k`, `n &&& k`, the form the splice lemmas speak of
  obtain ⟨old, rfl⟩ : ∃ o, old = o &&& k := ⟨old, ho.symm⟩
  obtain ⟨new, rfl⟩ : ∃ n, new = n &&& k := ⟨new, hn.symm⟩
  unfold cmpxchgWord
  dsimp only
  generalize hcur : readLE m (s.addr h) w = cur at hc ⊢
  by_cases e : cur = (cur &&& (wordMax w - 1 - k)) ||| (old &&& k)
  · have hf := splice_in w cur old k hk
    rw [← e] at hf
    exact ⟨_, true, _, if_pos e, by simp [hf], write_post s w m hm h _ (splice_lt _ _ _ _ hc hk),
      by simpa using splice_in w cur new k hk, splice_out _ _ _ _ hk⟩
  · have hf : ¬ cur &&& k = old &&& k := fun c => e (by rw [← c]; exact (split_mask w cur k hc hk).symm)
    refine ⟨m, false, cur, if_neg e, by simp [hf], ?_, by simp, rfl⟩
    rw [← hcur]; exact keep_post s w m hm h

/-- `cmpxchgWordOld`: `compare_exchange` under a mask before the `fix:` commit of mmtk-core on its return value
(modelled as `cmpxchgWord` returning the unmasked word); one input: all-ones word, mask `!3`. -/
theorem cmpxchgWordOld_returns_unmasked_witness :
    let s : Spec := { bitOffset := 0, numBits := 8 }
    let m : Mem := fun x => if x = 100 then 0xFF else 0
    (cmpxchgWordOld s 1 m 100 0xFC 8 (some 0xFC)).map (fun r => r.2.2) = some 0xFF ∧
    (cmpxchgWord s 1 m 100 0xFC 8 (some 0xFC)).map (fun r => r.2.2) = some 0xFC := by
  decide

/-- **C23 (read-modify-write with any `update`, byte-or-wider)** only the word changes, to
`update(old) mod 256^w`; the old word is returned. `fetchAddWord`, `fetchSubWord`, `fetchAndWord`,
`fetchOrWord` are `fetchOpWord` at their `update`. -/
theorem fetchOpWord_spec (s : Spec) (w : Nat) (m : Mem) (hm : ByteMem m) (h : Nat) (update : Nat → Nat) :
    ∃ m', fetchOpWord s w m h update = some (m', readLE m (s.addr h) w) ∧
      WordPost s w m h m' (update (readLE m (s.addr h) w) % wordMax w) :=
  ⟨_, rfl, write_post s w m hm h _ (Nat.mod_lt _ (Nat.pow_pos (by decide)))⟩

theorem fetchUpdateWord_spec (s : Spec) (w : Nat) (m : Mem) (hm : ByteMem m) (h : Nat) (f : Nat → Option Nat) :
    ∃ m' ok, fetchUpdateWord s w m h f = some (m', ok, readLE m (s.addr h) w) ∧
      ok = (f (readLE m (s.addr h) w)).isSome ∧
      WordPost s w m h m' (match f (readLE m (s.addr h) w) with
        | some nv => nv % wordMax w
        | none => readLE m (s.addr h) w) := by
  unfold fetchUpdateWord
  cases hf : f (readLE m (s.addr h) w) with
  | none => exact ⟨m, false, by simp only [hf], by simp, keep_post s w m hm h⟩
  | some nv =>
    exact ⟨_, true, by simp only [hf], by simp,
      write_post s w m hm h _ (Nat.mod_lt _ (Nat.pow_pos (by decide)))⟩

/-- A sub-byte accessor on `s` leaves every other sub-byte field `t` of the header intact when the
two fields occupy different bits (different bytes, or disjoint bit ranges of the same byte). -/
theorem bits_fields_independent (s t : Spec) (ht : t.bitsOk) (m m' : Mem) (h ret nf : Nat)
    (post : BitsPost s m h m' ret nf)
    (hdisj : t.addr h ≠ s.addr h ∨ ∀ i, InField t i → ¬ InField s i) :
    getBits t (m' (t.addr h)) = getBits t (m (t.addr h)) := by
  rcases hdisj with hne | hd
  · rw [post.other_bytes _ hne]
  · by_cases hne : t.addr h = s.addr h
    · rw [hne]
      apply Nat.eq_of_testBit_eq
      intro i
      rw [testBit_getBits t ht, testBit_getBits t ht]
      by_cases hi : i < t.numBits
      · rw [post.other_bits _ (hd _ ⟨by omega, by omega⟩)]
      · simp [hi]
    · rw [post.other_bytes _ hne]

/-! A negative bit offset addresses the byte before the header; the last line evaluates `Spec.wordOk`
(the alignment `assert_spec` checks), which no theorem above needs. -/
example : ({ bitOffset := -1, numBits := 1 } : Spec).bitsOk := by decide
example : ({ bitOffset := -1, numBits := 1 } : Spec).addr 100 = 99 ∧ ({ bitOffset := -1, numBits := 1 } : Spec).shift = 7 := by decide
example : ({ bitOffset := -64, numBits := 64 } : Spec).wordOk 8 := by decide

end Mmtk.HeaderMeta
