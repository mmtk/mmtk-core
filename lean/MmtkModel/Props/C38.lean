import MmtkModel.Model.MemBalancer
/-!
# C38 — Dynamic heap size stays within its bounds

*Statement*: with `DynamicHeapSize(min, max)` the current heap size reported to the binding stays
within `[min, max]` pages after any history of GC starts, releases, ends and pending-allocation
notifications; with `FixedHeapSize` it never changes.

The floating-point value `e` and the page counts `live`, `extra` are universally quantified
(arbitrary naturals), so the bound holds whatever the statistics were — including NaN (`e = 0`),
+∞ (`e = 2^64 - 1`) and sums that wrap in the release profile.
-/
namespace Mmtk.MemBalancer

def InBounds (mn mx : Nat) (t : Trig) : Prop :=
  t.minPages = mn ∧ t.maxPages = mx ∧ mn ≤ t.current ∧ t.current ≤ mx

theorem clamp_eq_some {v lo hi r : Nat} : clamp v lo hi = some r ↔ lo ≤ hi ∧ r = max lo (min v hi) := by
  unfold clamp
  by_cases h : lo ≤ hi
  · rw [if_pos h, Option.some.injEq]
    split <;> try split
    all_goals omega
  · simp [h]

theorem optimalHeap_of_lt (debug : Bool) {live e extra pending : Nat} (h : live + e + extra + pending < 2^64) :
    optimalHeap debug live e extra pending = some (live + e + extra + pending) := by
  unfold optimalHeap cadd
  rw [if_pos (by omega)]
  simp only []
  rw [if_pos (by omega)]
  simp only []
  rw [if_pos h]

theorem computeNewHeapLimit_eq_some {debug : Bool} {t t' : Trig} {live e extra : Nat} :
    computeNewHeapLimit debug t live e extra = some t' ↔
      ∃ opt nh, optimalHeap debug live e extra t.pending = some opt ∧
        clamp opt t.minPages t.maxPages = some nh ∧ t' = { t with current := nh } := by
  constructor
  · intro h
    unfold computeNewHeapLimit at h
    split at h
    · cases h
    next opt ho =>
      split at h
      · cases h
      next nh hc => cases h; exact ⟨opt, nh, ho, hc, rfl⟩
  · rintro ⟨opt, nh, ho, hc, rfl⟩
    simp only [computeNewHeapLimit, ho, hc]

theorem step_gcEnd_some {debug : Bool} {t t' : Trig} {live e extra : Nat} :
    step debug t (.gcEnd (some (live, e, extra))) = some t' ↔
      ∃ t'', computeNewHeapLimit debug t live e extra = some t'' ∧ t' = { t'' with pending := 0 } := by
  simp only [step]
  cases computeNewHeapLimit debug t live e extra <;> simp [eq_comm]

theorem compute_inBounds {debug : Bool} {t t' : Trig} {live e extra mn mx : Nat}
    (hb : t.minPages = mn ∧ t.maxPages = mx)
    (h : computeNewHeapLimit debug t live e extra = some t') :
    InBounds mn mx t' ∧ mn ≤ mx := by
  obtain ⟨opt, nh, _, hc, rfl⟩ := computeNewHeapLimit_eq_some.1 h
  obtain ⟨h1, h2⟩ := clamp_eq_some.1 hc
  rw [hb.1, hb.2] at h1 h2
  exact ⟨⟨hb.1, hb.2, by simp only; omega, by simp only; omega⟩, h1⟩

theorem step_inBounds {debug : Bool} {t t' : Trig} {ev : Ev} {mn mx : Nat}
    (hi : InBounds mn mx t) (h : step debug t ev = some t') : InBounds mn mx t' := by
  cases ev with
  | gcEnd c =>
    cases c with
    | none => cases h; exact hi
    | some c =>
      obtain ⟨t'', hc, rfl⟩ := step_gcEnd_some.1 h
      exact (compute_inBounds ⟨hi.1, hi.2.1⟩ hc).1
  | _ => cases h; exact hi

theorem run_inBounds {debug : Bool} {mn mx : Nat} (evs : List Ev) :
    ∀ {t t' : Trig}, InBounds mn mx t → run debug t evs = some t' → InBounds mn mx t' := by
  induction evs with
  | nil => intro t t' hi h; cases h; exact hi
  | cons ev evs ih =>
    intro t t' hi h
    simp only [run] at h
    split at h
    · contradiction
    · rename_i t1 hs
      exact ih (step_inBounds hi hs) h

/-- For `min ≤ max`, after any history of events that the code
survives (in either profile, wrapping arithmetic included) the reported heap size satisfies
`min ≤ current ≤ max`, the configured bounds never change, and `get_max_heap_size` is `max`. -/
theorem membalancer_in_bounds (debug : Bool) (mn mx : Nat) (hmm : mn ≤ mx) (evs : List Ev) (t : Trig)
    (h : run debug (new mn mx) evs = some t) :
    mn ≤ currentHeapSize t ∧ currentHeapSize t ≤ mx ∧ maxHeapSize t = mx ∧ t.minPages = mn := by
  have h0 : InBounds mn mx (new mn mx) := ⟨rfl, rfl, Nat.le_refl _, hmm⟩
  obtain ⟨h1, h2, h3, h4⟩ := run_inBounds evs h0 h
  exact ⟨h3, h4, h2, h1⟩

/-- The bound does not even need `min ≤ max` as a hypothesis when at least one limit was computed:
`clamp` asserts it. (With `min > max` the initial state `current = min` is itself out of range;
option validation rejects such a configuration — C39.) -/
theorem membalancer_in_bounds_after_compute (debug : Bool) (t t' : Trig) (live e extra : Nat)
    (h : step debug t (.gcEnd (some (live, e, extra))) = some t') :
    t.minPages ≤ t'.current ∧ t'.current ≤ t.maxPages ∧ t.minPages ≤ t.maxPages ∧ t'.pending = 0 := by
  obtain ⟨t'', hc, rfl⟩ := step_gcEnd_some.1 h
  obtain ⟨⟨_, _, h3, h4⟩, hle⟩ := compute_inBounds ⟨rfl, rfl⟩ hc
  exact ⟨h3, h4, hle, rfl⟩

theorem cadd_release_total (a b : Nat) : ∃ s, cadd false a b = some s := by
  unfold cadd
  split
  · exact ⟨_, rfl⟩
  · exact ⟨_, rfl⟩

theorem compute_release_total (t : Trig) (live e extra : Nat) (hle : t.minPages ≤ t.maxPages) :
    ∃ t', computeNewHeapLimit false t live e extra = some t' := by
  obtain ⟨s1, h1⟩ := cadd_release_total live e
  obtain ⟨s2, h2⟩ := cadd_release_total s1 extra
  obtain ⟨s3, h3⟩ := cadd_release_total s2 t.pending
  exact ⟨{ t with current := max t.minPages (min s3 t.maxPages) },
    computeNewHeapLimit_eq_some.2 ⟨s3, _, by simp only [optimalHeap, h1, h2, h3], clamp_eq_some.2 ⟨hle, rfl⟩, rfl⟩⟩

theorem step_release_total {t : Trig} (hle : t.minPages ≤ t.maxPages) (ev : Ev) : ∃ t1, step false t ev = some t1 := by
  cases ev with
  | gcEnd c =>
    cases c with
    | none => exact ⟨_, rfl⟩
    | some c =>
      obtain ⟨t2, h2⟩ := compute_release_total t c.1 c.2.1 c.2.2 hle
      exact ⟨{ t2 with pending := 0 }, by simp only [step, h2]⟩
  | _ => exact ⟨_, rfl⟩

/-- With `min ≤ max` the release build never panics: every
history has an outcome (sums wrap, the clamp still applies). -/
theorem membalancer_release_total (mn mx : Nat) (hmm : mn ≤ mx) (evs : List Ev) :
    ∃ t, run false (new mn mx) evs = some t := by
  have key : ∀ (evs : List Ev) (t : Trig), InBounds mn mx t → ∃ t', run false t evs = some t' := by
    intro evs
    induction evs with
    | nil => intro t _; exact ⟨t, rfl⟩
    | cons ev evs ih =>
      intro t hi
      obtain ⟨t1, h1⟩ := step_release_total (t := t) (by rw [hi.1, hi.2.1]; exact hmm) ev
      obtain ⟨t', h'⟩ := ih t1 (step_inBounds hi h1)
      exact ⟨t', by simp only [run, h1, h']⟩
  exact key evs _ ⟨rfl, rfl, Nat.le_refl _, hmm⟩

/-- The debug profile computes a limit without panicking whenever the four summands are below `2^62`
and `min ≤ max`; the result is the un-wrapped sum, clamped.  (`e` is below `2^62` unless a ratio of ∞
saturates it to `2^64-1`; then the debug build's checked `+` panics: see the `example` below.) -/
theorem no_overflow_if (debug : Bool) (t : Trig) (live e extra : Nat) (hmm : t.minPages ≤ t.maxPages)
    (h1 : live < 2^62) (h2 : e < 2^62) (h3 : extra < 2^62) (h4 : t.pending < 2^62) :
    ∃ t', computeNewHeapLimit debug t live e extra = some t' ∧
      clamp (live + e + extra + t.pending) t.minPages t.maxPages = some t'.current := by
  have hc := (clamp_eq_some (v := live + e + extra + t.pending)).2 ⟨hmm, rfl⟩
  exact ⟨_, computeNewHeapLimit_eq_some.2 ⟨_, _, optimalHeap_of_lt debug (by omega), hc, rfl⟩, hc⟩

/-- Pending allocations are taken into account: if the optimal size fits under `max`, the new
limit covers `live + extra + pending`. -/
theorem limit_covers_pending (debug : Bool) (t t' : Trig) (live e extra : Nat)
    (hno : live + e + extra + t.pending < 2^64) (hfit : live + e + extra + t.pending ≤ t.maxPages)
    (h : computeNewHeapLimit debug t live e extra = some t') :
    live + extra + t.pending ≤ t'.current := by
  obtain ⟨opt, nh, ho, hc, rfl⟩ := computeNewHeapLimit_eq_some.1 h
  rw [optimalHeap_of_lt debug hno, Option.some.injEq] at ho
  obtain ⟨_, rfl⟩ := clamp_eq_some.1 hc
  simp only
  omega

/-- `FixedHeapSizeTrigger` keeps the trait's default no-op handlers:
`Fixed.step` returns its argument. -/
theorem fixed_never_changes (t : Fixed) (evs : List Ev) :
    Fixed.run t evs = t ∧ Fixed.currentHeapSize (Fixed.run t evs) = t.totalPages ∧
    Fixed.maxHeapSize (Fixed.run t evs) = t.totalPages ∧ Fixed.canGrow (Fixed.run t evs) = false := by
  have : Fixed.run t evs = t := by
    unfold Fixed.run
    induction evs with
    | nil => rfl
    | cons ev evs ih => simpa [List.foldl, Fixed.step] using ih
  rw [this]
  exact ⟨rfl, rfl, rfl, rfl⟩

/-- a history with pending pages, a nursery GC, and two limit computations (NaN → `e = 0`;
+∞ → `e = 2^64 - 1` wraps in release) -/
example : run false (new 100 1000)
    [.pending 7, .gcStart, .gcRelease, .gcEnd (some (300, 0, 20)), .gcStart, .gcEnd none,
     .pending 5, .gcEnd (some (300, 2^64 - 1, 0))] =
    some { minPages := 100, maxPages := 1000, current := 304, pending := 0 } := by decide
/-- in the debug profile the saturated `e` panics (checked `+`) -/
example : run true (new 100 1000)
    [.pending 7, .gcEnd (some (300, 0, 20)), .pending 5, .gcEnd (some (300, 2^64 - 1, 0))] = none := by decide
example : run true (new 100 1000) [.pending 7, .gcEnd (some (300, 0, 20))] =
    some { minPages := 100, maxPages := 1000, current := 327, pending := 0 } := by decide
/-- `min > max`: `clamp` asserts -/
example : run false (new 10 5) [.gcEnd (some (1, 1, 1))] = none := by decide

end Mmtk.MemBalancer
