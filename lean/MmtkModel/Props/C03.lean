import MmtkModel.Model.Snap
import MmtkModel.Lemmas.HeapVerdict
/-!
# C03 — Allocation results honour size, alignment, offset, zeroing and semantics

The monitor evaluates `checkAlloc` on every `alloc` result of the real allocator. Proved here: the verdict
function answers `none` EXACTLY when the conjunction of C03's clauses holds (`checkAlloc_none_iff`), and the
object size requested by the harness covers header + fields + payload, is a multiple of 8 and at least 32
(`sizeFor_ge`, `sizeFor_aligned`, `sizeFor_min`) — so "granted size = `sizeFor`" is "size ≥ requested".
Termination is observed (watchdog `timeout`), not proved: it depends on the scheduler (C14).
Level: proof of the verdict function; partial w.r.t. the code.
The allocators' own arithmetic is proved over the transcribed allocators in `Props/C03Algo.lean`.
-/
namespace Mmtk.Heap

/-- the statement of C03 on one successful allocation -/
structure AllocGood (refoff nf payload align offset : Nat) (want : String) (x : AllocRes) : Prop where
  nonnull : x.a ≠ 0
  align_pos : align ≠ 0
  aligned : (x.a + offset) % align = 0
  size : x.sz = sizeFor refoff nf payload
  inmmtk : x.inmmtk = true
  zero : x.zero = true
  space : x.space = want
  ref : x.r = x.a + refoff

theorem checkAlloc_none_iff (refoff nf payload align offset : Nat) (want : String) (x : AllocRes) :
    checkAlloc refoff nf payload align offset want x = none ↔ AllocGood refoff nf payload align offset want x := by
  simp only [checkAlloc, ite_some_eq_none, beq_iff_eq, bne_iff_ne, Bool.or_eq_true, Bool.not_eq_true', not_or, ne_eq,
    Decidable.not_not, and_true, Bool.not_eq_false]
  exact ⟨fun ⟨h1, ⟨h2, h3⟩, h4, h5, h6, h7, h8⟩ => ⟨h1, h2, h3, h4, h5, h6, h7, h8⟩,
    fun ⟨h1, h2, h3, h4, h5, h6, h7, h8⟩ => ⟨h1, ⟨h2, h3⟩, h4, h5, h6, h7, h8⟩⟩

theorem sizeFor_spec (refoff nf payload : Nat) :
    refoff + 24 + 8 * nf + payload ≤ sizeFor refoff nf payload ∧ sizeFor refoff nf payload % 8 = 0 ∧
    32 ≤ sizeFor refoff nf payload := by
  unfold sizeFor
  -- rounding up to a multiple of 8 does not go below; then the maximum with 32
  have h1 : refoff + 24 + 8 * nf + payload ≤ (refoff + 24 + 8 * nf + payload + 7) / 8 * 8 := by omega
  have h2 := Nat.mul_mod_left ((refoff + 24 + 8 * nf + payload + 7) / 8) 8
  simp only [Nat.max_def]
  split
  · exact ⟨h1, h2, ‹_›⟩
  · exact ⟨Nat.le_trans h1 (Nat.le_of_not_le ‹_›), rfl, Nat.le_refl _⟩

theorem sizeFor_ge (refoff nf payload : Nat) : refoff + 24 + 8 * nf + payload ≤ sizeFor refoff nf payload :=
  (sizeFor_spec refoff nf payload).1

theorem sizeFor_aligned (refoff nf payload : Nat) : sizeFor refoff nf payload % 8 = 0 :=
  (sizeFor_spec refoff nf payload).2.1

theorem sizeFor_min (refoff nf payload : Nat) : 32 ≤ sizeFor refoff nf payload :=
  (sizeFor_spec refoff nf payload).2.2

/-- the hypotheses are satisfiable: the first allocation of the probe run of SemiSpace -/
example : AllocGood 8 2 100 16 8 "copyspace"
    { a := 0x20000000008, r := 0x20000000010, sz := 152, zero := true, inmmtk := true, space := "copyspace" } :=
  ⟨by decide, by decide, by decide, by decide, rfl, rfl, rfl, by decide⟩

example : checkAlloc 8 2 100 16 8 "copyspace"
    { a := 0x20000000010, r := 0x20000000018, sz := 152, zero := true, inmmtk := true, space := "copyspace" }
    = some "gc:misaligned" := rfl

end Mmtk.Heap
