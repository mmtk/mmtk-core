import MmtkModel.Props.C18
import MmtkModel.Model.CasByte
/-!
# C18, different objects of one metadata byte racing at the same time

The byte model `Mmtk.CasByte` (two objects' fields + the remaining bits in one byte, BYTE-wide CAS,
any number of threads per field) projects, for each of the two fields, onto the per-object model
`Mmtk.CasBit`: the neighbour's successful CAS and the environment's writes are environment steps of
the per-object model, every other neighbour step is invisible.  Hence C18 (1)–(4) — and the
executable per-object verdict `outcomeOk` — hold for each object independently while its
neighbours in the same byte race too: a spurious CAS failure caused by a neighbour is exactly the
"environment changed the other bits" case the per-object model already quantifies over.
-/
namespace Mmtk.CasByte

open Mmtk.CasBit (Proto)

theorem pair_zero (b : Nat) : pair 0 b = 2 * b + 1 := by
  simp only [pair, Nat.pow_zero, Nat.one_mul]

theorem pair_succ (a b : Nat) : pair (a + 1) b = 2 * pair a b := by
  simp only [pair, Nat.pow_succ]
  rw [Nat.mul_comm (2 ^ a) 2, Nat.mul_assoc]

/-- `pair` is injective (`pair 0 b` is odd, `pair (a + 1) b` is twice `pair a b`), so the per-object
model's opaque `other` bits determine the neighbour's field and the rest. -/
theorem pair_inj : ∀ a b c d : Nat, pair a b = pair c d → a = c ∧ b = d := by
  intro a
  induction a with
  | zero =>
    intro b c d h
    cases c with
    | zero =>
      rw [pair_zero, pair_zero] at h
      exact ⟨rfl, Nat.eq_of_mul_eq_mul_left (by decide) (Nat.succ.inj h)⟩
    | succ c => rw [pair_zero, pair_succ] at h; omega
  | succ a ih =>
    intro b c d h
    cases c with
    | zero => rw [pair_zero, pair_succ] at h; omega
    | succ c =>
      rw [pair_succ, pair_succ] at h
      obtain ⟨h1, h2⟩ := ih b c d (Nat.eq_of_mul_eq_mul_left (by decide) h)
      exact ⟨congrArg _ h1, h2⟩

theorem other_ne (k : Fld) : k.other ≠ k := by cases k <;> decide
theorem other_other (k : Fld) : k.other.other = k := by cases k <;> rfl
theorem eq_other_of_ne {j k : Fld} (h : j ≠ k) : j = k.other := by
  cases j <;> cases k <;> first | rfl | exact absurd rfl h

theorem get_set (b : Byte) (k : Fld) (v : Nat) : (b.set k v).get k = v := by cases k <;> rfl
theorem get_set_other (b : Byte) (k : Fld) (v : Nat) : (b.set k v).get k.other = b.get k.other := by
  cases k <;> rfl
theorem get_other_set (b : Byte) (k : Fld) (v : Nat) : (b.set k.other v).get k = b.get k := by
  cases k <;> rfl
theorem rest_set (b : Byte) (k : Fld) (v : Nat) : (b.set k v).rest = b.rest := by cases k <;> rfl

theorem byte_eq_iff (k : Fld) (a b : Byte) :
    a = b ↔ a.get k = b.get k ∧ a.get k.other = b.get k.other ∧ a.rest = b.rest := by
  constructor
  · intro h; subst h; exact ⟨rfl, rfl, rfl⟩
  · intro ⟨h1, h2, h3⟩
    cases a; cases b
    cases k <;> simp only [Byte.get, Fld.other] at h1 h2 h3 <;> subst h1 <;> subst h2 <;> subst h3 <;> rfl

-- The per-object model's `other` bits are opaque: any injective coding of (neighbour's field, rest) serves,
-- and injectivity is all the proofs use; `pair` is the instance that shows there is one.
section Projection
variable (enc : Nat → Nat → Nat) (henc : ∀ a b c d, enc a b = enc c d → a = c ∧ b = d)
include henc

theorem cas_cond_iff (k : Fld) (sh : Shared) (old : Nat) (b : Byte) :
    sh.byte = b.set k old ↔
      (projSh enc k sh).field = old ∧ (projSh enc k sh).other = enc (b.get k.other) b.rest := by
  rw [byte_eq_iff k, get_set, get_set_other, rest_set]
  simp only [projSh]
  constructor
  · intro ⟨h1, h2, h3⟩; exact ⟨h1, by rw [h2, h3]⟩
  · intro ⟨h1, h2⟩; obtain ⟨h3, h4⟩ := henc _ _ _ _ h2; exact ⟨h1, h3, h4⟩

theorem proj_local (P : Fld → Proto) (k : Fld) (x : Nat) (sh : Shared) (p : PC) :
    projSh enc k (localStep P k x sh p).1 =
        (CasBit.localStep (P k) x (projSh enc k sh) (projPC enc k p)).1 ∧
    projPC enc k (localStep P k x sh p).2 =
        (CasBit.localStep (P k) x (projSh enc k sh) (projPC enc k p)).2 := by
  cases p with
  | l1 =>
    dsimp only [localStep, projPC, CasBit.localStep]
    have : (projSh enc k sh).field = sh.byte.get k := rfl
    rw [this]
    split <;> exact ⟨rfl, rfl⟩
  | l2 old => exact ⟨rfl, rfl⟩
  | ret r => exact ⟨rfl, rfl⟩
  | l3 old b =>
    dsimp only [localStep, projPC, CasBit.localStep]
    -- the per-object CAS tests the same condition (`cas_cond_iff`)
    by_cases hc : sh.byte = b.set k old
    · rw [if_pos hc, if_pos ((cas_cond_iff enc henc k sh old b).mp hc)]
      refine ⟨CasBit.shared_ext ?_ ?_ ?_ ?_, rfl⟩
      · simp only [projSh, get_set]
      · simp only [projSh, get_set_other, rest_set]
        rw [hc, get_set_other, rest_set]
      · simp only [projSh, if_true]
      · simp only [projSh, if_neg (other_ne k)]
    · rw [if_neg hc, if_neg (mt (cas_cond_iff enc henc k sh old b).mpr hc)]
      exact ⟨rfl, apply_ite (projPC enc k) ..⟩

omit henc in
/-- A step of the neighbour's thread: its successful CAS is an environment step of field `k`'s model, anything
else is invisible. -/
theorem proj_step_other (P : Fld → Proto) (k j : Fld) (hj : j ≠ k) (x : Nat) (s : State) :
    proj enc k (step P s (.thread j x)) = CasBit.exec (P k) (proj enc k s) (projAct enc P k s (.thread j x)) := by
  have hkj : ¬ k = j := fun e => hj e.symm
  have hpc : ∀ y, (proj enc k (step P s (.thread j x))).pc y = (proj enc k s).pc y := fun y => by
    simp only [proj, step, hkj, false_and, if_false]
  have hsh : (proj enc k (step P s (.thread j x))).sh = projSh enc k (localStep P j x s.sh (s.pc j x)).1 := rfl
  simp only [projAct, if_neg hj]
  obtain rfl := eq_other_of_ne hj
  generalize s.pc k.other x = p at hsh ⊢
  cases p with
  | l1 => dsimp only [localStep] at hsh; split at hsh <;> exact CasBit.state_ext hsh hpc
  | l2 old => exact CasBit.state_ext hsh hpc
  | ret r => exact CasBit.state_ext hsh hpc
  | l3 old b =>
    dsimp only [localStep] at hsh ⊢
    by_cases hc : s.sh.byte = b.set k.other old
    · rw [if_pos hc] at hsh ⊢
      dsimp only [CasBit.exec, CasBit.step]
      refine CasBit.state_ext (hsh.trans (CasBit.shared_ext ?_ ?_ ?_ ?_)) hpc
      · simp only [proj, projSh, get_other_set]
        rw [hc, get_other_set]
      · simp only [projSh, get_set, rest_set]
        rw [hc, rest_set]
      · simp only [proj, projSh, if_neg (other_ne k).symm]
      · simp only [projSh, if_true, Option.isSome_some, Bool.or_true]
    · rw [if_neg hc] at hsh ⊢; exact CasBit.state_ext hsh hpc

theorem proj_step (P : Fld → Proto) (k : Fld) (s : State) (a : Act) :
    proj enc k (step P s a) = CasBit.exec (P k) (proj enc k s) (projAct enc P k s a) := by
  cases a with
  | env v =>
    dsimp only [projAct, CasBit.exec, CasBit.step, step]
    refine CasBit.state_ext (CasBit.shared_ext ?_ ?_ ?_ ?_) (fun x => rfl)
    · cases k <;> rfl
    · cases k <;> rfl
    · rfl
    · simp only [proj, projSh, Bool.true_or]
  | thread j x =>
    by_cases hj : j = k
    · subst hj
      simp only [projAct, if_true, CasBit.exec, CasBit.step, step]
      obtain ⟨h1, h2⟩ := proj_local enc henc P j x s.sh (s.pc j x)
      refine CasBit.state_ext h1 (fun y => ?_)
      simp only [proj, true_and, apply_ite (projPC enc j), h2]
    · exact proj_step_other enc P k j hj x s

/-- **projection**: every run of the byte model is, seen from field `k`, a run of the per-object
model. -/
theorem proj_exec (P : Fld → Proto) (k : Fld) (s : State) (run : List Act) :
    proj enc k (exec P s run) = CasBit.exec (P k) (proj enc k s) (projRun enc P k s run) := by
  induction run generalizing s with
  | nil => rfl
  | cons a rest ih =>
    simp only [exec, projRun]
    rw [CasBit.exec_append, ← proj_step enc henc]
    exact ih _

omit henc in
theorem proj_init (P : Fld → Proto) (k : Fld) (f0 g0 r0 : Nat) :
    proj enc k (init P f0 g0 r0) =
      CasBit.init (P k) ((Byte.mk f0 g0 r0).get k) (enc ((Byte.mk f0 g0 r0).get k.other) r0) :=
  CasBit.state_ext (CasBit.shared_ext rfl rfl rfl rfl) fun _ => apply_ite (projPC enc k) ..

theorem proj_reachable (P : Fld → Proto) (k : Fld) (f0 g0 r0 : Nat) (run : List Act) :
    CasBit.Reachable (P k) ((Byte.mk f0 g0 r0).get k) (enc ((Byte.mk f0 g0 r0).get k.other) r0)
      (proj enc k (exec P (init P f0 g0 r0) run)) :=
  ⟨projRun enc P k (init P f0 g0 r0) run, by rw [proj_exec enc henc, proj_init]⟩

/-- **neighbours are independent**: for every run of the byte model — threads of BOTH objects and
the environment interleaved arbitrarily — each object's view is a run of its own per-object model
from its own initial value. -/
theorem neighbours_independent (P : Fld → Proto) (f0 g0 r0 : Nat) (run : List Act) :
    CasBit.Reachable (P .F) f0 (enc g0 r0) (proj enc .F (exec P (init P f0 g0 r0) run)) ∧
    CasBit.Reachable (P .G) g0 (enc f0 r0) (proj enc .G (exec P (init P f0 g0 r0) run)) :=
  ⟨proj_reachable enc henc P .F f0 g0 r0 run, proj_reachable enc henc P .G f0 g0 r0 run⟩

end Projection

theorem neighbours_independent_pair (P : Fld → Proto) (f0 g0 r0 : Nat) (run : List Act) :
    CasBit.Reachable (P .F) f0 (pair g0 r0) (proj pair .F (exec P (init P f0 g0 r0) run)) ∧
    CasBit.Reachable (P .G) g0 (pair f0 r0) (proj pair .G (exec P (init P f0 g0 r0) run)) :=
  neighbours_independent pair pair_inj P f0 g0 r0 run

/-- A byte-level CAS of field `k` changes neither the neighbour's field nor the remaining bits. -/
theorem cas_leaves_neighbour (P : Fld → Proto) (k : Fld) (x : Nat) (s : State) :
    (step P s (.thread k x)).sh.byte.get k.other = s.sh.byte.get k.other ∧
    (step P s (.thread k x)).sh.byte.rest = s.sh.byte.rest ∧
    (step P s (.thread k x)).sh.win k.other = s.sh.win k.other ∧
    (step P s (.thread k x)).sh.envMoved = s.sh.envMoved := by
  dsimp only [step]
  cases s.pc k x with
  | l1 => dsimp only [localStep]; split <;> exact ⟨rfl, rfl, rfl, rfl⟩
  | l2 old => exact ⟨rfl, rfl, rfl, rfl⟩
  | ret r => exact ⟨rfl, rfl, rfl, rfl⟩
  | l3 old b =>
    dsimp only [localStep]
    by_cases hc : s.sh.byte = b.set k old
    · rw [if_pos hc]
      refine ⟨?_, ?_, ?_, rfl⟩
      · simp only [get_set_other]; rw [hc, get_set_other]
      · simp only [rest_set]; rw [hc, rest_set]
      · simp only [if_neg (other_ne k)]
    · rw [if_neg hc]; exact ⟨rfl, rfl, rfl, rfl⟩

section PerField
variable {P : Fld → Proto} {f0 g0 r0 : Nat} {run : List Act}

/-- `Byte.get` reads only `f0`/`g0`: the rest value `0` is arbitrary. -/
abbrev init0 (f0 g0 : Nat) (k : Fld) : Nat := (Byte.mk f0 g0 0).get k

theorem projPC_eq_ret {enc : Nat → Nat → Nat} {k : Fld} {p : PC} {b : Bool} :
    projPC enc k p = .ret b ↔ p = .ret b := by
  cases p <;> simp [projPC]

theorem proj_pc_ret {enc : Nat → Nat → Nat} {k : Fld} {s : State} {x : Nat} {b : Bool}
    (h : s.pc k x = .ret b) : (proj enc k s).pc x = .ret b :=
  projPC_eq_ret.mpr h

theorem reach_pair (P : Fld → Proto) (k : Fld) (f0 g0 r0 : Nat) (run : List Act) :
    CasBit.Reachable (P k) (init0 f0 g0 k) (pair (init0 f0 g0 k.other) r0)
      (proj pair k (exec P (init P f0 g0 r0) run)) := by
  have := proj_reachable pair pair_inj P k f0 g0 r0 run
  cases k <;> exact this

/-- The count `trues n (proj pair k s)` in the per-field verdicts below is the number of threads
`0..n-1` of field `k` that returned `true`. -/
theorem trues_proj (k : Fld) (n : Nat) (s : State) :
    CasBit.trues n (proj pair k s) =
      ((List.range n).filter (fun x => decide (s.pc k x = .ret true))).length := by
  unfold CasBit.trues
  congr 1
  apply List.filter_congr
  intro x _
  have : ((proj pair k s).pc x = .ret true) ↔ (s.pc k x = .ret true) := projPC_eq_ret
  simp only [this]

/-- **C18 per field** — C18 (1)–(4) for the threads of field `k`, in the state reached by ANY run of the
byte model (both objects' threads and the environment interleaved). -/
theorem one_winner_per_field (k : Fld) (hP : (P k).WF) :
    let s := exec P (init P f0 g0 r0) run
    (∀ x y, s.pc k x = .ret true → s.pc k y = .ret true → x = y) ∧
    ((P k).single = false → ∀ x, s.pc k x = .ret false →
        (P k).isDone (s.sh.byte.get k) = true ∧
        ((P k).isDone (init0 f0 g0 k) = false → ∃ w, s.sh.win k = some w ∧ w ≠ x)) ∧
    (∀ x, s.pc k x = .ret true →
        s.sh.byte.get k = (P k).next (init0 f0 g0 k) ∧ (P k).isDone (s.sh.byte.get k) = true ∧
        (P k).isDone (init0 f0 g0 k) = false) ∧
    (∀ w, s.sh.win k = some w → s.pc k w = .ret true) := by
  intro s
  have hr := reach_pair P k f0 g0 r0 run
  refine ⟨fun x y hx hy => CasBit.at_most_one_true hP hr x y (proj_pc_ret hx) (proj_pc_ret hy),
    fun hl x hx => CasBit.false_means_done hP hl hr x (proj_pc_ret hx),
    fun x hx => CasBit.true_means_transition hP hr x (proj_pc_ret hx),
    fun w hw => projPC_eq_ret.mp (CasBit.winner_returns_true hP hr w hw)⟩

/-- **C18 tie, per field**: the NEIGHBOUR's threads may be anywhere; the outcome of field `k` is accepted
by the per-object verdict `outcomeOk`, with "the environment interfered" = the remaining bits were
overwritten or the neighbour's field was changed by a CAS. -/
theorem outcome_sound_per_field (k : Fld) (hP : (P k).WF) (n : Nat) (hn : 0 < n)
    (hfin : ∀ x, x < n → ∃ b, (exec P (init P f0 g0 r0) run).pc k x = .ret b)
    (hidle : ∀ x, n ≤ x → (exec P (init P f0 g0 r0) run).pc k x = entry (P k)) :
    let s := exec P (init P f0 g0 r0) run
    CasBit.outcomeOk (P k) (init0 f0 g0 k) (s.sh.byte.get k) (CasBit.trues n (proj pair k s))
      (s.sh.envMoved || (s.sh.win k.other).isSome) = true := by
  intro s
  have hr := reach_pair P k f0 g0 r0 run
  refine CasBit.outcome_sound hP hr n hn ?_ ?_
  · exact fun x hx => (hfin x hx).imp fun _ => proj_pc_ret
  · intro x hx
    show projPC pair k (s.pc k x) = (P k).entry
    rw [hidle x hx]
    exact apply_ite (projPC pair k) ..

/-- looping variants (mark, log): the verdict does not depend on the interference flag at all — the
object's field ends transitioned with exactly one `true` (none if it was transitioned at the start),
whatever the neighbours did. -/
theorem outcome_sound_per_field_looping (k : Fld) (hP : (P k).WF) (hl : (P k).single = false)
    (n : Nat) (hn : 0 < n)
    (hfin : ∀ x, x < n → ∃ b, (exec P (init P f0 g0 r0) run).pc k x = .ret b)
    (hidle : ∀ x, n ≤ x → (exec P (init P f0 g0 r0) run).pc k x = entry (P k)) :
    let s := exec P (init P f0 g0 r0) run
    CasBit.outcomeOk (P k) (init0 f0 g0 k) (s.sh.byte.get k) (CasBit.trues n (proj pair k s))
      false = true := by
  intro s
  have h := outcome_sound_per_field (run := run) k hP n hn hfin hidle
  simp only [CasBit.outcomeOk, hl] at h ⊢
  exact h

end PerField

def markBoth : Fld → Proto := fun _ => CasBit.markProto 1
def pinLog : Fld → Proto
  | .F => CasBit.pinProto
  | .G => CasBit.logProto

example : ∀ k, (markBoth k).WF := fun _ => CasBit.markProto_wf 1 (by decide)
example : ∀ k, (pinLog k).WF := fun k => by
  cases k
  · exact CasBit.pinProto_wf
  · exact CasBit.logProto_wf

/-- **a neighbour makes the byte CAS fail spuriously; the looping caller retries and wins**:
the `F`-thread loads the byte; a `G`-thread completes its transition; the `F`-thread's CAS fails
although its own field is unchanged; it goes round the loop and wins.  Both fields end
transitioned, exactly one `ret true` per field. -/
theorem spurious_failure_then_retry :
    let s1 := exec markBoth (init markBoth 0 0 0)
      [.thread .F 0, .thread .F 0, .thread .G 0, .thread .G 0, .thread .G 0, .thread .F 0]
    let s := exec markBoth s1 [.thread .F 0, .thread .F 0, .thread .F 0]
    -- after the failed CAS: own field still 0, neighbour's is 1, thread (F,0) is back at the loop head
    s1.sh.byte = ⟨0, 1, 0⟩ ∧ s1.pc .F 0 = .l1 ∧ s1.pc .G 0 = .ret true ∧
    -- after the retry
    s.sh.byte = ⟨1, 1, 0⟩ ∧ s.pc .F 0 = .ret true ∧ s.pc .G 0 = .ret true ∧
    s.sh.win .F = some 0 ∧ s.sh.win .G = some 0 := by
  decide

/-- hypotheses of `outcome_sound_per_field` are satisfiable: two threads per object, mark bit. -/
example :
    let s := exec markBoth (init markBoth 0 0 5)
      [.thread .F 0, .thread .G 1, .thread .F 1, .thread .G 0, .thread .F 0, .thread .G 1, .thread .G 0,
       .thread .F 1, .thread .F 0, .thread .G 1, .thread .F 1, .thread .G 0,
       .thread .F 1, .thread .G 0, .thread .F 1, .thread .G 0, .thread .G 0, .thread .G 1]
    s.pc .F 0 = .ret true ∧ s.pc .F 1 = .ret false ∧ s.pc .G 0 = .ret true ∧ s.pc .G 1 = .ret false ∧
    s.pc .F 2 = entry (markBoth .F) ∧ s.sh.byte = ⟨1, 1, 5⟩ := by
  decide

/-- hypotheses of `outcome_sound_per_field` are satisfiable with different protocols per field (pin on
`F`, log on `G`); the pin finishes before anything else moves, so it is not disturbed. -/
example :
    let s := exec pinLog (init pinLog 0 1 0)
      [.thread .F 0, .thread .F 0, .thread .G 0, .thread .G 0, .thread .G 0, .env 3, .thread .G 0,
       .thread .G 0, .thread .G 0, .thread .G 0]
    s.pc .F 0 = .ret true ∧ s.pc .G 0 = .ret true ∧ s.sh.byte = ⟨1, 0, 3⟩ ∧ s.sh.envMoved = true := by
  decide

/-- single-shot pin next to a racing neighbour: the neighbour's transition between the pin's load
and its CAS makes `pin_object` return `false` with nobody having pinned — accepted by the per-object
verdict only because the projection reports the neighbour's CAS as interference. -/
theorem pin_fails_spuriously_next_to_racing_neighbour :
    let s := exec pinLog (init pinLog 0 1 0)
      [.thread .F 0, .thread .G 0, .thread .G 0, .thread .G 0, .thread .F 0]
    s.pc .F 0 = .ret false ∧ s.pc .G 0 = .ret true ∧ s.sh.byte = ⟨0, 0, 0⟩ ∧
    (s.sh.envMoved || (s.sh.win Fld.F.other).isSome) = true ∧
    CasBit.outcomeOk (pinLog .F) 0 0 0 true = true ∧ CasBit.outcomeOk (pinLog .F) 0 0 0 false = false := by
  decide

/-- `localStep` whose CAS compares only the OWN field (`sh.byte.get k = old`) but still writes the
byte built from the STALE load — a field-wide compare with a byte-wide store.  Not the code. -/
def staleStep (P : Fld → Proto) (k : Fld) (x : Nat) (sh : Shared) (p : PC) : Shared × PC :=
  match p with
  | .l3 old b =>
    if sh.byte.get k = old
    then ({ sh with byte := b.set k ((P k).next old),
                    win := fun j => if j = k then some x else sh.win j }, .ret true)
    else (sh, if (P k).single then .ret false else .l1)
  | p => localStep P k x sh p

def staleExec (P : Fld → Proto) (s : State) : List (Fld × Nat) → State
  | [] => s
  | (k, x) :: rest =>
    let r := staleStep P k x s.sh (s.pc k x)
    staleExec P { sh := r.1, pc := fun j y => if j = k ∧ y = x then r.2 else s.pc j y } rest

/-- With the mutant, one thread per object: both load the byte `⟨0,0,0⟩`, `G` marks (`⟨0,1,0⟩`),
then `F`'s CAS "succeeds" and stores `⟨1,0,0⟩` — both threads returned `true` but object `G`'s mark
is gone.  (In the byte model the same schedule makes `F`'s CAS fail and retry — see
`spurious_failure_then_retry`.) -/
theorem stale_write_undoes_neighbour :
    let s := staleExec markBoth (init markBoth 0 0 0)
      [(.F, 0), (.F, 0), (.G, 0), (.G, 0), (.G, 0), (.F, 0)]
    s.pc .F 0 = .ret true ∧ s.pc .G 0 = .ret true ∧ s.sh.byte = ⟨1, 0, 0⟩ ∧ s.sh.byte.get .G = 0 := by
  decide

end Mmtk.CasByte
