import MmtkModel.Model.FreeList
/-!
# C27 — A raw-memory free list can grow to its configured maximum

Target: for every unit count, head count, block size and limit accepted by
`RawMemoryFreeList::new`, every sequence of `grow_freelist` requests whose total stays within the
configured maximum succeeds, `high_water ≤ limit` throughout, and `current_units ≤
current_capacity` (so every unit up to the grown size has its two entries inside the mapped table).
`grow_freelist` here is its address-space part (`RM.growFreelistGeom`: block count,
`raise_high_water`, the assertions on the new size), folded over the requests by `growAll`.

Two versions of mmtk-core are modelled.  The `…Old` functions ("the code as written" below) are mmtk-core
before its `fix:` commit b3df40b; /repo holds the code from that commit on.  The target is false for it (`grow_to_max_false`, by `decide`): in
`raise_high_water` the clamp is `grow_extent = self.high_water - self.limit` — operands swapped —
so whenever the last block would cross `limit` (i.e. `size_in_pages(units, heads)` is not a
multiple of `pages_per_block`) the subtraction underflows: an assertion failure in debug builds, a
wrapped ~2^64-byte `mmap` request in release builds.  What is true of it is `grow_to_max_partial`
(whole blocks fit below the limit).  The section "after the fix" models mmtk-core from that commit on
(`limit - high_water`, and a capacity computed from the mapped bytes instead of whole blocks); the
differential of `checks/C27.py` runs against that model, and `grow_to_max_fixed` proves the target
for it in the release build (`debug = false`; the debug build asserts in addition that the list
grows in grains, which the hypotheses do not provide).
-/
namespace Mmtk.FreeList

/-- Fold `grow_freelist` (address-space part) over a list of requests; every call must return
`true`. `none`-like error = a call panicked; `.ok none` = a call returned `false`. -/
def growAll (debug : Bool) (step : Bool → RM → Int → M (RM × Bool)) : RM → List Int → M (Option RM)
  | l, [] => pure (some l)
  | l, n :: ns => do
    let (l', ok) ← step debug l n
    if ok then growAll debug step l' ns else pure none

def panicOf {α : Type} (r : M α) : Option Err :=
  match r with
  | .error e => some e
  | .ok _ => none

/-- `(high_water - base, current_units)` after a successful run in which every call returned `true`. -/
def reached (r : M (Option RM)) : Option (Nat × Int) :=
  match r with
  | .ok (some l) => some (l.highWater - l.base, l.currentUnits)
  | _ => none

/-- What `RawMemoryFreeList::new` accepts: its two `debug_assert!`s (`units_hi` with `heads_hi`, and
`limit`), the signs the callers provide (`ppb`, `heads_lo`, `units_lo`: `new` takes `i32`s, and `sizeInPages`
would clamp a negative count to 0 by `toNat`), a fresh list (`fresh_hw`, `fresh_units`),
and the address window below `2^46 = 70368744177664` — half of the `2^47` that `mmapOk` tests, so
that no address arithmetic wraps at 64 bits and every extent below the limit can be mapped. -/
structure Accepted (l : RM) : Prop where
  ppb : 1 ≤ l.pagesPerBlock
  heads_lo : 0 ≤ l.tab.heads
  heads_hi : l.tab.heads ≤ MAX_HEADS
  units_lo : 0 ≤ l.maxUnits
  units_hi : l.maxUnits ≤ MAX_UNITS
  limit : l.base + 4096 * (sizeInPages l.maxUnits l.tab.heads).toNat ≤ l.limit
  window : l.limit < 70368744177664
  fresh_hw : l.highWater = l.base
  fresh_units : l.currentUnits = 0

/-! ## mmtk-core before b3df40b: the full theorem is false -/

/-- The probe of DESIGN §7-F7 as a model state: 8700 units, 1 head, 16-page blocks, limit = 17 pages
(exactly what `Map64::create_parent_freelist` computes: `default_block_size = min(17, 16)`). -/
def f7 : RM := RM.new 1099511627776 (1099511627776 + 17 * 4096) 16 8700 8700 1

theorem f7_accepted : Accepted f7 := by
  constructor <;> decide

/-- The requests `[4000, 4700]` total exactly the configured maximum, yet the second
call panics — in the debug build (`Address - Address` asserts) and in the release build (the
wrapped extent makes `mmap` fail) alike.  Hence the target does not hold of the transcribed
`raise_high_water`. -/
theorem grow_to_max_false :
    Accepted f7 ∧ ([4000, 4700] : List Int).sum ≤ f7.maxUnits ∧
    panicOf (growAll true RM.growFreelistGeomOld f7 [4000, 4700]) = some .other ∧
    panicOf (growAll false RM.growFreelistGeomOld f7 [4000, 4700]) = some .other ∧
    reached (growAll true RM.growFreelistGeomOld f7 [4000]) = some (16 * 4096, 4000) := by
  refine ⟨f7_accepted, by decide, by decide, by decide, by decide⟩

/-- Growing straight to the maximum fails the same way (one call). -/
theorem grow_to_max_false_single :
    panicOf (growAll true RM.growFreelistGeomOld f7 [8700]) = some .other ∧
    panicOf (growAll false RM.growFreelistGeomOld f7 [8700]) = some .other := by decide

/-! Both versions of `grow_freelist` are handled alike: one call from a state satisfying an invariant
returns `true`, restores the invariant and reaches the requested size (`growO_step`,
`growFixed_step`); `growAll_ok` carries this along a list of requests. -/

theorem sum_nonneg : ∀ ns : List Int, (∀ n ∈ ns, 0 ≤ n) → 0 ≤ ns.sum
  | [], _ => Int.le_refl 0
  | n :: ns, h => by
    have := sum_nonneg ns fun m hm => h m (List.mem_cons_of_mem _ hm)
    have := h n List.mem_cons_self
    rw [List.sum_cons]; omega

theorem growAll_ok (d : Bool) (step : Bool → RM → Int → M (RM × Bool)) (I Q : RM → Prop)
    (m : Int)
    (hstep : ∀ l n, I l → 0 ≤ n → n + l.currentUnits ≤ m →
      ∃ l', step d l n = .ok (l', true) ∧ I l' ∧ l'.currentUnits = n + l.currentUnits ∧ Q l') :
    ∀ (reqs : List Int) (l : RM), I l → (∀ n ∈ reqs, 0 ≤ n) → l.currentUnits + reqs.sum ≤ m →
      ∃ l', growAll d step l reqs = .ok (some l') ∧ I l' ∧
        l'.currentUnits = l.currentUnits + reqs.sum ∧ (reqs ≠ [] → Q l')
  | [], l, hi, _, _ => ⟨l, rfl, hi, (Int.add_zero _).symm, fun h => absurd rfl h⟩
  | n :: ns, l, hi, hpos, hsum => by
    have hns : ∀ m ∈ ns, 0 ≤ m := fun m hm => hpos m (List.mem_cons_of_mem _ hm)
    have := sum_nonneg ns hns
    rw [List.sum_cons] at hsum ⊢
    obtain ⟨l1, h1, hi1, hc1, hq1⟩ := hstep l n hi (hpos n List.mem_cons_self) (by omega)
    obtain ⟨l2, h2, hi2, hc2, hq2⟩ := growAll_ok d step I Q m hstep ns l1 hi1 hns (by omega)
    refine ⟨l2, ?_, hi2, by omega, fun _ => ?_⟩
    · rw [growAll, h1]; exact h2
    · cases ns with
      | nil => cases h2; exact hq1
      | cons => exact hq2 (List.cons_ne_nil _ _)

/-- The ceiling division of `grow_freelist`: the fewest blocks of `u` units covering a shortfall
of `a > 0` units. -/
theorem ceilDiv_spec (a u : Int) (hu : 0 < u) (ha : 0 < a) :
    0 < Int.tdiv (a + u - 1) u ∧ a ≤ u * Int.tdiv (a + u - 1) u ∧
      u * Int.tdiv (a + u - 1) u < a + u := by
  rw [Int.tdiv_eq_ediv_of_nonneg (by omega)]
  have h1 := @Int.lt_mul_ediv_self_add (a + u - 1) u hu
  have h2 := @Int.mul_ediv_self_le (a + u - 1) u (by omega)
  exact ⟨Int.pos_of_mul_pos_right (a := u) (by omega) hu, by omega, by omega⟩

theorem le_sizeInPages (m h : Int) : 8 * (m + h + 1) ≤ 4096 * sizeInPages m h := by
  unfold sizeInPages bytesToPagesUp
  omega

theorem map_ok (hw g limit : Nat) (h : hw + g ≤ limit) (hwin : limit < 70368744177664) :
    mmapOk hw g = true ∧ (hw + g) % W64 = hw + g :=
  have : hw + g < 70368744177664 := Nat.lt_of_le_of_lt h hwin
  ⟨decide_eq_true (Nat.lt_trans (Nat.lt_of_le_of_lt (Nat.le_add_left g hw) this) (by decide)),
    Nat.mod_eq_of_lt (Nat.lt_trans this (by decide))⟩

theorem raiseFixed_ok (d : Bool) (l : RM) (b : Int) (hne : l.highWater ≠ l.limit)
    (hhi : l.highWater ≤ l.limit) (hw : l.limit < 70368744177664) :
    l.raiseHighWater d b =
      .ok { l with highWater := min (l.highWater + (l.pagesPerBlock * b).toNat * 4096) l.limit } := by
  unfold RM.raiseHighWater
  generalize (l.pagesPerBlock * b).toNat * 4096 = e
  have hg : l.highWater + (if l.highWater + e > l.limit then l.limit - l.highWater else e)
      = min (l.highWater + e) l.limit := by
    split
    · rw [Nat.add_sub_cancel' hhi, Nat.min_eq_right (Nat.le_of_lt ‹_›)]
    · rw [Nat.min_eq_left (Nat.le_of_not_gt ‹_›)]
  have ⟨hm, hmod⟩ := map_ok l.highWater _ l.limit (hg ▸ Nat.min_le_right _ _) hw
  rw [hg] at hmod
  simp only [beq_iff_eq, hne, if_false, hm, hg, hmod, Bool.not_true, Bool.false_eq_true]
  rfl

/-- The defect is confined to the clamp: an extent that fits below the limit is raised by the
code as written exactly as by the repaired code. -/
theorem raiseOld_eq (d : Bool) (l : RM) (b : Int)
    (h : l.highWater + (l.pagesPerBlock * b).toNat * 4096 ≤ l.limit) :
    l.raiseHighWaterOld d b = l.raiseHighWater d b := by
  unfold RM.raiseHighWaterOld RM.raiseHighWater
  simp only [if_neg (Nat.not_lt.mpr h), pure_bind]

/-! ## mmtk-core before b3df40b: what does hold (`…_partial`)

Full target, false as shown above:
`∀ l0, Accepted l0 → ∀ reqs, (∀ n ∈ reqs, 0 ≤ n) → reqs.sum ≤ l0.maxUnits →
   ∃ l', growAll false RM.growFreelistGeomOld l0 reqs = .ok (some l') ∧ l'.highWater ≤ l0.limit ∧
         l'.currentUnits = reqs.sum ∧ l'.currentUnits ≤ l'.currentCapacityOld`.
It holds under the extra hypothesis that whole blocks covering the table fit below the limit
(`WholeBlocksFit`), e.g. when `limit = base + size_in_pages` pages and
`pages_per_block ∣ size_in_pages`. -/

/-- `K` whole blocks cover `size_in_pages` and end at or below the limit. -/
structure WholeBlocksFit (l0 : RM) (K : Nat) : Prop where
  cover : sizeInPages l0.maxUnits l0.tab.heads ≤ l0.pagesPerBlock * K
  fit : l0.base + 4096 * (l0.pagesPerBlock.toNat * K) ≤ l0.limit

theorem wholeBlocksFit_of_dvd (l0 : RM) (ha : Accepted l0) (K : Nat)
    (hd : sizeInPages l0.maxUnits l0.tab.heads = l0.pagesPerBlock * K) : WholeBlocksFit l0 K := by
  have h := ha.limit
  rw [hd, Int.toNat_mul (Int.le_of_lt ha.ppb) (Int.natCast_nonneg K), Int.toNat_natCast] at h
  exact ⟨Int.le_of_eq hd, h⟩

/-- what a run of `grow_freelist` calls of mmtk-core before b3df40b (`O`: old) keeps when whole blocks fit -/
structure GrowInvO (l0 l : RM) (K : Nat) : Prop where
  same : l.base = l0.base ∧ l.limit = l0.limit ∧ l.maxUnits = l0.maxUnits ∧
         l.pagesPerBlock = l0.pagesPerBlock ∧ l.tab.heads = l0.tab.heads ∧ l.grain = l0.grain
  blocks : ∃ k : Nat, k ≤ K ∧ l.highWater = l.base + 4096 * (l.pagesPerBlock.toNat * k)
  cur_lo : 0 ≤ l.currentUnits
  cur_hi : l.currentUnits ≤ l.maxUnits

theorem raiseOld_whole (d : Bool) (l : RM) (k b h' : Nat) (hp : 1 ≤ l.pagesPerBlock) (hb : 0 < b)
    (hw : l.highWater = l.base + 4096 * (l.pagesPerBlock.toNat * k))
    (hh' : h' = l.base + 4096 * (l.pagesPerBlock.toNat * (k + b))) (hfit : h' ≤ l.limit)
    (hwin : l.limit < 70368744177664) :
    l.raiseHighWaterOld d b = .ok { l with highWater := h' } := by
  have hp0 : 0 < l.pagesPerBlock := hp
  have he : (l.pagesPerBlock * b).toNat = l.pagesPerBlock.toNat * b := by
    rw [Int.toNat_mul (Int.le_of_lt hp0) (Int.natCast_nonneg b), Int.toNat_natCast]
  have hlt : l.highWater < l.highWater + (l.pagesPerBlock * b).toNat * 4096 :=
    Nat.lt_add_of_pos_right
      (Nat.mul_pos (he ▸ Nat.mul_pos (Int.pos_iff_toNat_pos.mp hp0) hb) (by decide))
  have hnew : l.highWater + (l.pagesPerBlock * b).toNat * 4096 = h' := by
    rw [he, hw, hh', Nat.mul_add, Nat.mul_add, Nat.add_assoc, Nat.mul_comm _ 4096]
  rw [← hnew] at hfit ⊢
  rw [raiseOld_eq d l b hfit, raiseFixed_ok d l b (Nat.ne_of_lt (Nat.lt_of_lt_of_le hlt hfit))
    (Nat.le_trans (Nat.le_of_lt hlt) hfit) hwin, Nat.min_eq_left hfit]

theorem growFreelistGeomOld_ok (l l1 : RM) (n r : Int) (hr : n + l.currentUnits = r)
    (hraise : (if l.blocksForOld r > 0 then l.raiseHighWaterOld false (l.blocksForOld r) else pure l)
      = pure l1)
    (hcap : r ≤ l1.currentCapacityOld) (hmax1 : r ≤ l1.maxUnits) (hmax : r ≤ l.maxUnits) :
    l.growFreelistGeomOld false n = .ok ({ l1 with currentUnits := r }, true) := by
  subst hr
  unfold RM.growFreelistGeomOld RM.growGeomOld
  simp only [if_neg (Int.not_lt.mpr hmax), Bool.false_and, Bool.false_eq_true, if_false, hraise,
    pure_bind, hcap, hmax1, decide_true, Bool.not_true]
  rfl

theorem blocksForOld_spec {l : RM} {r : Int} (hp : 1 ≤ l.pagesPerBlock)
    (h : l.currentCapacityOld < r) :
    0 < l.blocksForOld r ∧ r - l.currentCapacityOld ≤ l.unitsPerBlock * l.blocksForOld r ∧
      l.unitsPerBlock * l.blocksForOld r < r - l.currentCapacityOld + l.unitsPerBlock := by
  rw [RM.blocksForOld, if_pos h]
  exact ceilDiv_spec _ _ (Int.mul_pos hp (by decide)) (Int.sub_pos.mpr h)

theorem cap_whole (l : RM) (k : Nat) (hp : 1 ≤ l.pagesPerBlock)
    (hw : l.highWater = l.base + 4096 * (l.pagesPerBlock.toNat * k)) :
    l.currentCapacityOld = l.unitsPerBlock * k - l.tab.heads - 1 := by
  have hp0 : 0 < l.pagesPerBlock := hp
  unfold RM.currentCapacityOld RM.unitsInFirstBlock bytesToPagesUp
  rw [hw, Nat.add_sub_cancel_left, Nat.mul_add_div (by decide), Nat.add_zero, Int.natCast_mul,
    Int.toNat_of_nonneg (Int.le_of_lt hp0), Int.mul_tdiv_cancel_left _ (Int.ne_of_gt hp0)]
  show l.unitsPerBlock - l.tab.heads - 1 + ((k : Int) - 1) * l.unitsPerBlock = _
  rw [Int.sub_mul, Int.one_mul, Int.mul_comm (k : Int)]
  omega

/-- Block counting on whole blocks, `u` units each: with `k` blocks mapped (capacity
`u * k - h - 1`) and `K` blocks holding the maximum `m`, the fewest further blocks `b` that cover
a request `r ≤ m` stay within `K`, and `k + b` blocks hold `r`. -/
theorem blocks_whole (u h r m : Int) (k b K : Nat) (hu : 0 < u)
    (hge : r - (u * k - h - 1) ≤ u * b) (hlt : u * b < r - (u * k - h - 1) + u)
    (hm : r ≤ m) (hK : m + h + 1 ≤ u * K) : k + b ≤ K ∧ r ≤ u * (k + b : Nat) - h - 1 := by
  have : u * (k + b : Nat) < u * (K + 1 : Nat) := by
    rw [Int.natCast_add, Int.mul_add, Int.natCast_add, Int.mul_add, Int.natCast_one, Int.mul_one]
    omega
  have := Int.lt_of_mul_lt_mul_left this (Int.le_of_lt hu)
  rw [Int.natCast_add, Int.mul_add]
  omega

theorem WholeBlocksFit.units {l0 : RM} {K : Nat} (hf : WholeBlocksFit l0 K) :
    l0.maxUnits + l0.tab.heads + 1 ≤ l0.unitsPerBlock * K := by
  have := hf.cover
  have := le_sizeInPages l0.maxUnits l0.tab.heads
  rw [RM.unitsPerBlock, Int.mul_right_comm, Int.mul_comm]
  omega

theorem GrowInvO.le_limit {l0 l : RM} {K : Nat} (hi : GrowInvO l0 l K) (hf : WholeBlocksFit l0 K) :
    l.highWater ≤ l0.limit := by
  obtain ⟨⟨hb, -, -, hp, -⟩, ⟨k, hk, hw⟩, -⟩ := hi
  rw [hw, hb, hp]
  exact Nat.le_trans (Nat.add_le_add_left (Nat.mul_le_mul_left _ (Nat.mul_le_mul_left _ hk)) _) hf.fit

theorem growO_step (l0 l : RM) (K : Nat) (n : Int) (ha : Accepted l0) (hf : WholeBlocksFit l0 K)
    (hi : GrowInvO l0 l K) (hn : 0 ≤ n) (htot : n + l.currentUnits ≤ l.maxUnits) :
    ∃ l', l.growFreelistGeomOld false n = .ok (l', true) ∧ GrowInvO l0 l' K ∧
      l'.currentUnits = n + l.currentUnits ∧ l'.currentUnits ≤ l'.currentCapacityOld ∧
      l'.highWater ≤ l0.limit := by
  have ⟨hs, ⟨k, hkK, hw⟩, hc0, _⟩ := hi
  have ⟨hb, hl, hm, hp, hh, _⟩ := hs
  have hc0' := Int.add_nonneg hn hc0
  generalize hr : n + l.currentUnits = r at htot hc0' ⊢
  by_cases hcap : r ≤ l.currentCapacityOld
  · have hi' : GrowInvO l0 { l with currentUnits := r } K :=
      ⟨hs, ⟨k, hkK, hw⟩, hc0', htot⟩
    have hb0 : l.blocksForOld r = 0 := if_neg (Int.not_lt.mpr hcap)
    exact ⟨_, growFreelistGeomOld_ok l l n r hr (by rw [hb0]; rfl) hcap htot htot, hi', rfl, hcap,
      hi'.le_limit hf⟩
  · have hcap' := Int.not_le.mp hcap
    have hppb : 1 ≤ l.pagesPerBlock := hp ▸ ha.ppb
    obtain ⟨hb0, hge, hlt⟩ := blocksForOld_spec hppb hcap'
    obtain ⟨bn, hbn⟩ := Int.eq_ofNat_of_zero_le (Int.le_of_lt hb0)
    have hUK : l.maxUnits + l.tab.heads + 1 ≤ l.unitsPerBlock * K := by
      rw [RM.unitsPerBlock, hp, hm, hh]; exact hf.units
    rw [hbn] at hb0 hge hlt
    rw [cap_whole l k hppb hw] at hge hlt
    obtain ⟨hkb, hcapNew⟩ :=
      blocks_whole _ _ _ _ k bn K (Int.mul_pos hppb (by decide)) hge hlt htot hUK
    generalize hh' : l.base + 4096 * (l.pagesPerBlock.toNat * (k + bn)) = h'
    have hi1 : GrowInvO l0 { l with highWater := h', currentUnits := r } K :=
      ⟨hs, ⟨k + bn, hkb, hh'.symm⟩, hc0', htot⟩
    have hraise := raiseOld_whole false l k bn h' hppb (Int.natCast_pos.mp hb0) hw hh'.symm
      (hl ▸ hi1.le_limit hf) (hl ▸ ha.window)
    have hcapNew := Int.le_trans hcapNew
      (Int.le_of_eq (cap_whole { l with highWater := h' } (k + bn) hppb hh'.symm).symm)
    exact ⟨_, growFreelistGeomOld_ok l _ n r hr (by rw [hbn, if_pos hb0]; exact hraise) hcapNew
      htot htot, hi1, rfl, hcapNew, hi1.le_limit hf⟩

/-- (mmtk-core before b3df40b.) When whole blocks covering the table fit below
the limit — in particular when `pages_per_block ∣ size_in_pages` (`wholeBlocksFit_of_dvd`) — every
sequence of non-negative requests within the configured maximum succeeds, `high_water ≤ limit`
and the size reached is within `current_capacity`. -/
theorem grow_to_max_partial (l0 : RM) (K : Nat) (ha : Accepted l0) (hf : WholeBlocksFit l0 K) :
    ∀ (reqs : List Int) (l : RM), GrowInvO l0 l K →
    (∀ n ∈ reqs, 0 ≤ n) → l.currentUnits + reqs.sum ≤ l0.maxUnits →
    ∃ l', growAll false RM.growFreelistGeomOld l reqs = .ok (some l') ∧ GrowInvO l0 l' K ∧
      l'.currentUnits = l.currentUnits + reqs.sum ∧
      (reqs ≠ [] → l'.currentUnits ≤ l'.currentCapacityOld ∧ l'.highWater ≤ l0.limit) :=
  growAll_ok false RM.growFreelistGeomOld (GrowInvO l0 · K)
    (fun l' => l'.currentUnits ≤ l'.currentCapacityOld ∧ l'.highWater ≤ l0.limit) l0.maxUnits
    fun l n hi hn htot => growO_step l0 l K n ha hf hi hn (hi.same.2.2.1 ▸ htot)

/-- A fresh accepted list satisfies the whole-blocks invariant (zero blocks mapped). -/
theorem growInvO_fresh (l0 : RM) (K : Nat) (ha : Accepted l0) : GrowInvO l0 l0 K :=
  ⟨⟨rfl, rfl, rfl, rfl, rfl, rfl⟩, ⟨0, Nat.zero_le K, ha.fresh_hw⟩,
    Int.le_of_eq ha.fresh_units.symm, ha.fresh_units ▸ ha.units_lo⟩

/-- The hypotheses are satisfiable: 8190 units, 1 head → exactly 16 pages = one 16-page block. -/
example : Accepted (RM.new 1099511627776 (1099511627776 + 16 * 4096) 16 8190 8190 1) ∧
    WholeBlocksFit (RM.new 1099511627776 (1099511627776 + 16 * 4096) 16 8190 8190 1) 1 := by
  refine ⟨by constructor <;> decide, by constructor <;> decide⟩

/-! ## after the fix

What the `fix:` commit changes in `raw_memory_freelist.rs`:

```text
 fn current_capacity(&self) -> i32 {
-    let list_blocks = conversions::bytes_to_pages_up(self.high_water - self.base) as i32
-        / self.pages_per_block;
-    self.units_in_first_block() + (list_blocks - 1) * self.units_per_block()
+    ((self.high_water - self.base) >> LOG_BYTES_IN_UNIT) as i32 - self.heads - 1
 }
 ...
         if self.high_water + grow_extent > self.limit {
-            grow_extent = self.high_water - self.limit;
+            grow_extent = self.limit - self.high_water;
         }
```
(For whole blocks the two capacity formulas agree.) -/

/-- what a run of repaired `grow_freelist` calls keeps -/
structure GrowInv (l0 l : RM) : Prop where
  same : l.base = l0.base ∧ l.limit = l0.limit ∧ l.maxUnits = l0.maxUnits ∧
         l.pagesPerBlock = l0.pagesPerBlock ∧ l.tab.heads = l0.tab.heads ∧ l.grain = l0.grain
  lo : l.base ≤ l.highWater
  hi : l.highWater ≤ l.limit
  cur_lo : 0 ≤ l.currentUnits
  cur_hi : l.currentUnits ≤ l.maxUnits

theorem growFreelistGeom_ok (l l1 : RM) (n r : Int) (hr : n + l.currentUnits = r)
    (hraise : (if l.blocksFor r > 0 then l.raiseHighWater false (l.blocksFor r) else pure l)
      = pure l1)
    (hcap : r ≤ l1.currentCapacity) (hmax1 : r ≤ l1.maxUnits) (hmax : r ≤ l.maxUnits) :
    l.growFreelistGeom false n = .ok ({ l1 with currentUnits := r }, true) := by
  subst hr
  unfold RM.growFreelistGeom RM.growGeom
  simp only [if_neg (Int.not_lt.mpr hmax), Bool.false_and, Bool.false_eq_true, if_false, hraise,
    pure_bind, hcap, hmax1, decide_true, Bool.not_true]
  rfl

theorem blocksFor_spec {l : RM} {r : Int} (hp : 1 ≤ l.pagesPerBlock) (h : l.currentCapacity < r) :
    0 < l.blocksFor r ∧ r - l.currentCapacity ≤ l.unitsPerBlock * l.blocksFor r ∧
      l.unitsPerBlock * l.blocksFor r < r - l.currentCapacity + l.unitsPerBlock := by
  rw [RM.blocksFor, if_pos h]
  exact ceilDiv_spec _ _ (Int.mul_pos hp (by decide)) (Int.sub_pos.mpr h)

theorem cap_add (l : RM) (b : Int) (hlo : l.base ≤ l.highWater) (hq : 0 ≤ l.pagesPerBlock * b) :
    RM.currentCapacity { l with highWater := l.highWater + (l.pagesPerBlock * b).toNat * 4096 }
      = l.currentCapacity + l.unitsPerBlock * b := by
  unfold RM.currentCapacity RM.unitsPerBlock
  show (((l.highWater + (l.pagesPerBlock * b).toNat * (512 * 8) - l.base) / 8 : Nat) : Int)
    - l.tab.heads - 1 = _
  rw [Nat.sub_add_comm hlo, ← Nat.mul_assoc, Nat.add_mul_div_right _ _ (by decide), Int.natCast_add,
    Int.natCast_mul, Int.toNat_of_nonneg hq, Int.mul_right_comm l.pagesPerBlock 512 b]
  omega

theorem cap_at_limit {l0 l : RM} (ha : Accepted l0) (hb : l.base = l0.base) (hl : l.limit = l0.limit)
    (hh : l.tab.heads = l0.tab.heads) (heq : l.highWater = l.limit) :
    l0.maxUnits ≤ l.currentCapacity := by
  rw [RM.currentCapacity, heq, hl, hb, hh]
  have := ha.limit
  have := le_sizeInPages l0.maxUnits l0.tab.heads
  omega

/-- One repaired `grow_freelist` call from any state satisfying the invariant: it returns `true`
without panicking, re-establishes the invariant, and the new size is within the new capacity
(release semantics; a debug build additionally asserts that growth happens in grains). -/
theorem growFixed_step (l0 l : RM) (n : Int) (ha : Accepted l0) (hi : GrowInv l0 l)
    (hn : 0 ≤ n) (htot : n + l.currentUnits ≤ l.maxUnits) :
    ∃ l', l.growFreelistGeom false n = .ok (l', true) ∧ GrowInv l0 l' ∧
      l'.currentUnits = n + l.currentUnits ∧ l'.currentUnits ≤ l'.currentCapacity := by
  have ⟨hs, hlo, hhi, hc0, _⟩ := hi
  have ⟨hb, hl, hm, hp, hh, _⟩ := hs
  have hc0' := Int.add_nonneg hn hc0
  generalize hr : n + l.currentUnits = r at htot hc0' ⊢
  have htot0 : r ≤ l0.maxUnits := hm ▸ htot
  by_cases hcap : r ≤ l.currentCapacity
  · have hb0 : l.blocksFor r = 0 := if_neg (Int.not_lt.mpr hcap)
    exact ⟨_, growFreelistGeom_ok l l n r hr (by rw [hb0]; rfl) hcap htot htot,
      ⟨hs, hlo, hhi, hc0', htot⟩, rfl, hcap⟩
  · have hcap' := Int.not_le.mp hcap
    have hppb : 1 ≤ l.pagesPerBlock := hp ▸ ha.ppb
    obtain ⟨hb0, hge, -⟩ := blocksFor_spec hppb hcap'
    have hne : l.highWater ≠ l.limit := fun heq =>
      hcap (Int.le_trans htot0 (cap_at_limit ha hb hl hh heq))
    generalize hbl : l.blocksFor r = b at hb0 hge
    have hcapNew : r ≤ RM.currentCapacity
        { l with highWater := min (l.highWater + (l.pagesPerBlock * b).toNat * 4096) l.limit } := by
      rcases Nat.le_total (l.highWater + (l.pagesPerBlock * b).toNat * 4096) l.limit with h | h
      · rw [Nat.min_eq_left h,
          cap_add l b hlo (Int.mul_nonneg (Int.le_of_lt hppb) (Int.le_of_lt hb0))]
        exact Int.le_add_of_sub_left_le hge
      · rw [Nat.min_eq_right h]
        exact Int.le_trans htot0 (cap_at_limit ha hb hl hh rfl)
    exact ⟨_, growFreelistGeom_ok l _ n r hr
        (by rw [hbl, if_pos hb0]; exact raiseFixed_ok false l b hne hhi (hl ▸ ha.window))
        hcapNew htot htot,
      ⟨hs, Nat.le_min.mpr ⟨Nat.le_trans hlo (Nat.le_add_right _ _), Nat.le_trans hlo hhi⟩,
        Nat.min_le_right _ _, hc0', htot⟩, rfl, hcapNew⟩

/-- (After the fix, release build.) For every list accepted by
`RawMemoryFreeList::new` (any unit count, head count, block size; any limit at or above
`base + size_in_pages` pages) and every sequence of non-negative `grow_freelist` requests whose
total is within the configured maximum: no call panics, every call returns `true`, `high_water` stays within `[base, limit]`, the list
reaches exactly the requested size, and that size is within the capacity of the mapped table (so
every unit below it has both its entries mapped).  Every prefix of the request list satisfies the
same hypotheses, so this holds after each call ("throughout"). -/
theorem grow_to_max_fixed (l0 : RM) (ha : Accepted l0) : ∀ (reqs : List Int) (l : RM), GrowInv l0 l →
    (∀ n ∈ reqs, 0 ≤ n) → l.currentUnits + reqs.sum ≤ l0.maxUnits →
    ∃ l', growAll false RM.growFreelistGeom l reqs = .ok (some l') ∧ GrowInv l0 l' ∧
      l'.currentUnits = l.currentUnits + reqs.sum ∧
      (reqs ≠ [] → l'.currentUnits ≤ l'.currentCapacity) :=
  growAll_ok false RM.growFreelistGeom (GrowInv l0) (fun l' => l'.currentUnits ≤ l'.currentCapacity)
    l0.maxUnits fun l n hi hn htot => growFixed_step l0 l n ha hi hn (hi.same.2.2.1 ▸ htot)

theorem growInv_fresh (l0 : RM) (ha : Accepted l0) : GrowInv l0 l0 :=
  ⟨⟨rfl, rfl, rfl, rfl, rfl, rfl⟩, Nat.le_of_eq ha.fresh_hw.symm,
    ha.fresh_hw ▸ Nat.le_trans (Nat.le_add_right _ _) ha.limit,
    Int.le_of_eq ha.fresh_units.symm, ha.fresh_units ▸ ha.units_lo⟩

/-- The repaired code grows the F7 list to its maximum, stopping exactly at the limit. -/
example : reached (growAll true RM.growFreelistGeom f7 [4000, 4700]) = some (17 * 4096, 8700) := by
  decide +kernel

/-- On whole blocks the repaired capacity is the original one (instances; in general
`(k·ppb·4096)/8 − heads − 1 = ppb·512 − heads − 1 + (k − 1)·ppb·512`). -/
example : ({ f7 with highWater := f7.base + 16 * 4096 } : RM).currentCapacity
    = ({ f7 with highWater := f7.base + 16 * 4096 } : RM).currentCapacityOld := by decide

end Mmtk.FreeList

