import MmtkModel.Props.C05
import MmtkModel.Model.WeakMon
/-!
# C05 — the monitor's executable collection step is a nursery collection of the model

`Mmtk.WeakMon.promote h surv` (what the `gcw` monitor does to its `Mmtk.Gen.Heap` at every pause) satisfies
the declarative `Mmtk.Gen.NurseryGC` whenever `surv` is exactly "old, or young and nursery-reachable"; for such a
`surv` the theorems of `Props/C05.lean` (`nursery_sound`, `nursery_inv`, …) apply to the state the monitor continues
with.  The monitor (`Driver/GCWeak/Mon.lean`, `onPause`) passes the survivors of the shadow heap, at nursery and
full-heap pauses alike; at a full-heap pause that frees an old object the hypothesis fails, and nothing here covers
`Inv` of the monitor's heap after such a pause.
-/
namespace Mmtk.WeakMon
open Mmtk.Gen

theorem promote_nurseryGC (h : Gen.Heap) (surv : Nat → Bool)
    (hs : ∀ x, h.alloc x = true → (surv x = true ↔ (h.young x = false ∨ NReach h x))) :
    NurseryGC h (promote h surv) where
  keep_old := by
    intro x ha hy
    simp [promote, ha, (hs x ha).2 (Or.inl hy)]
  keep_young := by
    intro y ha _ hr
    simp [promote, ha, (hs y ha).2 (Or.inr hr)]
  only_survivors := by
    intro y hy
    simp only [promote, Bool.and_eq_true] at hy
    exact ⟨hy.1, (hs y hy.1).1 hy.2⟩
  promoted := by
    intro y hy
    exact ⟨rfl, hy⟩
  fields := by intro y j _; rfl
  roots := rfl
  cleared := ⟨rfl, rfl⟩

theorem promote_inv (h : Gen.Heap) (surv : Nat → Bool) (hi : Inv h)
    (hs : ∀ x, h.alloc x = true → (surv x = true ↔ (h.young x = false ∨ NReach h x))) :
    Inv (promote h surv) :=
  nursery_inv h _ hi (promote_nurseryGC h surv hs)

/-- the hypothesis is satisfiable — here only by the empty heap, where it asks nothing -/
example : NurseryGC genEmpty (promote genEmpty fun _ => true) :=
  promote_nurseryGC genEmpty _ (by intro x hx; simp [genEmpty] at hx)

end Mmtk.WeakMon
