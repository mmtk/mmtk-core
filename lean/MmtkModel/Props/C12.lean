import MmtkModel.Model.SATB
import MmtkModel.Lemmas.Threads
import MmtkModel.Lemmas.ListAux
/-!
# C12 — Concurrent marking preserves the snapshot-at-the-beginning

`Model/SATB.lean`: any number of threads act as mutators (SATB write barrier field by field, then the
store) and as markers (pop, mark, scan field by field); all steps interleave.  In every reachable state
a snapshot field holds its snapshot value or that value is null, marked or grey (`satb_invariant`), and
a marked snapshot object is scanned or being scanned; so once marking has quiesced every object
reachable in the snapshot is marked (`satb_complete`).  Marks are never removed, so an object allocated
while marking runs stays marked (`alloc_during_marking_survives`).
The argument is thread-local: `local_cert` says what one step of a thread does to the global invariant
`G` and to that thread's `L`; `step_inv` carries the other threads' `L` over.  `Props/C12Race.lean`
has the same scheme under the same names (`G`, `L`, `Inv`, `Cert`, …) for the barrier alone, with
several mutators racing on one object.
-/
namespace Mmtk.SATB

def covered (sh : Shared) : Option Nat → Prop
  | none => True
  | some y => sh.marked y = true ∨ y ∈ sh.grey

theorem covered_mono {sh sh' : Shared} {v : Option Nat} (h : covered sh v)
    (hm : ∀ y, sh.marked y = true → sh'.marked y = true)
    (hg : ∀ y, y ∈ sh.grey → y ∈ sh'.grey ∨ sh'.marked y = true) : covered sh' v := by
  cases v with
  | none => trivial
  | some y =>
    rcases h with h | h
    · exact Or.inl (hm y h)
    · rcases hg y h with h' | h'
      · exact Or.inr h'
      · exact Or.inl h'

theorem covered_mono_push {sh sh' : Shared} {v : Option Nat} (h : covered sh v) (w : Option Nat)
    (hm : sh'.marked = sh.marked) (hg : sh'.grey = pushOpt sh.grey w) : covered sh' v := by
  refine covered_mono h (fun y h => hm ▸ h) (fun y hy => .inl ?_)
  rw [hg]
  cases w with
  | none => exact hy
  | some z => exact List.mem_cons_of_mem _ hy

theorem covered_pushed {sh sh' : Shared} {w : Option Nat} (hg : sh'.grey = pushOpt sh.grey w) :
    covered sh' w := by
  cases w with
  | none => trivial
  | some z => exact .inr (hg ▸ List.mem_cons_self ..)

theorem covered_mono_erase {sh sh' : Shared} {v : Option Nat} (h : covered sh v) {i o : Nat}
    (ho : sh.grey[i]? = some o) (hmk : ∀ y, sh.marked y = true → sh'.marked y = true)
    (hmo : sh'.marked o = true) (hg : sh'.grey = sh.grey.eraseIdx i) : covered sh' v := by
  refine covered_mono h hmk (fun y hy => ?_)
  rcases ListAux.mem_eraseIdx_or i hy with h | h
  · exact .inl (hg ▸ h)
  · rw [ho] at h; injection h with h; exact .inr (h ▸ hmo)

structure G (S : Snap) (sh : Shared) : Prop where
  clean : ∀ x, S.inS x = true → sh.dirty x = false → ∀ j, sh.cur x j = S.fld x j
  dirty : ∀ x, S.inS x = true → sh.dirty x = true → ∀ j, j < S.nf x → covered sh (S.fld x j)
  logged : ∀ x, S.inS x = true → sh.logged x = true → ∀ j, j < S.nf x → covered sh (S.fld x j)
  scanned : ∀ x, S.inS x = true → sh.scanned x = true → ∀ j, j < S.nf x → covered sh (S.fld x j)
  scanning : ∀ x j0, S.inS x = true → sh.scanPos x = some j0 → ∀ j, j < j0 → j < S.nf x → covered sh (S.fld x j)
  -- tri-colour: a marked object is black (`scanned`) or being scanned, never marked with fields unvisited
  black : ∀ x, S.inS x = true → sh.marked x = true → sh.scanned x = true ∨ sh.scanPos x ≠ none
  roots : ∀ r, r ∈ S.roots → covered sh (some r)

def L (S : Snap) (sh : Shared) : PC → Prop
  | .idle => True
  | .mCheck _ _ _ => True
  | .mRead src _ _ j => S.inS src = true → ∀ j', j' < j → j' < S.nf src → covered sh (S.fld src j')
  | .mLog src _ _ => S.inS src = true → ∀ j', j' < S.nf src → covered sh (S.fld src j')
  | .mStore src _ _ => S.inS src = true → ∀ j', j' < S.nf src → covered sh (S.fld src j')
  | .scanning x j => sh.marked x = true ∧ sh.scanPos x = some j

def isScanning (x : Nat) : PC → Prop
  | .scanning y _ => y = x
  | _ => False

structure Inv (S : Snap) (s : State) : Prop where
  g : G S s.sh
  l : ∀ t, L S s.sh (s.pc t)
  unique : ∀ t t' x, isScanning x (s.pc t) → isScanning x (s.pc t') → t = t'

/-- Once the value read from field `j` of a snapshot object is pushed, the *snapshot* value of that
field is covered: it is the value read if the object is clean, and was covered already if it is dirty. -/
theorem read_covers {S : Snap} {sh sh' : Shared} (hg : G S sh) {x j : Nat} (hx : S.inS x = true)
    (hj : j < S.nf x) (hm : sh'.marked = sh.marked) (hgr : sh'.grey = pushOpt sh.grey (sh.cur x j)) :
    covered sh' (S.fld x j) := by
  cases hd : sh.dirty x with
  | false =>
    rw [← hg.clean x hx hd j]
    exact covered_pushed hgr
  | true => exact covered_mono_push (hg.dirty x hx hd j hj) _ hm hgr

/-- Everything the global argument needs to know about one local step.  `sp`: the step moves the scan
position of no marked object but the one the thread is scanning; `enter`: it begins to scan only an
object that was unmarked, hence one no other thread is scanning. -/
structure Cert (S : Snap) (sh : Shared) (p : PC) (sh' : Shared) (p' : PC) : Prop where
  g : G S sh'
  l : L S sh' p'
  cov : ∀ v, covered sh v → covered sh' v
  mkd : ∀ y, sh.marked y = true → sh'.marked y = true
  sp : ∀ y, sh.marked y = true → ¬ isScanning y p → sh'.scanPos y = sh.scanPos y
  enter : ∀ y, isScanning y p' → isScanning y p ∨ sh.marked y = false

theorem cert_same {S : Snap} {sh : Shared} {p p' : PC} (hg : G S sh) (hl : L S sh p')
    (he : ∀ y, isScanning y p' → isScanning y p) : Cert S sh p sh p' :=
  ⟨hg, hl, fun _ h => h, fun _ h => h, fun _ _ _ => rfl, fun y h => Or.inl (he y h)⟩

/-- The certificate of a step that leaves `cur`, `dirty`, `logged`, `scanned` alone and only adds
coverage (`cov`): every coverage clause of `G` follows from the old one; a scan position that moved
(`hsp`) and the tri-colour clause (`hblack`) are the step's own business. -/
theorem cert_of_cov {S : Snap} {sh sh' : Shared} {p p' : PC} (hg : G S sh)
    (cov : ∀ v, covered sh v → covered sh' v)
    (hcur : sh'.cur = sh.cur) (hd : sh'.dirty = sh.dirty) (hlog : sh'.logged = sh.logged)
    (hsc : sh'.scanned = sh.scanned)
    (hsp : ∀ x j0, S.inS x = true → sh'.scanPos x = some j0 →
      sh.scanPos x = some j0 ∨ ∀ j, j < j0 → j < S.nf x → covered sh' (S.fld x j))
    (hblack : ∀ x, S.inS x = true → sh'.marked x = true → sh'.scanned x = true ∨ sh'.scanPos x ≠ none)
    (hl : L S sh' p') (mkd : ∀ y, sh.marked y = true → sh'.marked y = true)
    (sp : ∀ y, sh.marked y = true → ¬ isScanning y p → sh'.scanPos y = sh.scanPos y)
    (enter : ∀ y, isScanning y p' → isScanning y p ∨ sh.marked y = false) : Cert S sh p sh' p' :=
  ⟨⟨fun x hx hdx j => by rw [hcur]; exact hg.clean x hx (hd ▸ hdx) j,
    fun x hx hdx j hj => cov _ (hg.dirty x hx (hd ▸ hdx) j hj),
    fun x hx hlx j hj => cov _ (hg.logged x hx (hlog ▸ hlx) j hj),
    fun x hx hsx j hj => cov _ (hg.scanned x hx (hsc ▸ hsx) j hj),
    fun x j0 hx hpx j hj hjn => (hsp x j0 hx hpx).elim
      (fun h => cov _ (hg.scanning x j0 hx h j hj hjn)) (fun h => h j hj hjn),
    hblack,
    fun r hr => cov _ (hg.roots r hr)⟩, hl, cov, mkd, sp, enter⟩

theorem local_cert (S : Snap) (a : Act) (sh : Shared) (p : PC) (hg : G S sh) (hl : L S sh p) :
    Cert S sh p (localStep S a sh p).1 (localStep S a sh p).2 := by
  cases a with
  | write src f v => cases p <;> exact cert_same hg hl (fun _ h => h)
  | allocLive y =>
    cases p with
    | idle =>
      dsimp only [localStep]
      by_cases hy : S.inS y = true
      · rw [if_pos hy]; exact cert_same hg trivial (fun _ h => h)
      · rw [if_neg hy]
        have hmk : ∀ z, sh.marked z = true → (if z = y then true else sh.marked z) = true :=
          fun _ h => by rw [h, ite_self]
        refine cert_of_cov hg (fun _ h => covered_mono h hmk fun _ h => .inl h) rfl rfl rfl rfl
          (fun _ _ _ h => .inl h) (fun x hx hmx => ?_) trivial hmk (fun _ _ _ => rfl) fun _ h => .inl h
        have hxy : x ≠ y := fun e => hy (e ▸ hx)
        simp only [hxy, if_false] at hmx
        exact hg.black x hx hmx
    | _ => exact cert_same hg hl (fun _ h => h)
  | pop i =>
    cases p with
    | idle =>
      dsimp only [localStep]
      cases ho : sh.grey[i]? with
      | none => exact cert_same hg trivial (fun _ h => h)
      | some o =>
        dsimp only
        by_cases hmo : sh.marked o = true
        · -- already marked: just dropped from the queue
          rw [if_pos hmo]
          exact cert_of_cov hg (fun _ h => covered_mono_erase h ho (fun _ h => h) hmo rfl) rfl rfl rfl rfl
            (fun _ _ _ h => .inl h) hg.black trivial (fun _ h => h) (fun _ _ _ => rfl) fun _ h => .inl h
        · -- newly marked: the scan of `o` starts
          rw [if_neg hmo]
          have hmk : ∀ z, sh.marked z = true → (if z = o then true else sh.marked z) = true :=
            fun _ h => by rw [h, ite_self]
          refine cert_of_cov hg (fun _ h => covered_mono_erase h ho hmk (if_pos rfl) rfl) rfl rfl rfl rfl ?_ ?_
            ⟨if_pos rfl, if_pos rfl⟩ hmk ?_ ?_
          · intro x j0 _ hp
            by_cases hxo : x = o
            · simp only [hxo, if_true] at hp; injection hp with hp
              exact .inr fun j hj => absurd (hp ▸ hj) (Nat.not_lt_zero j)
            · simp only [hxo, if_false] at hp; exact .inl hp
          · intro x hx hm
            by_cases hxo : x = o
            · exact .inr (by simp only [hxo, if_true]; nofun)
            · simp only [hxo, if_false] at hm ⊢
              exact hg.black x hx hm
          · intro y hy _
            have : y ≠ o := fun e => hmo (e ▸ hy)
            simp only [this, if_false]
          · intro y (hy : o = y)
            exact .inr (hy ▸ Bool.eq_false_iff.mpr hmo)
    | _ => exact cert_same hg hl (fun _ h => h)
  | step =>
    cases p with
    | idle => exact cert_same hg trivial (fun _ h => h)
    | mCheck src f v =>
      dsimp only [localStep]
      by_cases hlog : sh.logged src = true
      · rw [if_pos hlog]
        exact cert_same hg (fun hx j hj => hg.logged src hx hlog j hj) (fun _ h => h)
      · rw [if_neg hlog]
        exact cert_same hg (fun _ j hj _ => absurd hj (Nat.not_lt_zero j)) (fun _ h => h)
    | mRead src f v j =>
      dsimp only [localStep]
      by_cases hj : j < S.nf src
      · rw [if_pos hj]
        refine cert_of_cov hg (fun _ h => covered_mono_push h _ rfl rfl) rfl rfl rfl rfl (fun _ _ _ h => .inl h) hg.black
          (fun hx j' hj' hjn => ?_) (fun _ h => h) (fun _ _ _ => rfl) fun _ h => .inl h
        by_cases e : j' = j
        · rw [e]; exact read_covers hg hx hj rfl rfl
        · exact covered_mono_push (hl hx j' (Nat.lt_of_le_of_ne (Nat.le_of_lt_succ hj') e) hjn) _ rfl rfl
      · rw [if_neg hj]
        exact cert_same hg (fun hx j' hj' => hl hx j' (Nat.lt_of_lt_of_le hj' (Nat.le_of_not_lt hj)) hj')
          (fun _ h => h)
    | mLog src f v =>
      dsimp only [localStep]
      refine ⟨{ hg with logged := fun x hx hlx j hj => ?_ }, hl, fun _ h => h, fun _ h => h,
        fun _ _ _ => rfl, fun _ h => .inl h⟩
      by_cases e : x = src
      · rw [e] at hx hj ⊢; exact hl hx j hj
      · simp only [e, if_false] at hlx; exact hg.logged x hx hlx j hj
    | mStore src f v =>
      dsimp only [localStep]
      refine ⟨{ hg with clean := fun x hx hd j => ?_, dirty := fun x hx hd j hj => ?_ }, trivial,
        fun _ h => h, fun _ h => h, fun _ _ _ => rfl, fun _ h => .inl h⟩
      · have e : x ≠ src := by intro e; simp [e] at hd
        simp only [e, if_false] at hd
        simp only [e, false_and, if_false]
        exact hg.clean x hx hd j
      · by_cases e : x = src
        · -- the store makes `src` dirty: `L` at `.mStore` still holds what the barrier recorded for this
          rw [e] at hx hj ⊢; exact hl hx j hj
        · simp only [e, if_false] at hd; exact hg.dirty x hx hd j hj
    | scanning x j =>
      obtain ⟨hmx, hpx⟩ := hl
      dsimp only [localStep]
      by_cases hj : j < S.nf x
      · rw [if_pos hj]
        refine cert_of_cov hg (fun _ h => covered_mono_push h _ rfl rfl) rfl rfl rfl rfl ?_ ?_ ⟨hmx, if_pos rfl⟩
          (fun _ h => h) ?_ fun _ h => .inl h
        · intro y j0 hy hp
          by_cases e : y = x
          · simp only [e, if_true] at hp; injection hp with hp
            refine .inr fun k hk hkn => ?_
            rw [e] at hy hkn ⊢
            by_cases ek : k = j
            · rw [ek]; exact read_covers hg hy hj rfl rfl
            · exact covered_mono_push (hg.scanning x j hy hpx k (Nat.lt_of_le_of_ne (Nat.le_of_lt_succ (hp.symm ▸ hk : k < j + 1)) ek) hkn) _ rfl rfl
          · simp only [e, if_false] at hp; exact .inl hp
        · intro y hy hm
          by_cases e : y = x
          · exact .inr (by simp only [e, if_true]; nofun)
          · simp only [e, if_false]; exact hg.black y hy hm
        · intro y _ hns
          have : y ≠ x := fun e => hns e.symm
          simp only [this, if_false]
      · -- scan of x complete
        rw [if_neg hj]
        refine ⟨{ hg with
          scanned := fun y hy hs k hk => ?_, scanning := fun y j0 hy hp k hk hkn => ?_,
          black := fun y hy hm => ?_ }, trivial, fun _ h => h, fun _ h => h, ?_, fun _ => nofun⟩
        · by_cases e : y = x
          · rw [e] at hy hk ⊢
            exact hg.scanning x j hy hpx k (Nat.lt_of_lt_of_le hk (Nat.le_of_not_lt hj)) hk
          · simp only [e, if_false] at hs; exact hg.scanned y hy hs k hk
        · by_cases e : y = x
          · simp only [e, if_true] at hp; cases hp
          · simp only [e, if_false] at hp; exact hg.scanning y j0 hy hp k hk hkn
        · by_cases e : y = x
          · exact .inl (by simp only [e, if_true])
          · simp only [e, if_false]; exact hg.black y hy hm
        · intro y _ hns
          have : y ≠ x := fun e => hns e.symm
          simp only [this, if_false]

theorem L_stable {S : Snap} {sh sh' : Shared} {p q : PC} (c : ∀ v, covered sh v → covered sh' v)
    (mk : ∀ y, sh.marked y = true → sh'.marked y = true)
    (sp : ∀ y, sh.marked y = true → ¬ isScanning y p → sh'.scanPos y = sh.scanPos y)
    (hx : ∀ y, isScanning y q → ¬ isScanning y p) (hq : L S sh q) : L S sh' q := by
  cases q with
  | idle => trivial
  | mCheck _ _ _ => trivial
  | mRead src f v j => exact fun h j' h1 h2 => c _ (hq h j' h1 h2)
  | mLog src f v => exact fun h j' h1 => c _ (hq h j' h1)
  | mStore src f v => exact fun h j' h1 => c _ (hq h j' h1)
  | scanning x j =>
    obtain ⟨h1, h2⟩ := hq
    exact ⟨mk x h1, by rw [sp x h1 (hx x rfl)]; exact h2⟩

theorem marked_of_scanning {S : Snap} {sh : Shared} {p : PC} {z : Nat} (hl : L S sh p)
    (hz : isScanning z p) : sh.marked z = true := by
  cases p with
  | scanning w j => exact hz ▸ hl.1
  | _ => exact hz.elim

theorem step_inv (S : Snap) (s : State) (t : Nat) (a : Act) (h : Inv S s) : Inv S (step S s t a) := by
  obtain ⟨hg, hl, hu⟩ := h
  have c := local_cert S a s.sh (s.pc t) hg (hl t)
  refine ⟨c.g,
    Threads.forall_upd (P := fun _ p => L S _ p) c.l fun x hx =>
      L_stable c.cov c.mkd c.sp (fun y hy hy' => hx (hu x t y hy hy')) (hl x),
    fun x y z => Threads.unique_upd (C := isScanning z) (fun x y => hu x y z) (fun y hyt hy ht => ?_) x y⟩
  -- a thread scanning `z` keeps the stepping thread from starting a scan of `z`: `z` is marked
  rcases c.enter z ht with h1 | h1
  · exact hyt (hu y t z hy h1)
  · rw [marked_of_scanning (hl y) hy] at h1; cases h1

theorem init_inv (S : Snap) : Inv S (init S) := by
  refine ⟨⟨fun _ _ _ _ => rfl, ?_, ?_, ?_, ?_, ?_, ?_⟩, fun _ => trivial, ?_⟩
  · intro x _ hd; simp [init] at hd
  · intro x _ hd; simp [init] at hd
  · intro x _ hd; simp [init] at hd
  · intro x j0 _ hd; simp [init] at hd
  · intro x _ hd; simp [init] at hd
  · intro r hr; exact Or.inr hr
  · intro x y z hx; simp [init, isScanning] at hx

theorem exec_inv (S : Snap) (s : State) (run : List (Nat × Act)) (h : Inv S s) : Inv S (exec S s run) := by
  induction run generalizing s with
  | nil => exact h
  | cons a rest ih => obtain ⟨t, a⟩ := a; exact ih _ (step_inv S s t a h)

def Reachable (S : Snap) (s : State) : Prop := ∃ run, s = exec S (init S) run

theorem reachable_inv {S : Snap} {s : State} (h : Reachable S s) : Inv S s := by
  obtain ⟨run, rfl⟩ := h
  exact exec_inv S _ run (init_inv S)

inductive ReachS (S : Snap) : Nat → Prop
  | root (r : Nat) : r ∈ S.roots → ReachS S r
  | field (x j y : Nat) : ReachS S x → j < S.nf x → S.fld x j = some y → ReachS S y

structure Snap.WF (S : Snap) : Prop where
  roots : ∀ r, r ∈ S.roots → S.inS r = true
  fields : ∀ x j y, S.inS x = true → j < S.nf x → S.fld x j = some y → S.inS y = true

/-- **C12 (1)** For a snapshot whose roots and fields lead to snapshot objects only (`S.WF`): when
marking has quiesced — no grey object left in any queue or SATB buffer, no scan in progress — every
object reachable at InitialMark is marked (and is a snapshot object), whatever the mutators did to
the heap meanwhile and however their barrier steps interleaved with the markers. -/
theorem satb_complete (S : Snap) (hS : S.WF) (s : State) (h : Reachable S s)
    (hgrey : s.sh.grey = []) (hscan : ∀ x, s.sh.scanPos x = none) :
    ∀ o, ReachS S o → s.sh.marked o = true ∧ S.inS o = true := by
  have inv := reachable_inv h
  intro o ho
  induction ho with
  | root r hr =>
    refine ⟨?_, hS.roots r hr⟩
    rcases inv.g.roots r hr with h | h
    · exact h
    · rw [hgrey] at h; cases h
  | field x j y _ hj hf ih =>
    obtain ⟨hmx, hix⟩ := ih
    refine ⟨?_, hS.fields x j y hix hj hf⟩
    rcases inv.g.black x hix hmx with hsc | hsp
    · have := inv.g.scanned x hix hsc j hj
      rw [hf] at this
      rcases this with h | h
      · exact h
      · rw [hgrey] at h; cases h
    · exact absurd (hscan x) hsp

theorem marked_mono (S : Snap) (s : State) (run : List (Nat × Act)) (h : Inv S s) (y : Nat)
    (hy : s.sh.marked y = true) : (exec S s run).sh.marked y = true := by
  induction run generalizing s with
  | nil => exact hy
  | cons a rest ih =>
    obtain ⟨t, a⟩ := a
    have c := local_cert S a s.sh (s.pc t) h.g (h.l t)
    exact ih _ (step_inv S s t a h) (c.mkd y hy)

/-- **C12 (2)** An object allocated while marking runs is allocated marked (`allocLive` sets the
mark in the model, as the plan allocates live during marking); by `marked_mono` it is still marked
after any continuation of the run. -/
theorem alloc_during_marking_survives (S : Snap) (s : State) (h : Reachable S s) (t y : Nat)
    (hidle : s.pc t = .idle) (hy : S.inS y = false) (rest : List (Nat × Act)) :
    (exec S (step S s t (.allocLive y)) rest).sh.marked y = true := by
  apply marked_mono S _ rest (step_inv S s t _ (reachable_inv h))
  show (localStep S (.allocLive y) s.sh (s.pc t)).1.marked y = true
  rw [hidle]
  dsimp only [localStep]
  rw [if_neg (by rw [hy]; nofun)]
  exact if_pos rfl

/-- **C12 (3)** the tri-colour fact behind it, for every reachable state: a snapshot field either
still holds its snapshot value or that value is marked or queued. -/
theorem satb_invariant (S : Snap) (s : State) (h : Reachable S s) (x j : Nat) (hx : S.inS x = true)
    (hj : j < S.nf x) : s.sh.cur x j = S.fld x j ∨ covered s.sh (S.fld x j) := by
  have inv := reachable_inv h
  cases hd : s.sh.dirty x with
  | false => exact Or.inl (inv.g.clean x hx hd j)
  | true => exact Or.inr (inv.g.dirty x hx hd j hj)

/-! ## non-vacuity: the classic lost-object schedule is handled

Snapshot: root → 0, `0.f0 = 1`, `2` is another root with a null field.  A mutator moves the only
reference to `1` from `0.f0` into `2.f0` and clears `0.f0` while the marker has popped neither;
the barrier enqueues `1` before the overwrite, so it is marked at the end.  (Some of the marker's
actions below change nothing: a `.step` when idle, a `.pop` while scanning or on the empty queue.) -/
def demoSnap : Snap :=
  { inS := fun x => x < 3, nf := fun x => if x = 1 then 0 else 1,
    fld := fun x j => if x = 0 ∧ j = 0 then some 1 else none, roots := [0, 2] }

example :
    let s := exec demoSnap (init demoSnap)
      [(0, .write 2 0 (some 1)), (0, .step), (0, .step), (0, .step), (0, .step), (0, .step),   -- 2.f0 := 1
       (0, .write 0 0 none), (0, .step), (0, .step), (0, .step), (0, .step), (0, .step),       -- 0.f0 := null
       (1, .pop 0), (1, .step), (1, .step), (1, .pop 0), (1, .step), (1, .step),
       (1, .pop 0), (1, .step), (1, .pop 0), (1, .step), (1, .step), (1, .pop 0), (1, .pop 0)]
    s.sh.grey = [] ∧ s.sh.marked 0 = true ∧ s.sh.marked 1 = true ∧ s.sh.marked 2 = true ∧
      s.sh.cur 0 0 = none ∧ s.sh.cur 2 0 = some 1 := by
  decide

end Mmtk.SATB
