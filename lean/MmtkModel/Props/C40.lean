import MmtkModel.Model.RevGroup
/-!
# C40 — Revisitable group-by partitions its input into maximal runs

For any input sequence and key function: the groups concatenate to the input, each group is
non-empty with all items sharing the reported key, adjacent groups have different keys, and each
group's reported length equals its item count.  Quantified over **all** lists and **all** key
functions into any type with decidable equality (no bound on length).
-/
namespace Mmtk.RevGroup
variable {α κ : Type} [DecidableEq κ]

def GroupOk (f : α → κ) (g : Group α κ) : Prop :=
  g.items ≠ [] ∧ (∀ x ∈ g.items, f x = g.key) ∧ g.len = g.items.length

def pend (ni : Option (α × κ)) : List α :=
  match ni with
  | none => []
  | some (h, _) => [h]

/-- State invariant: the peeked key is the key of the peeked item (`next` trusts the stored key instead of
computing `f` again). -/
def NiOk (f : α → κ) (ni : Option (α × κ)) : Prop :=
  ∀ h k, ni = some (h, k) → k = f h

/-- The inner loop splits its input into a run of key `k`, whose length it returns, and the rest,
handed on as peeked item and iterator; the rest does not begin with an item of key `k`. -/
theorem takeRun_spec (f : α → κ) (k : κ) (l : List α) :
    ∃ run, l = run ++ (pend (takeRun f k l).2.1 ++ (takeRun f k l).2.2) ∧
      (takeRun f k l).1 = run.length ∧ (∀ x ∈ run, f x = k) ∧ NiOk f (takeRun f k l).2.1 ∧
      ∀ k', (pend (takeRun f k l).2.1 ++ (takeRun f k l).2.2).head?.map f = some k' → k' ≠ k := by
  induction l with
  | nil => exact ⟨[], rfl, rfl, nofun, nofun, nofun⟩
  | cons y ys ih =>
    unfold takeRun
    by_cases h : f y = k
    · obtain ⟨run, e, hl, hk, hni, hd⟩ := ih
      rw [if_pos h]
      exact ⟨y :: run, congrArg (y :: ·) e, congrArg (· + 1) hl, List.forall_mem_cons.2 ⟨h, hk⟩, hni, hd⟩
    · rw [if_neg h]
      exact ⟨[], rfl, rfl, nofun, fun _ _ e => by cases e; rfl, fun k' e => by cases e; exact h⟩

/-- Under the state invariant `next` depends only on the input still to be grouped,
`pend ni ++ iter`: its head opens the group, the inner loop runs on its tail. -/
theorem next_eq (f : α → κ) (iter : List α) (ni : Option (α × κ)) (hni : NiOk f ni) :
    next f iter ni = match pend ni ++ iter with
      | [] => none
      | h :: it =>
        let r := takeRun f (f h) it
        some (⟨f h, r.1 + 1, h :: it.take r.1⟩, r.2.2, r.2.1) := by
  cases ni with
  | some p =>
    obtain ⟨h, k⟩ := p
    cases hni h k rfl
    rfl
  | none => cases iter <;> rfl

def AdjDiff : List (Group α κ) → Prop
  | [] => True
  | [_] => True
  | g :: g' :: rest => g.key ≠ g'.key ∧ AdjDiff (g' :: rest)

/-- The fourth conjunct (the first group's key is the key of the head of the remaining input) is there for the
induction: with the last conjunct of `takeRun_spec` it gives `AdjDiff` at the seam. -/
theorem run_spec (f : α → κ) (fuel : Nat) (iter : List α) (ni : Option (α × κ))
    (hni : NiOk f ni) (hfuel : (pend ni ++ iter).length < fuel) :
    (run f fuel iter ni).flatMap (·.items) = pend ni ++ iter ∧
    (∀ g ∈ run f fuel iter ni, GroupOk f g) ∧ AdjDiff (run f fuel iter ni) ∧
    ∀ g, (run f fuel iter ni).head? = some g → (pend ni ++ iter).head?.map f = some g.key := by
  induction fuel generalizing iter ni with
  | zero => exact absurd hfuel (Nat.not_lt_zero _)
  | succ fuel ih =>
    rw [run, next_eq f iter ni hni]
    generalize pend ni ++ iter = L at hfuel ⊢
    cases L with
    | nil => exact ⟨rfl, nofun, trivial, nofun⟩
    | cons h it =>
      obtain ⟨rn, e, hl, hk, hni', hd⟩ := takeRun_spec f (f h) it
      simp only
      generalize takeRun f (f h) it = r at *
      subst e
      obtain ⟨i1, i2, i3, i4⟩ := ih r.2.2 r.2.1 hni' (by
        rw [List.length_cons, List.length_append] at hfuel; omega)
      rw [hl, List.take_left' rfl]
      refine ⟨by rw [List.flatMap_cons, i1]; rfl,
        List.forall_mem_cons.2 ⟨⟨List.cons_ne_nil _ _, List.forall_mem_cons.2 ⟨rfl, hk⟩, rfl⟩, i2⟩, ?_,
        fun g hg => by cases hg; rfl⟩
      cases hgs : run f fuel r.2.2 r.2.1 with
      | nil => trivial
      | cons g' rest =>
        rw [hgs] at i3 i4
        exact ⟨fun e' => hd _ (i4 g' rfl) e'.symm, i3⟩

theorem run_none (f : α → κ) (xs : List α) (fuel : Nat) (h : xs.length < fuel) :
    (run f fuel xs none).flatMap (·.items) = xs ∧ (∀ g ∈ run f fuel xs none, GroupOk f g) ∧
      AdjDiff (run f fuel xs none) :=
  have := run_spec f fuel xs none nofun h
  ⟨this.1, this.2.1, this.2.2.1⟩

/-- **C40 (1)** The groups' items concatenate to the input: nothing is dropped or duplicated, so the fuel
`xs.length + 1` of `groups` is enough to consume the whole input. -/
theorem groups_concat (f : α → κ) (xs : List α) :
    (groups f xs).flatMap (·.items) = xs :=
  (run_none f xs _ (Nat.lt_succ_self _)).1

/-- **C40 (2)** Every group is non-empty and all its items have the reported key. -/
theorem group_nonempty_same_key (f : α → κ) (xs : List α) :
    ∀ g ∈ groups f xs, g.items ≠ [] ∧ ∀ x ∈ g.items, f x = g.key := by
  intro g hg
  have := (run_none f xs _ (Nat.lt_succ_self _)).2.1 g hg
  exact ⟨this.1, this.2.1⟩

/-- **C40 (3)** Adjacent groups have different keys (so every group is a *maximal* run). -/
theorem adjacent_keys_differ (f : α → κ) (xs : List α) : AdjDiff (groups f xs) :=
  (run_none f xs _ (Nat.lt_succ_self _)).2.2

/-- **C40 (4)** The reported length is the number of items the group yields. -/
theorem len_eq_count (f : α → κ) (xs : List α) :
    ∀ g ∈ groups f xs, g.len = g.items.length := by
  intro g hg
  exact ((run_none f xs _ (Nat.lt_succ_self _)).2.1 g hg).2.2

/-- **C40 (5)** Exhaustion: run with any additional fuel, the groups still concatenate to the input —
the extra rounds add no item.  (Only the concatenation is stated, not that the list of groups is the same.) -/
theorem groups_fuel_irrelevant (f : α → κ) (xs : List α) (extra : Nat) :
    (run f (xs.length + 1 + extra) xs none).flatMap (·.items) = xs :=
  (run_none f xs _ (Nat.lt_add_right _ (Nat.lt_succ_self _))).1

example : (groups (fun x : Nat => x % 2) [1, 3, 5, 2, 4, 6, 7, 9]).map (fun g => (g.key, g.len, g.items))
    = [(1, 3, [1, 3, 5]), (0, 3, [2, 4, 6]), (1, 2, [7, 9])] := by decide
example : (groups (fun _ : Nat => 0) [4, 4, 9]).map (fun g => (g.key, g.len, g.items))
    = [(0, 3, [4, 4, 9])] := by decide
example : (groups (fun x : Nat => x) ([] : List Nat)).length = 0 := by decide

end Mmtk.RevGroup
