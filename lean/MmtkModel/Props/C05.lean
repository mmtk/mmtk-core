import MmtkModel.Model.Gen
/-!
# C05 — Generational remembered sets are sound

Invariant over **all histories** of allocations, barriered field writes, barriered region copies and
root changes from the empty heap (`history_inv`), re-established by every nursery collection (`nursery_inv`;
a collection is a relation `NurseryGC`, not one of the operations): every old→young reference sits in a
remembered object or a remembered slice.  Consequence: a nursery collection, which traces only from the roots and the
remembered slots through young objects, keeps every young object that is reachable in the whole heap —
in particular one reachable *only* through a reference stored into an older object.
-/
namespace Mmtk.Gen

structure Inv (h : Heap) : Prop where
  remset : ∀ x j y, h.alloc x = true → h.young x = false → h.fld x j = some y → h.young y = true →
    Remembered h x j
  /-- an old object whose unlog bit is clear is in the mod-buffer (so skipping the barrier is sound) -/
  logged_in_buf : ∀ x, h.alloc x = true → h.young x = false → h.unlogged x = false → x ∈ h.modbuf
  /-- nursery objects are never unlogged: writes to them take the fast path -/
  young_logged : ∀ x, h.alloc x = true → h.young x = true → h.unlogged x = false
  closed : ∀ x j y, h.alloc x = true → h.fld x j = some y → h.alloc y = true
  roots_alloc : ∀ r, r ∈ h.roots → h.alloc r = true

/-- Allocations are always legal: `apply` ignores one whose id is taken. -/
def Legal (h : Heap) : Op → Prop
  | .allocYoung _ => True
  | .allocOld _ => True
  | .write src _ v => h.alloc src = true ∧ ∀ y, v = some y → h.alloc y = true
  | .copyRange dst _ _ vals => h.alloc dst = true ∧ ∀ j y, vals j = some y → h.alloc y = true
  | .setRoots rs => ∀ r, r ∈ rs → h.alloc r = true

/-! Four primitive changes keep the invariant: a fresh object, logging an object, remembering a slice, and a store
into slots of one object that are remembered if it is old.  The post-write barrier is "log unless logged, then
store", the copy barrier "remember the slice unless young, then store". -/

theorem Remembered.mono {h h' : Heap} {x j : Nat} (r : Remembered h x j)
    (hm : ∀ z, z ∈ h.modbuf → z ∈ h'.modbuf) (hr : ∀ t, t ∈ h.rmod → t ∈ h'.rmod) : Remembered h' x j := by
  rcases r with r | ⟨lo, hi, r, a, b⟩
  · exact Or.inl (hm x r)
  · exact Or.inr ⟨lo, hi, hr _ r, a, b⟩

/-- `b` = born young; `unlogged := !b` is `apply`'s literal (`false` for `allocYoung`, `true` for `allocOld`) by unfolding. -/
theorem Inv.alloc {h : Heap} (hi : Inv h) {id : Nat} (hna : h.alloc id = false) (b : Bool) :
    Inv { h with alloc := fun x => if x = id then true else h.alloc x,
                 young := fun x => if x = id then b else h.young x,
                 fld := fun x j => if x = id then none else h.fld x j,
                 unlogged := fun x => if x = id then !b else h.unlogged x } where
  remset x j y hx hyx hf hy := by
    by_cases e : x = id
    · simp [e] at hf
    · simp only [e, if_false] at hx hyx hf
      by_cases ey : y = id
      · have := hi.closed x j y hx hf; rw [ey, hna] at this; cases this
      · simp only [ey, if_false] at hy
        exact hi.remset x j y hx hyx hf hy
  logged_in_buf x hx hyx hu := by
    by_cases e : x = id
    · simp only [e, if_true] at hyx hu; rw [hyx] at hu; cases hu
    · simp only [e, if_false] at hx hyx hu; exact hi.logged_in_buf x hx hyx hu
  young_logged x hx hyx := by
    by_cases e : x = id
    · simp only [e, if_true] at hyx ⊢; rw [hyx]; rfl
    · simp only [e, if_false] at hx hyx ⊢; exact hi.young_logged x hx hyx
  closed x j y hx hf := by
    by_cases e : x = id
    · simp [e] at hf
    · simp only [e, if_false] at hx hf
      have := hi.closed x j y hx hf
      by_cases ey : y = id <;> simp [ey, this]
  roots_alloc r hr := by
    have := hi.roots_alloc r hr
    by_cases e : r = id <;> simp [e, this]

/-- `log_object` -/
theorem Inv.log {h : Heap} (hi : Inv h) (src : Nat) :
    Inv { h with unlogged := fun x => if x = src then false else h.unlogged x, modbuf := src :: h.modbuf } where
  remset x j y hx hyx hf hy :=
    (hi.remset x j y hx hyx hf hy).mono (fun _ hz => List.mem_cons_of_mem _ hz) (fun _ ht => ht)
  logged_in_buf x hx hyx hu := by
    by_cases e : x = src
    · exact e ▸ List.mem_cons_self
    · simp only [e, if_false] at hu
      exact List.mem_cons_of_mem _ (hi.logged_in_buf x hx hyx hu)
  young_logged x hx hyx := by
    by_cases e : x = src
    · simp [e]
    · simp only [e, if_false]; exact hi.young_logged x hx hyx
  closed := hi.closed
  roots_alloc := hi.roots_alloc

theorem Inv.remember {h : Heap} (hi : Inv h) (t : Nat × Nat × Nat) : Inv { h with rmod := t :: h.rmod } where
  remset x j y hx hyx hf hy :=
    (hi.remset x j y hx hyx hf hy).mono (fun _ hz => hz) (fun _ ht => List.mem_cons_of_mem _ ht)
  logged_in_buf := hi.logged_in_buf
  young_logged := hi.young_logged
  closed := hi.closed
  roots_alloc := hi.roots_alloc

theorem Inv.store {h : Heap} (hi : Inv h) (dst : Nat) (p : Nat → Prop) [DecidablePred p]
    (vals : Nat → Option Nat) (hv : ∀ j y, vals j = some y → h.alloc y = true)
    (hrem : h.alloc dst = true → h.young dst = false → ∀ j, p j → Remembered h dst j) :
    Inv { h with fld := fun x j => if x = dst ∧ p j then vals j else h.fld x j } where
  remset x j y hx hyx hf hy := by
    by_cases e : x = dst ∧ p j
    · exact e.1 ▸ hrem (e.1 ▸ hx) (e.1 ▸ hyx) j e.2
    · simp only [e, if_false] at hf
      exact hi.remset x j y hx hyx hf hy
  logged_in_buf := hi.logged_in_buf
  young_logged := hi.young_logged
  closed x j y hx hf := by
    by_cases e : x = dst ∧ p j
    · simp only [e, and_self, if_true] at hf; exact hv j y hf
    · simp only [e, if_false] at hf; exact hi.closed x j y hx hf
  roots_alloc := hi.roots_alloc

theorem Inv.ite {c : Prop} [Decidable c] {a b : Heap} (ha : c → Inv a) (hb : ¬ c → Inv b) :
    Inv (if c then a else b) := by
  by_cases hc : c
  · rw [if_pos hc]; exact ha hc
  · rw [if_neg hc]; exact hb hc

theorem apply_inv (h : Heap) (op : Op) (hi : Inv h) (hl : Legal h op) : Inv (apply h op) := by
  cases op with
  | allocYoung id => exact .ite (fun _ => hi) (fun ha => hi.alloc (Bool.of_not_eq_true ha) true)
  | allocOld id => exact .ite (fun _ => hi) (fun ha => hi.alloc (Bool.of_not_eq_true ha) false)
  | write src f v =>
    refine .ite (fun _ => ?_) (fun hu => ?_)
    · -- slow path: `src` is logged and enters the mod-buffer
      exact (hi.log src).store src (· = f) (fun _ => v) (fun _ => hl.2)
        (fun _ _ _ _ => .inl List.mem_cons_self)
    · -- fast path: `src` is a nursery object, or already in the mod-buffer
      exact hi.store src (· = f) (fun _ => v) (fun _ => hl.2)
        (fun ha hy _ _ => .inl (hi.logged_in_buf src ha hy (Bool.of_not_eq_true hu)))
  | copyRange dst lo hi' vals =>
    refine .ite (fun hy => ?_) (fun _ => ?_)
    · -- destination in the nursery: nothing to remember
      exact hi.store dst (fun j => lo ≤ j ∧ j < hi') vals hl.2 (fun _ hy' => by rw [hy] at hy'; cases hy')
    · exact (hi.remember (dst, lo, hi')).store dst (fun j => lo ≤ j ∧ j < hi') vals hl.2
        (fun _ _ _ hj => .inr ⟨lo, hi', List.mem_cons_self, hj.1, hj.2⟩)
  | setRoots rs => exact { hi with roots_alloc := hl }

/-- The key lemma: under the invariant, everything reachable in the whole heap that is young is
reachable the way a nursery collection traces. -/
theorem reach_young_nreach (h : Heap) (hi : Inv h) (y : Nat) (hr : Reach h y) :
    h.alloc y = true ∧ (h.young y = true → NReach h y) := by
  induction hr with
  | root r hr => exact ⟨hi.roots_alloc r hr, fun _ => NReach.root r hr⟩
  | field x j z _ hf ih =>
    obtain ⟨hax, hnx⟩ := ih
    refine ⟨hi.closed x j z hax hf, fun hz => ?_⟩
    cases hyx : h.young x with
    | true => exact NReach.field x j z (hnx hyx) hyx hf
    | false => exact NReach.remembered x j z (hi.remset x j z hax hyx hf hz) hf

theorem NurseryGC.kept {h h' : Heap} (gc : NurseryGC h h') {y : Nat} (ha : h.alloc y = true)
    (hn : h.young y = true → NReach h y) : h'.alloc y = true := by
  cases hy : h.young y with
  | false => exact gc.keep_old y ha hy
  | true => exact gc.keep_young y ha hy (hn hy)

/-- A nursery collection keeps every reachable object — old or young, however it is
reachable (in particular only through a reference stored into an older object) — with its fields. -/
theorem nursery_sound (h h' : Heap) (hi : Inv h) (gc : NurseryGC h h') (y : Nat) (hr : Reach h y) :
    h'.alloc y = true ∧ ∀ j, h'.fld y j = h.fld y j := by
  obtain ⟨hay, hny⟩ := reach_young_nreach h hi y hr
  have := gc.kept hay hny
  exact ⟨this, fun j => gc.fields y j this⟩

/-- … and whatever was reachable is reachable afterwards (the converse is not shown). -/
theorem nursery_reach_preserved (h h' : Heap) (hi : Inv h) (gc : NurseryGC h h') (y : Nat) (hr : Reach h y) :
    Reach h' y := by
  induction hr with
  | root r hr => exact Reach.root r (by rw [gc.roots]; exact hr)
  | field x j z hx hf ih =>
    have := nursery_sound h h' hi gc x hx
    exact Reach.field x j z ih (by rw [this.2 j]; exact hf)

/-- A survivor's referents survive: an old referent is kept; a young one is traced, from the remembered slot
if the survivor was old, through the survivor if it was young. -/
theorem NurseryGC.child_kept {h h' : Heap} (hi : Inv h) (gc : NurseryGC h h') {x j y : Nat}
    (hx : h'.alloc x = true) (hf : h'.fld x j = some y) : h'.alloc y = true := by
  obtain ⟨hax, hsx⟩ := gc.only_survivors x hx
  have hf' : h.fld x j = some y := by rw [← gc.fields x j hx]; exact hf
  refine gc.kept (hi.closed x j y hax hf') fun hyy => ?_
  cases hyx : h.young x with
  | false => exact .remembered x j y (hi.remset x j y hax hyx hf' hyy) hf'
  | true => exact .field x j y (hsx.resolve_left (by rw [hyx]; nofun)) hyx hf'

/-- The invariant is re-established by the collection (everything is old and unlogged,
the buffers are empty), so the argument repeats for every later nursery GC. -/
theorem nursery_inv (h h' : Heap) (hi : Inv h) (gc : NurseryGC h h') : Inv h' where
  remset x j y hx _ hf hy := by
    rw [(gc.promoted y (gc.child_kept hi hx hf)).1] at hy; cases hy
  logged_in_buf x hx _ hu := by
    rw [(gc.promoted x hx).2] at hu; cases hu
  young_logged x hx hy := by
    rw [(gc.promoted x hx).1] at hy; cases hy
  closed _ _ _ := gc.child_kept hi
  roots_alloc r hr := by
    rw [gc.roots] at hr
    exact gc.kept (hi.roots_alloc r hr) fun _ => .root r hr

def emptyHeap : Heap :=
  { alloc := fun _ => false, young := fun _ => false, fld := fun _ _ => none, unlogged := fun _ => false,
    roots := [], modbuf := [], rmod := [] }

theorem empty_inv : Inv emptyHeap :=
  ⟨(fun _ _ _ h => by cases h), (fun _ h => by cases h), (fun _ h => by cases h), (fun _ _ _ h => by cases h),
   (fun _ h => by cases h)⟩

/-- Any sequence of mutator operations, each legal where it is applied, keeps the
invariant (so `nursery_sound` applies at every nursery GC); `empty_inv` starts it from the empty heap. -/
theorem history_inv (ops : List Op) (h : Heap) (hi : Inv h)
    (hl : ∀ (pre : List Op) (op : Op) (post : List Op), ops = pre ++ op :: post → Legal (pre.foldl apply h) op) :
    Inv (ops.foldl apply h) := by
  induction ops generalizing h with
  | nil => exact hi
  | cons op rest ih =>
    simp only [List.foldl_cons]
    apply ih (apply h op) (apply_inv h op hi (hl [] op rest rfl))
    intro pre op' post e
    have := hl (op :: pre) op' post (by rw [e]; rfl)
    simpa using this

/-! ## Why the barrier matters: a store without it leaves an old→young reference unremembered -/

def writeNoBarrier (h : Heap) (src f : Nat) (v : Option Nat) : Heap :=
  { h with fld := fun x j => if x = src ∧ j = f then v else h.fld x j }

def demoHeap : Heap := apply (apply (apply emptyHeap (.allocOld 0)) (.allocYoung 1)) (.setRoots [0])

/-- Old object 0 (unlogged, rooted), young object 1 reachable only through `0.f0`: with the
barrier the slot is remembered; a barrier-less store leaves it unremembered. -/
example : (apply demoHeap (.write 0 0 (some 1))).modbuf = [0] ∧ (apply demoHeap (.write 0 0 (some 1))).fld 0 0 = some 1 := by
  decide

example : (writeNoBarrier demoHeap 0 0 (some 1)).modbuf = [] ∧ (writeNoBarrier demoHeap 0 0 (some 1)).rmod = [] ∧
    (writeNoBarrier demoHeap 0 0 (some 1)).fld 0 0 = some 1 := by
  decide

end Mmtk.Gen
