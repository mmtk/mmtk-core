import MmtkModel.Generated.SpecTable
import MmtkModel.Lemmas.HeapVerdict
/-!
# C24 — Side-metadata tables in use by one configuration never alias

`Generated/SpecTable.lean` is **regenerated from the linked mmtk-core on every run**: for every plan ×
feature set × VM spec placement (each VM spec in the header or on the side, side specs chained with the
real `side_first` / `side_after` in every declaration order) it lists the side specs some space of that
plan maps and accesses, sorted by offset, together with the bytes reserved for side metadata.
`Mmtk.Generated.SpecTable.all_rows_ok` is the finite obligation, evaluated by the kernel chunk by chunk
(`rowsN_ok`, `decide +kernel`); the theorems here lift it to the property's statement and prove the
general layout lemma.
-/
namespace Mmtk.Layout

theorem rangeSize_pos (s : Spec) : 0 < rangeSize s := Nat.two_pow_pos _

/-- Adjacent-disjointness of an offset-sorted list gives: every later table starts at or after the
end of every earlier one (a table ends after its own start, so the adjacent bounds chain). -/
theorem sortedDisjoint_chain (l : List Spec) (h : sortedDisjoint l = true) :
    l.Pairwise (fun a b => upperBoundOffset a ≤ b.offset) :=
  Heap.pairwise_of_neighbours _
    (fun a b c hab hbc => by have := rangeSize_pos b; unfold upperBoundOffset at *; omega)
    sortedDisjoint (fun _ _ _ => rfl) l h

/-- **Soundness of the row check**: in a list accepted by `sortedDisjoint`, any two entries at
different positions have non-overlapping metadata address ranges. -/
theorem sortedDisjoint_pairwise (l : List Spec) (h : sortedDisjoint l = true) :
    l.Pairwise (fun a b => ¬ Overlap a b) :=
  (sortedDisjoint_chain l h).imp fun h => by unfold Overlap upperBoundOffset at *; omega

/-- **General layout lemma**: any list laid out by `first … offset_after` is accepted by the check,
whatever the widths and region sizes — chained declarations can never alias each other. -/
theorem layoutChain_sortedDisjoint (g : Bool) (base : Nat) (l : List (Nat × Nat × Nat)) :
    sortedDisjoint (layoutChain g base l) = true := by
  induction l generalizing base with
  | nil => rfl
  | cons x rest ih =>
    obtain ⟨n, lb, lr⟩ := x
    cases rest with
    | nil => rfl
    | cons y rest' =>
      obtain ⟨n', lb', lr'⟩ := y
      have := ih (offsetAfter { name := n, isGlobal := g, offset := base, logBits := lb, logRegion := lr })
      simp only [layoutChain, sortedDisjoint, Bool.and_eq_true, decide_eq_true_eq] at this ⊢
      exact ⟨Nat.le_refl _, this⟩

theorem chain_disjoint (g : Bool) (base : Nat) (l : List (Nat × Nat × Nat)) :
    (layoutChain g base l).Pairwise (fun a b => ¬ Overlap a b) :=
  sortedDisjoint_pairwise _ (layoutChain_sortedDisjoint g base l)

theorem rowOk_sound (r : Row) (h : rowOk r = true) :
    r.specs.Pairwise (fun a b => ¬ Overlap a b) ∧
    ∀ s ∈ r.specs, s.legal ∧ upperBoundOffset s ≤ r.reserved := by
  simp only [rowOk, Bool.and_eq_true, List.all_eq_true, decide_eq_true_eq] at h
  exact ⟨sortedDisjoint_pairwise _ h.1.2, fun s hs => ⟨h.1.1 s hs, h.2 s hs⟩⟩

/-- **C24** For every configuration the translator enumerated from the current source, the
metadata address ranges of all side specs that configuration uses are pairwise disjoint and lie
inside the reserved side-metadata range. -/
theorem config_tables_never_alias :
    ∀ r ∈ Mmtk.Generated.SpecTable.rows,
      r.specs.Pairwise (fun a b => ¬ Overlap a b) ∧
      ∀ s ∈ r.specs, s.legal ∧ upperBoundOffset s ≤ r.reserved := by
  intro r hr
  have h := Mmtk.Generated.SpecTable.all_rows_ok
  rw [List.all_eq_true] at h
  exact rowOk_sound r (h r hr)

theorem table_nonempty : Mmtk.Generated.SpecTable.rows ≠ [] := Mmtk.Generated.SpecTable.rows_nonempty

/-- The latent overlap the table guards against: a side `VMGlobalLogBitSpec` starts exactly where the
core *local* chain starts, so it aliases `MALLOC_MS_ACTIVE_PAGE` if a configuration ever used both. -/
example :
    let logBit : Spec := { name := 0, isGlobal := true, offset := 2199090364416, logBits := 0, logRegion := 3 }
    let activePage : Spec := { name := 1, isGlobal := false, offset := 2199090364416, logBits := 3, logRegion := 12 }
    Overlap logBit activePage := by decide

end Mmtk.Layout
