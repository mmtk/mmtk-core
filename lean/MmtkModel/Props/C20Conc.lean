import MmtkModel.Props.C20
/-!
# C20, concurrent reading: every owner of a region sees its own sequential history

A list of calls `ops : List Op` is one linearisation of a concurrent execution in which every
side-metadata call is atomic.  `history_refines` (C20) says that the byte-level implementation model
refines the abstract array for ANY such list.  Here we add the *locality* consequence, stated on lists:
the values returned to the calls of `ops` that address region `r` (`ownOps`, `ownRets`) and the final value
of the field of `r` are those of running these calls ALONE, whatever else `ops` contains on other regions
(even regions whose fields share the same metadata byte).  Threads do not occur in the statements; read
with "the calls on `r` all come from one thread, the owner of that field", they say that the owner observes
exactly its own sequential history.
-/
namespace Mmtk.SideMeta
open Mmtk.Mem
open Mmtk.HeaderMeta (ByteMem)

def ownOps (lr r : Nat) (ops : List Op) : List Op := ops.filter (fun o => o.addr >>> lr == r)

def ownRets (lr r : Nat) (ops : List Op) (rets : List Ret) : List Ret :=
  ((ops.zip rets).filter (fun p => p.1.addr >>> lr == r)).map Prod.snd

theorem runSpec_nil (W lr : Nat) (arr : Nat → Nat) : runSpec W lr arr [] = (arr, []) := rfl

theorem runSpec_cons (W lr : Nat) (arr : Nat → Nat) (op : Op) (ops : List Op) :
    runSpec W lr arr (op :: ops) =
      ((runSpec W lr (stepSpec W lr arr op).1 ops).1,
        (stepSpec W lr arr op).2 :: (runSpec W lr (stepSpec W lr arr op).1 ops).2) := rfl

/- the two components of `runSpec_cons`, in the form `rw` can use under `.1`/`.2` -/
theorem runSpec_cons_fst (W lr : Nat) (arr : Nat → Nat) (op : Op) (ops : List Op) :
    (runSpec W lr arr (op :: ops)).1 = (runSpec W lr (stepSpec W lr arr op).1 ops).1 := by
  rw [runSpec_cons]

theorem runSpec_cons_snd (W lr : Nat) (arr : Nat → Nat) (op : Op) (ops : List Op) :
    (runSpec W lr arr (op :: ops)).2 =
      (stepSpec W lr arr op).2 :: (runSpec W lr (stepSpec W lr arr op).1 ops).2 := by
  rw [runSpec_cons]

theorem runSpec_length (W lr : Nat) (arr : Nat → Nat) (ops : List Op) :
    (runSpec W lr arr ops).2.length = ops.length := by
  induction ops generalizing arr with
  | nil => rfl
  | cons op ops ih => rw [runSpec_cons_snd, List.length_cons, ih, List.length_cons]

theorem ownOps_nil (lr r : Nat) : ownOps lr r [] = [] := rfl

theorem ownOps_cons_own (lr r : Nat) (op : Op) (ops : List Op) (h : op.addr >>> lr = r) :
    ownOps lr r (op :: ops) = op :: ownOps lr r ops := by
  simp [ownOps, h]

theorem ownOps_cons_other (lr r : Nat) (op : Op) (ops : List Op) (h : op.addr >>> lr ≠ r) :
    ownOps lr r (op :: ops) = ownOps lr r ops := by
  simp [ownOps, h]

theorem ownRets_nil (lr r : Nat) (rets : List Ret) : ownRets lr r [] rets = [] := by
  simp [ownRets]

theorem ownRets_cons_own (lr r : Nat) (op : Op) (ops : List Op) (x : Ret) (rets : List Ret)
    (h : op.addr >>> lr = r) :
    ownRets lr r (op :: ops) (x :: rets) = x :: ownRets lr r ops rets := by
  simp [ownRets, h]

theorem ownRets_cons_other (lr r : Nat) (op : Op) (ops : List Op) (x : Ret) (rets : List Ret)
    (h : op.addr >>> lr ≠ r) :
    ownRets lr r (op :: ops) (x :: rets) = ownRets lr r ops rets := by
  simp [ownRets, h]

theorem mem_ownOps {lr r : Nat} {ops : List Op} {o : Op} (h : o ∈ ownOps lr r ops) :
    o ∈ ops ∧ o.addr >>> lr = r := by
  simpa [ownOps, List.mem_filter] using h

theorem stepSpec_other (W lr : Nat) (arr : Nat → Nat) (op : Op) (r : Nat) (h : op.addr >>> lr ≠ r) :
    (stepSpec W lr arr op).1 r = arr r := by
  have h' : ¬ r = op.addr >>> lr := fun e => h e.symm
  cases op with
  | load a | loadAtomic a => rfl
  | store a v | storeAtomic a v | setZero a | setZeroAtomic a
  | fetchAdd a v | fetchSub a v | fetchAnd a v | fetchOr a v =>
    simp only [Op.addr] at h'
    simp [stepSpec, upd, h']
  | cmpxchg a o n =>
    simp only [Op.addr] at h'
    simp only [stepSpec]
    split <;> simp [upd, h']
  | fetchUpdate a f =>
    simp only [Op.addr] at h'
    simp only [stepSpec]
    split <;> simp [upd, h']

theorem stepSpec_congr (W lr : Nat) (arr arr' : Nat → Nat) (op : Op)
    (h : arr (op.addr >>> lr) = arr' (op.addr >>> lr)) :
    (stepSpec W lr arr op).2 = (stepSpec W lr arr' op).2 ∧
    (stepSpec W lr arr op).1 (op.addr >>> lr) = (stepSpec W lr arr' op).1 (op.addr >>> lr) := by
  cases op with
  | load a | loadAtomic a =>
    simp only [Op.addr] at h
    simp [stepSpec, Op.addr, h]
  | store a v | storeAtomic a v | setZero a | setZeroAtomic a
  | fetchAdd a v | fetchSub a v | fetchAnd a v | fetchOr a v =>
    simp only [Op.addr] at h
    simp [stepSpec, Op.addr, upd, h]
  | cmpxchg a o n =>
    simp only [Op.addr] at h
    simp only [stepSpec, Op.addr, h]
    split <;> simp [upd, h]
  | fetchUpdate a f =>
    simp only [Op.addr] at h
    simp only [stepSpec, Op.addr, h]
    split <;> simp [upd, h]

/-- **owner view (abstract array)**: in ANY interleaving `ops`, the field of region `r` ends with the
value, and the calls on region `r` return the values, that the calls on `r` alone produce — from any
array that agrees on `r`. (`W` is the field width in bits, `lr` the log of the region size.) -/
theorem runSpec_owner_view (W lr : Nat) (ops : List Op) (r : Nat) (arr arr' : Nat → Nat)
    (h : arr r = arr' r) :
    (runSpec W lr arr ops).1 r = (runSpec W lr arr' (ownOps lr r ops)).1 r ∧
    ownRets lr r ops (runSpec W lr arr ops).2 = (runSpec W lr arr' (ownOps lr r ops)).2 := by
  induction ops generalizing arr arr' with
  | nil => exact ⟨h, by rw [ownRets_nil]; rfl⟩
  | cons op ops ih =>
    by_cases hr : op.addr >>> lr = r
    · -- a call of the owner: same return value, same new field value
      have hc := stepSpec_congr W lr arr arr' op (by rw [hr]; exact h)
      rw [hr] at hc
      obtain ⟨i1, i2⟩ := ih (stepSpec W lr arr op).1 (stepSpec W lr arr' op).1 hc.2
      rw [ownOps_cons_own lr r op ops hr, runSpec_cons_fst, runSpec_cons_snd, runSpec_cons_fst,
        runSpec_cons_snd, ownRets_cons_own lr r op ops _ _ hr]
      exact ⟨i1, by rw [i2, hc.1]⟩
    · -- a call of another thread on another region: invisible for `r`
      have ho := stepSpec_other W lr arr op r hr
      obtain ⟨i1, i2⟩ := ih (stepSpec W lr arr op).1 arr' (ho.trans h)
      rw [ownOps_cons_other lr r op ops hr, runSpec_cons_fst, runSpec_cons_snd,
        ownRets_cons_other lr r op ops _ _ hr]
      exact ⟨i1, i2⟩

/-- **independence of the other threads (abstract array)**: two interleavings with the same calls on region `r`, from
arrays that agree on `r`, cannot be told apart on `r` — whatever the other threads do. -/
theorem owner_view_interleaving_independent (W lr : Nat) (ops₁ ops₂ : List Op) (r : Nat)
    (arr₁ arr₂ : Nat → Nat) (h : arr₁ r = arr₂ r) (ho : ownOps lr r ops₁ = ownOps lr r ops₂) :
    (runSpec W lr arr₁ ops₁).1 r = (runSpec W lr arr₂ ops₂).1 r ∧
    ownRets lr r ops₁ (runSpec W lr arr₁ ops₁).2 = ownRets lr r ops₂ (runSpec W lr arr₂ ops₂).2 := by
  obtain ⟨a1, a2⟩ := runSpec_owner_view W lr ops₁ r arr₁ arr₁ rfl
  obtain ⟨b1, b2⟩ := runSpec_owner_view W lr ops₂ r arr₂ arr₁ h.symm
  rw [a1, a2, b1, b2, ho]
  exact ⟨rfl, rfl⟩

/-- **owner view (implementation model)**: for any list of valid calls — any interleaving of any number
of threads — on the byte-level memory, the calls addressing region `r` return exactly what the SAME
calls return when run alone on a plain array holding the initial value of that field, and the field ends
with the value they alone produce. -/
theorem concurrent_owner_view (debug : Bool) (s : Spec) (hs : s.ok) (ops : List Op)
    (hv : ∀ op ∈ ops, op.valid s) (m : Mem) (hm : ByteMem m) (r : Nat) :
    ∃ m' rets, runImpl debug s m ops = some (m', rets) ∧
      absArr m' s r =
        (runSpec (2 ^ s.logBits) s.logRegion (absArr m s) (ownOps s.logRegion r ops)).1 r ∧
      ownRets s.logRegion r ops rets =
        (runSpec (2 ^ s.logBits) s.logRegion (absArr m s) (ownOps s.logRegion r ops)).2 := by
  obtain ⟨m', rets, h1, h2⟩ := history_refines debug s hs ops hv m hm
  obtain ⟨o1, o2⟩ := runSpec_owner_view (2 ^ s.logBits) s.logRegion ops r (absArr m s) (absArr m s) rfl
  rw [h2] at o1 o2
  exact ⟨m', rets, h1, o1, o2⟩

/-- **independence of the other threads (implementation model)**: two interleavings of valid calls with
the same calls on region `r`, run on byte memories whose field of `r` holds the same value, both
complete, leave the same value in the field of `r`, and return the same values to the calls on `r`. -/
theorem concurrent_interleaving_independent (debug : Bool) (s : Spec) (hs : s.ok) (ops₁ ops₂ : List Op)
    (hv₁ : ∀ op ∈ ops₁, op.valid s) (hv₂ : ∀ op ∈ ops₂, op.valid s)
    (m₁ m₂ : Mem) (hm₁ : ByteMem m₁) (hm₂ : ByteMem m₂) (r : Nat)
    (h : absArr m₁ s r = absArr m₂ s r)
    (ho : ownOps s.logRegion r ops₁ = ownOps s.logRegion r ops₂) :
    ∃ m₁' rets₁ m₂' rets₂,
      runImpl debug s m₁ ops₁ = some (m₁', rets₁) ∧ runImpl debug s m₂ ops₂ = some (m₂', rets₂) ∧
      absArr m₁' s r = absArr m₂' s r ∧
      ownRets s.logRegion r ops₁ rets₁ = ownRets s.logRegion r ops₂ rets₂ := by
  obtain ⟨m₁', rets₁, h1, h2⟩ := history_refines debug s hs ops₁ hv₁ m₁ hm₁
  obtain ⟨m₂', rets₂, g1, g2⟩ := history_refines debug s hs ops₂ hv₂ m₂ hm₂
  obtain ⟨o1, o2⟩ := owner_view_interleaving_independent (2 ^ s.logBits) s.logRegion ops₁ ops₂ r
    (absArr m₁ s) (absArr m₂ s) h ho
  rw [h2, g2] at o1 o2
  exact ⟨m₁', rets₁, m₂', rets₂, h1, g1, o1, o2⟩

/-- Two threads, `A` doing `fetchAdd 1` three times on region 0 (addresses 0..7) and `B` doing
`fetchAdd 3` twice on region 1 (addresses 8..15) of a 2-bit table, interleaved `A B A B A`:
`A` sees `0, 1, 2` and leaves `3`; `B` sees `0, 3` and leaves `(3 + 3) % 4 = 2`. -/
example :
    let ops : List Op := [.fetchAdd 0 1, .fetchAdd 8 3, .fetchAdd 0 1, .fetchAdd 8 3, .fetchAdd 0 1]
    let out := runSpec 2 3 (fun _ => 0) ops
    ownRets 3 0 ops out.2 = [.val 0, .val 1, .val 2] ∧ out.1 0 = 3 ∧
    ownRets 3 1 ops out.2 = [.val 0, .val 3] ∧ out.1 1 = 2 ∧
    (ownOps 3 0 ops).length = 3 ∧ (ownOps 3 1 ops).length = 2 ∧
    (runSpec 2 3 (fun _ => 0) (ownOps 3 0 ops)).2 = [.val 0, .val 1, .val 2] ∧
    (runSpec 2 3 (fun _ => 0) (ownOps 3 1 ops)).2 = [.val 0, .val 3] := by
  decide

/-- another interleaving (`B B A A A`) of the same two threads: the same own-returns -/
example :
    let ops : List Op := [.fetchAdd 8 3, .fetchAdd 8 3, .fetchAdd 0 1, .fetchAdd 0 1, .fetchAdd 0 1]
    let out := runSpec 2 3 (fun _ => 0) ops
    ownRets 3 0 ops out.2 = [.val 0, .val 1, .val 2] ∧ out.1 0 = 3 ∧
    ownRets 3 1 ops out.2 = [.val 0, .val 3] ∧ out.1 1 = 2 := by
  decide

/-- the first interleaving (`A B A B A`) on the byte-level model: a 2-bit table (`logBits = 1`), regions 0 and 1 share
the metadata byte at `start`; all calls are valid, and the implementation returns the same own values. -/
example :
    let s : Spec := { start := 1000, logBits := 1, logRegion := 3 }
    let ops : List Op := [.fetchAdd 0 1, .fetchAdd 8 3, .fetchAdd 0 1, .fetchAdd 8 3, .fetchAdd 0 1]
    s.ok ∧ (∀ op ∈ ops, op.valid s) ∧
    metaAddr s 0 = metaAddr s 8 ∧
    ((runImpl true s (fun _ => 0) ops).map fun x => (ownRets 3 0 ops x.2, ownRets 3 1 ops x.2, x.1 1000)) =
      some ([.val 0, .val 1, .val 2], [.val 0, .val 3], 0b1011) := by
  refine ⟨by decide, ?_, by decide, by decide⟩
  intro op hop
  simp only [List.mem_cons, List.not_mem_nil, or_false] at hop
  rcases hop with rfl | rfl | rfl | rfl | rfl <;> (unfold Op.valid; decide)

#print axioms stepSpec_other
#print axioms stepSpec_congr
#print axioms runSpec_owner_view
#print axioms owner_view_interleaving_independent
#print axioms concurrent_owner_view
#print axioms concurrent_interleaving_independent

end Mmtk.SideMeta
