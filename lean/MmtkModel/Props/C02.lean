import MmtkModel.Props.C01
/-!
# C02 — New allocations never overlap live objects

What the monitor `gcm` executes is sound: at every snapshot, sorting by start address and comparing neighbours implies
pairwise disjointness of the whole list (`noOverlap_sound`); at every `alloc`, an accepted allocation is disjoint from
every allocation made since the last pause and from every object of the last snapshot that is `Reachable` in the shadow
heap (`allocClash_sound`, through `reach_iff`).

Level: proof of the monitor's model; partial w.r.t. the code (the allocators are sampled by the runs).
-/
namespace Mmtk.Heap

theorem firstOverlap_none_iff (x : Iv) : ∀ l : List Iv, firstOverlap x l = none ↔ ∀ y ∈ l, x.disjoint y
  | [] => by simp [firstOverlap]
  | y :: rest => by
    rw [firstOverlap, ite_else_some_eq_none, firstOverlap_none_iff x rest, List.forall_mem_cons]
    rfl

theorem firstOverlap_some {x : Iv} : ∀ {l : List Iv} {y : Iv}, firstOverlap x l = some y → y ∈ l ∧ ¬ x.disjoint y
  | [], _, h => by simp [firstOverlap] at h
  | z :: rest, y, h => by
    unfold firstOverlap at h
    by_cases hd : x.start + x.size ≤ z.start ∨ z.start + z.size ≤ x.start
    · rw [if_pos hd] at h
      have ⟨h1, h2⟩ := firstOverlap_some h
      exact ⟨List.mem_cons_of_mem _ h1, h2⟩
    · rw [if_neg hd] at h
      cases h
      exact ⟨List.mem_cons_self, hd⟩

theorem disjoint_symm {a b : Iv} (h : a.disjoint b) : b.disjoint a := Or.symm h

theorem pairwise_insert {x : Iv} {l : List Iv} (hl : l.Pairwise Iv.disjoint) (hx : firstOverlap x l = none) :
    (x :: l).Pairwise Iv.disjoint :=
  List.pairwise_cons.2 ⟨(firstOverlap_none_iff x l).1 hx, hl⟩

/-- the neighbour check gives `end ≤ start` for EVERY ordered pair, sorted or not: `a.end ≤ b.start ≤ b.end ≤ c.start` -/
theorem adjacentOk_pairwise (l : List Iv) : adjacentOk l = true → l.Pairwise (fun a b => a.start + a.size ≤ b.start) :=
  pairwise_of_neighbours (fun a b : Iv => a.start + a.size ≤ b.start)
    (fun _ _ _ h1 h2 => Nat.le_trans h1 (Nat.le_trans (Nat.le_add_right _ _) h2)) adjacentOk (fun _ _ _ => rfl) l

/-- `adjacentOk_pairwise` as `noOverlap` meets it, on a list sorted by start; the sortedness is not needed. -/
theorem adjacentOk_sorted_pairwise (l : List Iv) (_ : l.Pairwise (fun a b => a.start ≤ b.start))
    (h : adjacentOk l = true) : l.Pairwise (fun a b => a.start + a.size ≤ b.start) :=
  adjacentOk_pairwise l h

theorem noOverlap_sound (l : List Iv) (h : noOverlap l = true) : l.Pairwise Iv.disjoint :=
  (List.mergeSort_perm l ivLe).pairwise ((adjacentOk_pairwise _ h).imp .inl) disjoint_symm

theorem allocClash_sound (h : Heap) (fresh snap : List Iv) (x : Iv) (hc : allocClash h fresh snap x = none) :
    (∀ y ∈ fresh, x.disjoint y) ∧ (∀ y ∈ snap, Reachable h y.id → x.disjoint y) := by
  unfold allocClash at hc
  split at hc
  · cases hc
  · rename_i hf
    refine ⟨(firstOverlap_none_iff x fresh).1 hf, ?_⟩
    split at hc
    · rename_i hs
      intro y hy _
      exact (firstOverlap_none_iff x snap).1 hs y hy
    · intro y hy hr
      simp only [Option.map_eq_none_iff, List.find?_eq_none] at hc
      have := hc y hy
      have hm : (reach h).getD y.id false = true := (reach_iff h y.id).2 hr
      simp only [hm, Bool.and_true, Bool.not_eq_true, Option.isSome_eq_false_iff, Option.isNone_iff_eq_none] at this
      have := (firstOverlap_none_iff x [y]).1 this
      exact this y List.mem_cons_self

example : noOverlap [⟨0, 100, 2⟩, ⟨100, 50, 1⟩, ⟨150, 8, 3⟩] = true := by
  unfold noOverlap; rw [List.mergeSort_of_pairwise (by decide)]; decide
example : noOverlap [⟨0, 100, 2⟩, ⟨100, 51, 1⟩, ⟨150, 8, 3⟩] = false := by
  unfold noOverlap; rw [List.mergeSort_of_pairwise (by decide)]; decide
example : firstOverlap ⟨40, 16, 9⟩ [⟨0, 40, 1⟩, ⟨48, 8, 2⟩] = some ⟨48, 8, 2⟩ := rfl

end Mmtk.Heap
