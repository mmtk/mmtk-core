import MmtkModel.Lemmas.Sched
import MmtkModel.Generated.Stages
/-!
# C15, first part — Stop-the-world stages open in order

Model: `Model/Sched.lean`.  Statements are about **every transition from every reachable state**
(all interleavings, all `n ≥ 1`) and every well-formed stage table (`Cfg.WF`; the table regenerated
from the linked crate is well-formed: `generated_wf`).  These are the theorems of C15 that C11, C13 and C14 build
on; none needs the counting invariants of `Props/C15.lean`.

* `open_only_when_quiescent` — a sequentially opened bucket (every stop-the-world bucket but the
  first) changes from closed to open only in a `park` transition of the last parked worker, i.e. while
  every other worker is parked, a Gc goal is current, and every enabled bucket of its open condition
  (`FIRST_STW_STAGE` and all earlier sequentially opened stages) is **empty**.
* `first_stw_opened_by_packet` — `notify_mutators_paused` opens the first stop-the-world bucket only from a
  running packet, after `stop_all_mutators`, and only when it is closed.  (That a step other than `park` opens
  no other bucket is `step_other` in `Lemmas/Sched.lean`.)
* `all_closed_at_end` — the transition that completes a GC (`gcDone` increases) is a `park`
  transition and leaves **every stop-the-world bucket closed and empty**; no worker is then running a
  packet or holding one in its local deque (`quiescent_at_end`).
-/
namespace Mmtk.Sched

theorem getD_all {α : Type} (l : List α) (d : α) (P : α → Prop) (h1 : ∀ x, x ∈ l → P x) (h2 : P d) (b : Nat) :
    P (l.getD b d) := by
  rw [List.getD_eq_getElem?_getD]
  cases h : l[b]? with
  | none => exact h2
  | some x => exact h1 x (List.mem_of_getElem? h)

open Mmtk.Generated.Stages in
theorem generated_wf (n : Nat) (hn : 0 < n) (m : Bool) : (cfg n m).WF := by
  refine ⟨hn, ?_, ?_, ?_, ?_⟩
  · show (stages.getD concIdx default).isStw = false; decide
  · show (stages.getD unconIdx default).isStw = false; decide
  · intro b
    show (stages.getD b default).isSeq = ((stages.getD b default).isStw && !(stages.getD b default).isFirstStw)
    exact getD_all stages default (fun x => x.isSeq = (x.isStw && !x.isFirstStw)) (by decide) (by decide) b
  · intro b
    show (stages.getD b default).isFirstStw = true → (stages.getD b default).isStw = true
    exact getD_all stages default (fun x => x.isFirstStw = true → x.isStw = true) (by decide) (by decide) b

/-- Empty, not open: one pass of `update_buckets` opens several buckets in a row, so in the state before the `park` the earlier
ones may still be closed (`OpenedSeq`). -/
theorem open_only_when_quiescent {c : Cfg} (hwf : c.WF) {s s' : State} {a : Act} (hr : Reachable c s)
    (hs : step c s a = some s') (b : Nat) (hb : (c.info b).isSeq = true)
    (h1 : (s.bkt b).isOpen = false) (h2 : (s'.bkt b).isOpen = true) :
    ∃ w tag, a = .park w tag ∧ w < c.n ∧ s.pc w = .parking ∧
      (∀ x, x < c.n → x ≠ w → (s.pc x).isParked = true) ∧
      s.current = some .gc ∧
      ∀ b', b' ∈ curStages c b → (s.bkt b').enabled = true → (s.bkt b').q = [] := by
  have hA := reachable_invA hr
  rcases step_other c s s' a hs with ⟨w, tag, rfl⟩ | ⟨_, _, ho⟩
  · obtain ⟨hw, hpc, hcase⟩ := step_park_eff hs
    refine ⟨w, tag, rfl, hw, hpc, ?_⟩
    rcases hcase with ⟨_, rfl⟩ | ⟨hlast, s1, r, pcs, k, hl, _, rfl⟩
    · simp only [setPc] at h2; rw [h1] at h2; cases h2
    · have h2' : (s1.bkt b).isOpen = true := h2
      have hbc : b ≠ c.concIdx := fun e => by rw [e, hwf.seq_def, hwf.conc_not_stw] at hb; cases hb
      obtain ⟨hcur, _, hem, _⟩ := (onLastParked_opens c _ s1 tag r hl b hbc).2 h1 h2'
      exact ⟨others_parked_when_last hA hw hpc hlast, hcur, hem⟩
  · rcases ho b h2 with h | h
    · rw [h1] at h; cases h
    · rw [hwf.seq_def, h] at hb; simp at hb

theorem first_stw_opened_by_packet {c : Cfg} {s s' : State} {w b : Nat} (hs : step c s (.openFirst w b) = some s') :
    (s.pc w).isExec = true ∧ s.stopped = true ∧ (c.info b).isFirstStw = true ∧ (s.bkt b).isOpen = false := by
  obtain ⟨hg, _⟩ := Option.ite_none_right_eq_some.1 hs
  exact ⟨hg.2.1, hg.2.2.2.2.1, hg.2.2.2.1, by simpa using hg.2.2.2.2.2⟩

theorem gc_end_step {c : Cfg} {s s' : State} {a : Act} (hs : step c s a = some s') (hg : s'.gcDone ≠ s.gcDone) :
    ∃ w tag s1 r pcs k, a = .park w tag ∧ w < c.n ∧ s.pc w = .parking ∧ s.parked + 1 = c.n ∧
      onLastParked c { s with parked := s.parked + 1, trace := [] } tag = some (s1, r) ∧
      s' = { s1 with pc := pcs, parked := k } := by
  rcases step_other c s s' a hs with ⟨w, tag, rfl⟩ | ⟨h, _, _⟩
  · obtain ⟨hw, hpc, hcase⟩ := step_park_eff hs
    rcases hcase with ⟨_, rfl⟩ | ⟨hlast, s1, r, pcs, k, hl, _, rfl⟩
    · exact absurd rfl hg
    · exact ⟨w, tag, s1, r, pcs, k, rfl, hw, hpc, hlast, hl, rfl⟩
  · exact absurd h hg

theorem all_closed_at_end {c : Cfg} (hwf : c.WF) {s s' : State} {a : Act} (hs : step c s a = some s')
    (hg : s'.gcDone ≠ s.gcDone) :
    (∃ w tag, a = .park w tag) ∧ s'.gcDone = s.gcDone + 1 ∧ s.current = some .gc ∧
    ∀ b, b < c.L → (c.info b).isStw = true → (s'.bkt b).isOpen = false ∧ (s'.bkt b).q = [] := by
  obtain ⟨w, tag, s1, r, pcs, k, rfl, _, _, _, hl, rfl⟩ := gc_end_step hs hg
  refine ⟨⟨w, tag, rfl⟩, ?_⟩
  rcases onLastParked_stopped c hwf _ s1 tag r hl with ⟨_, _, h, _⟩ | ⟨_, _, h1, _, h2, h3⟩
  · exact absurd h hg
  · exact ⟨h1, h2, h3⟩

/-- at the end of a GC no worker runs a packet and every local deque is empty: nobody covers anything when the last worker parks -/
theorem quiescent_at_end {c : Cfg} (hwf : c.WF) (hmut : c.mutAddOpen = false) {s s' : State} {a : Act}
    (hr : Reachable c s) (hs : step c s a = some s') (hg : s'.gcDone ≠ s.gcDone) :
    (∀ x, x < c.n → (s.pc x).isExec = false) ∧ (∀ v, v < c.n → s'.buf v = []) := by
  have inv := reachable_inv hwf.npos hmut hr
  obtain ⟨w, tag, s1, r, pcs, k, rfl, hw, hpc, hlast, hl, rfl⟩ := gc_end_step hs hg
  have hno := no_cover_when_last inv.a hw hpc hlast
  obtain ⟨_, hbuf⟩ := noRun_of_invC inv.c' hno
  have f := frame_onLastParked hl
  constructor
  · intro x hx
    cases he2 : (s.pc x).isExec with
    | false => rfl
    | true => exact absurd (covers_of_exec (.buf 0) he2) (hno x _ hx)  -- a running worker covers every container; any will do
  · intro v hv; show s1.buf v = []; rw [f.buf]; exact hbuf v hv

/-- `quiescent_at_end` speaks of the workers before the completing step; that step is a `park`, which starts no packet -/
theorem idle_at_end {c : Cfg} (hwf : c.WF) (hmut : c.mutAddOpen = false) {s s' : State} {a : Act}
    (hr : Reachable c s) (hs : step c s a = some s') (hg : s'.gcDone ≠ s.gcDone) :
    ∀ x, x < c.n → (s'.pc x).isExec = false := by
  obtain ⟨⟨w, tag, rfl⟩, -⟩ := all_closed_at_end hwf hs hg
  intro x hx
  rw [step_park_isExec hs]; exact (quiescent_at_end hwf hmut hr hs hg).1 x hx

end Mmtk.Sched
