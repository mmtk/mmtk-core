import MmtkModel.Model.AllocArith
import MmtkModel.Props.C35  -- brings `Props.C33`
import MmtkModel.Lemmas.AllocRegions
/-!
# C03 (algorithm) — what the four allocators return: aligned and inside the granted memory

Models: `Model/AllocArith.lean` (the allocators of `Model/AllocModel.lean` composed, branch for branch,
with the real `align_allocation` / `get_maximum_aligned_size` / `bytes_to_pages_up` of
`Model/Arith.lean`).  C03: *a successful `alloc(size, align, offset)` returns a non-zero address `A`
with `(A + offset) % align = 0` and `[A, A + size)` inside MMTk-managed memory of the space; the call
terminates for every legal argument combination*.

Proved for EVERY input that is legal in the
sense of `align_allocation`'s own assertions (`LegalAlign`: power-of-two `MIN_ALIGNMENT ≤ align ≤
MAX_ALIGNMENT`, `offset` a multiple of `MIN_ALIGNMENT`) plus explicit address-range hypotheses
(`… < 2^63`: user space) and `MIN_ALIGNMENT`-aligned buffer starts; generic in the VM constants and
in the build profile (`debug`).

The idea.  Every allocator calls `align_allocation` with `known_alignment = MIN_ALIGNMENT`; on legal
input it never panics and returns `region + padSpec region align offset`, the least admissible
address, with `padSpec ≤ align - MIN_ALIGNMENT` (`alignAllocation_good`, from C33's `alignAllocation_val`).  Hence memory with
room for `get_maximum_aligned_size(size, align) = size + align - MIN_ALIGNMENT` behind a
`MIN_ALIGNMENT`-aligned start always holds the aligned object: stated once for a bare region
(`alignAllocation_fits`: the large-object page run, the free-list cell) and once for a bump buffer
(`fresh_buffer_fits`, read off the case analysis `bump_fast_cases` of the fast path: the block acquired
by the slow path, an Immix hole, an Immix clean block).  `ResultGood` packages C03's clauses with respect
to the memory granted; each allocator's theorem is one step from its "fits" theorem.

Two computations that leave the slack out show why it is needed: `acquire_block` of mmtk-core before commit 6e7a2da
(not the code in /repo now; `acquireBlockOld`, defect `gc:bump-align-leak`: `fresh_block_fits_iff`, `bump_align_leak`), and
the variant `pages = bytes_to_pages_up(size)` of the large-object allocator (`losAllocNoSlack`, the seeded patch of
/verif/seeded/C03: `los_no_slack_overflows`).  For the free list the top of the size range (`alignedSize > MAX_BIN_SIZE`) is
the C35 defect `msbins:aligned-size-exceeds-max-bin`, excluded by hypothesis `hs` as in C35.

NOT covered here (and why): that the granted region itself lies in the space (C26/C27 page
resources, C02 guards), zeroing of the bytes (memory contents are not modelled; observed by the
monitor, Props/C03.lean), the precise-stress variants of the slow paths, `handle_obvious_oom_request`,
and `debug_assert!(region.is_aligned_to(ALLOC_END_ALIGNMENT))` (the default `ALLOC_END_ALIGNMENT = 1`).
-/
namespace Mmtk.AllocArith
open Mmtk.Arith Mmtk.AllocModel Mmtk.Bits

/-- **align_allocation as the allocators call it** (`known_alignment = MIN_ALIGNMENT`), for EVERY legal
`(align, offset)` and every `MIN_ALIGNMENT`-aligned region start below `2^63 - align`: never
panics, returns `region + padSpec` — the least admissible address —, which is again
`MIN_ALIGNMENT`-aligned, and the padding is at most `align - MIN_ALIGNMENT`. -/
theorem alignAllocation_good {vm : VMConsts} (debug : Bool) {ka km kx region align offset : Nat}
    (L : LegalAlign vm ka km kx align offset vm.minAlign)
    (hreg : region + align < 2^63) (hregk : vm.minAlign ∣ region) :
    ∃ r, alignAllocation vm debug region align offset vm.minAlign = some r ∧
      region ≤ r ∧ r + vm.minAlign ≤ region + align ∧ (r + offset) % align = 0 ∧
      vm.minAlign ∣ r ∧ r = region + padSpec region align offset := by
  obtain ⟨-, hpos, hle, hmax, hdk, hoffk, -⟩ := L.facts
  have ha : 0 < align := Nat.lt_of_lt_of_le hpos hle
  have hk := Nat.dvd_add hregk hoffk
  obtain ⟨-, hd⟩ := padSpec_spec ha region offset
  obtain ⟨hkp, hpad⟩ := padSpec_add_le hdk hk ha
  refine ⟨region + padSpec region align offset, ?_, Nat.le_add_right _ _, by omega,
    by rw [Nat.add_right_comm]; exact Nat.mod_eq_zero_of_dvd hd, Nat.dvd_add hregk hkp, rfl⟩
  rw [alignAllocation_val debug L hreg]
  split
  · -- no alignment beyond `MIN_ALIGNMENT`: the padding is zero
    have : align = vm.minAlign := by omega
    rw [padSpec_eq_zero (this ▸ hk)]; rfl
  · rfl

theorem maxAlignedSize_val {vm : VMConsts} (debug : Bool) {ka km kx size align offset : Nat}
    (L : LegalAlign vm ka km kx align offset vm.minAlign)
    (hsz : size + align < 2^64) (hszk : vm.minAlign ∣ size) :
    maxAlignedSize vm debug size align vm.minAlign = some (size + align - vm.minAlign) := by
  obtain ⟨-, -, hle, hmax, -⟩ := L.facts
  have hka := L.hka
  rw [maxAlignedSize_eq vm debug km size align vm.minAlign L.hmin (by omega) (Nat.le_refl _) (fun _ => hszk) hsz]
  split <;> congr 1 <;> omega

theorem alignAllocation_fits {vm : VMConsts} (debug : Bool) {ka km kx region room size align offset : Nat}
    (L : LegalAlign vm ka km kx align offset vm.minAlign)
    (hreg : region + align < 2^63) (hregk : vm.minAlign ∣ region)
    (hroom : size + align ≤ room + vm.minAlign) :
    ∃ res, alignAllocation vm debug region align offset vm.minAlign = some res ∧
      (res + offset) % align = 0 ∧ region ≤ res ∧ res + size ≤ region + room ∧
      res = region + padSpec region align offset := by
  obtain ⟨r, hr, hge, hpad, hmod, -, hreq⟩ :=
    alignAllocation_good debug L hreg hregk
  exact ⟨r, hr, hmod, hge, by omega, hreq⟩

/-- a legal bump-allocation request in state `b`: legal `(align, offset)`, a `MIN_ALIGNMENT`-aligned
cursor (blocks are page aligned and sizes are multiples of `MIN_ALIGNMENT`), user-space addresses -/
structure BumpLegal (vm : VMConsts) (ka km kx : Nat) (b : Bump) (size align offset : Nat) : Prop where
  legal : LegalAlign vm ka km kx align offset vm.minAlign
  cursorAligned : vm.minAlign ∣ b.cursor
  cursorSmall : b.cursor + align < 2^63
  sizeSmall : size < 2^63

theorem bump_fast_cases {vm : VMConsts} (debug : Bool) {ka km kx : Nat} {b : Bump} {size align offset : Nat}
    (H : BumpLegal vm ka km kx b size align offset) :
    ∃ res, res = b.cursor + padSpec b.cursor align offset ∧ (res + offset) % align = 0 ∧
      vm.minAlign ∣ res ∧ b.cursor ≤ res ∧ res + vm.minAlign ≤ b.cursor + align ∧
      ((b.limit < res + size ∧ bumpAllocAligned vm debug b size align offset = .slow) ∨
       (res + size ≤ b.limit ∧
        bumpAllocAligned vm debug b size align offset = .ok res ⟨res + size, b.limit⟩)) := by
  obtain ⟨L, hck, hcs, hss⟩ := H
  obtain ⟨r, hr, hge, hpad, hmod, hrk, hreq⟩ :=
    alignAllocation_good debug L hcs hck
  have hlt : r + size < 2^64 := by omega
  refine ⟨r, hreq, hmod, hrk, hge, hpad, ?_⟩
  by_cases hfit : r + size > b.limit
  · exact .inl ⟨hfit, by simp only [bumpAllocAligned, hr, cadd, hlt, if_true, hfit]⟩
  · exact .inr ⟨Nat.le_of_not_gt hfit, by simp only [bumpAllocAligned, hr, cadd, hlt, if_true, hfit, if_false]⟩

theorem bump_fast_ok {vm : VMConsts} {debug : Bool} {ka km kx : Nat} {b : Bump} {size align offset : Nat}
    (H : BumpLegal vm ka km kx b size align offset) {res : Nat} {b' : Bump}
    (h : bumpAllocAligned vm debug b size align offset = .ok res b') :
    res = b.cursor + padSpec b.cursor align offset ∧ (res + offset) % align = 0 ∧
      vm.minAlign ∣ res ∧ b.cursor ≤ res ∧ res + vm.minAlign ≤ b.cursor + align ∧
      res + size ≤ b.limit ∧ b' = ⟨res + size, b.limit⟩ := by
  obtain ⟨r, h1, h2, h3, h4, h5, ⟨-, e⟩ | ⟨hfit, e⟩⟩ := bump_fast_cases debug H
  · rw [e] at h; cases h
  · rw [e] at h; cases h
    exact ⟨h1, h2, h3, h4, h5, hfit, rfl⟩

theorem bump_fast_never_panics (vm : VMConsts) (debug : Bool) (ka km kx : Nat) (b : Bump)
    (size align offset : Nat) (H : BumpLegal vm ka km kx b size align offset) :
    bumpAllocAligned vm debug b size align offset ≠ .panic := by
  obtain ⟨_, -, -, -, -, -, ⟨-, e⟩ | ⟨-, e⟩⟩ := bump_fast_cases debug H <;>
    rw [e] <;> exact Outcome.noConfusion

/-- the composed fast path refines the C02 model's `bumpAlloc` with `pad = res - cursor`; hence
`bump_guard` / `bump_seq` (C02Algo) apply to every successful real allocation -/
theorem bump_fast_refines (vm : VMConsts) (debug : Bool) (ka km kx : Nat) (b : Bump) (size align offset : Nat)
    (H : BumpLegal vm ka km kx b size align offset) (res : Nat) (b' : Bump)
    (h : bumpAllocAligned vm debug b size align offset = .ok res b') :
    bumpAlloc b (res - b.cursor) size = some (res, b') := by
  obtain ⟨-, -, -, h4, -, h6, rfl⟩ := bump_fast_ok H h
  unfold bumpAlloc
  rw [Nat.add_sub_cancel' h4, if_neg (Nat.not_lt.2 h6)]

/-- a buffer with room for the worst-case alignment slack (`size + align - MIN_ALIGNMENT`, i.e.
`get_maximum_aligned_size(size, align)`) behind its cursor always serves the request — the sufficient
condition every `set_limit … ; self.alloc(…)` sequence relies on. -/
theorem bump_fits {vm : VMConsts} (debug : Bool) {ka km kx : Nat} {b : Bump} {size align offset : Nat}
    (L : LegalAlign vm ka km kx align offset vm.minAlign) (hst : vm.minAlign ∣ b.cursor)
    (hsm : b.cursor + align < 2^63) (hlim : b.limit < 2^63)
    (hcap : b.cursor + (size + align) ≤ b.limit + vm.minAlign) :
    ∃ res b', res = b.cursor + padSpec b.cursor align offset ∧
      bumpAllocAligned vm debug b size align offset = .ok res b' ∧
      (res + offset) % align = 0 ∧ b.cursor ≤ res ∧ res + size ≤ b.limit ∧ b' = ⟨res + size, b.limit⟩ := by
  obtain ⟨-, -, hle, -⟩ := L.facts
  obtain ⟨r, hreq, hmod, -, hge, hpad, ⟨hno, -⟩ | ⟨hfit, e⟩⟩ :=
    bump_fast_cases debug (b := b) (size := size) ⟨L, hst, hsm, by omega⟩
  · omega
  · exact ⟨r, _, hreq, e, hmod, hge, hfit, rfl⟩

theorem fresh_buffer_fits (vm : VMConsts) (debug : Bool) (ka km kx : Nat) (start cap size align offset : Nat)
    (H : BumpLegal vm ka km kx ⟨start, start + cap⟩ size align offset)
    (hcap : size + align ≤ cap + vm.minAlign) :
    ∃ res b', bumpAllocAligned vm debug ⟨start, start + cap⟩ size align offset = .ok res b' ∧
      (res + offset) % align = 0 ∧ start ≤ res ∧ res + size ≤ start + cap ∧
      b' = ⟨res + size, start + cap⟩ := by
  obtain ⟨r, -, hmod, -, hge, hpad, ⟨hno, -⟩ | ⟨hfit, e⟩⟩ := bump_fast_cases debug H
  · simp only at hno hpad; omega
  · exact ⟨r, _, e, hmod, hge, hfit, rfl⟩

/-- `x` rounded up to a multiple of `n`, the way `(x + (n-1)) & !(n-1)` computes it -/
theorem roundUp_bounds (x n : Nat) (hn : 0 < n) :
    x ≤ x + (n - 1) - (x + (n - 1)) % n ∧ x + (n - 1) - (x + (n - 1)) % n < x + n ∧
      (x + (n - 1) - (x + (n - 1)) % n) % n = 0 := by
  have hm := Nat.mod_lt (x + (n - 1)) hn
  exact ⟨Nat.le_sub_of_add_le (Nat.add_le_add_left (Nat.le_pred_of_lt hm) x),
    Nat.lt_of_le_of_lt (Nat.sub_le _ _) (Nat.add_lt_add_left (Nat.pred_lt (Nat.ne_of_gt hn)) x),
    Nat.mod_eq_zero_of_dvd (Nat.dvd_sub_mod _)⟩

private theorem cadd_fits (debug : Bool) (a b : Nat) (h : a + b < 2^64) : cadd debug a b = some (a + b) :=
  if_pos h

/-- generic in the block size `2^k` so that no proof step computes with the literal -/
theorem roundUpMask_pow (debug : Bool) (size k : Nat) (hk : k < 64) (hs : size + (2^k - 1) < 2^64) :
    roundUpMask debug (2^k - 1) size = some (size + (2^k - 1) - (size + (2^k - 1)) % 2^k) := by
  simp only [roundUpMask, cadd_fits debug _ _ hs, and_wnot_mask _ k hk hs]

/-- About `acquireBlockSizeOld`, the block size of mmtk-core before commit 6e7a2da: `block_size = (size + BLOCK_MASK) &
!BLOCK_MASK` is `size` rounded up to a multiple of the 32 KB block: it covers `size` — and nothing else: **no alignment
slack is included**.  The present `acquireBlockSize` is the same rounding applied to `get_maximum_aligned_size`
(`acquireBlockSizeWith_eq`), which is how `fresh_block_always_fits` reuses this lemma. -/
theorem acquireBlockSize_spec (debug : Bool) (size : Nat) (hs : size + 32767 < 2^64) :
    ∃ bs, acquireBlockSizeOld debug size = some bs ∧ bs = size + 32767 - (size + 32767) % 32768 ∧
      size ≤ bs ∧ bs < size + 32768 ∧ bs % 32768 = 0 :=
  ⟨_, roundUpMask_pow debug size 15 (by decide) hs, rfl, roundUp_bounds size 32768 (by decide)⟩

theorem acquireBlockSizeWith_eq {vm : VMConsts} {debug : Bool} (mask : Nat) {size align m : Nat}
    (h : maxAlignedSize vm debug size align vm.minAlign = some m) :
    acquireBlockSizeWith vm debug mask size align = roundUpMask debug mask m := by
  unfold acquireBlockSizeWith; rw [h]

theorem acquireBlockWithOld_eq (vm : VMConsts) {debug : Bool} {mask size : Nat} (align offset : Nat) {start bs : Nat}
    (hbs : roundUpMask debug mask size = some bs) (hlim : start + bs < 2^64) :
    acquireBlockWithOld vm debug mask size align offset start =
      bumpAllocAligned vm debug ⟨start, start + bs⟩ size align offset := by
  simp only [acquireBlockWithOld, hbs, cadd_fits debug _ _ hlim]

theorem acquireBlockWith_eq {vm : VMConsts} {debug : Bool} {mask size align : Nat} (offset : Nat) {start bs : Nat}
    (hbs : acquireBlockSizeWith vm debug mask size align = some bs) (hlim : start + bs < 2^64) :
    acquireBlockWith vm debug mask size align offset start =
      bumpAllocAligned vm debug ⟨start, start + bs⟩ size align offset := by
  simp only [acquireBlockWith, hbs, cadd_fits debug _ _ hlim]

theorem acquireBlockWithOld_cases {vm : VMConsts} {debug : Bool} {ka km kx mask start size align offset bs : Nat}
    (L : LegalAlign vm ka km kx align offset vm.minAlign) (hst : vm.minAlign ∣ start)
    (hbs : roundUpMask debug mask size = some bs) (hsm : start + align < 2^63) (hlim : start + bs < 2^64)
    (hsz : size < 2^63) :
    (start + padSpec start align offset + offset) % align = 0 ∧
      ((padSpec start align offset + size ≤ bs ∧
          acquireBlockWithOld vm debug mask size align offset start =
            .ok (start + padSpec start align offset)
              ⟨start + padSpec start align offset + size, start + bs⟩) ∨
       (bs < padSpec start align offset + size ∧
          acquireBlockWithOld vm debug mask size align offset start = .slow)) := by
  rw [acquireBlockWithOld_eq vm align offset hbs hlim]
  obtain ⟨r, rfl, hmod, -, -, -, hc⟩ := bump_fast_cases debug (b := ⟨start, start + bs⟩)
    ⟨L, hst, hsm, hsz⟩
  simp only at hc hmod
  refine ⟨hmod, ?_⟩
  rcases hc with ⟨hno, e⟩ | ⟨hfit, e⟩
  · exact .inr ⟨by omega, e⟩
  · exact .inl ⟨by omega, e⟩

theorem acquireBlockWith_fits {vm : VMConsts} {debug : Bool} {ka km kx mask start size align offset bs : Nat}
    (L : LegalAlign vm ka km kx align offset vm.minAlign) (hst : vm.minAlign ∣ start)
    (hbs : acquireBlockSizeWith vm debug mask size align = some bs)
    (hroom : size + align ≤ bs + vm.minAlign) (hsm : start + align < 2^63) (hlim : start + bs < 2^63) :
    ∃ res b', res = start + padSpec start align offset ∧
      acquireBlockWith vm debug mask size align offset start = .ok res b' ∧
      (res + offset) % align = 0 ∧ start ≤ res ∧ res + size ≤ start + bs ∧
      b' = ⟨res + size, start + bs⟩ := by
  rw [acquireBlockWith_eq offset hbs (Nat.lt_trans hlim (by decide))]
  exact bump_fits debug (b := ⟨start, start + bs⟩) L hst hsm hlim
    (Nat.add_assoc start bs _ ▸ Nat.add_le_add_left hroom start)

/-- a request presented to `acquire_block` with the block `space.acquire` returned at `start` -/
structure FreshLegal (vm : VMConsts) (ka km kx : Nat) (start size align offset : Nat) : Prop where
  legal : LegalAlign vm ka km kx align offset vm.minAlign
  startAligned : vm.minAlign ∣ start
  /-- 32768 = `BLOCK_SIZE` of bumpallocator.rs: the end of the block, `start + roundup(size + align, 32 KB)`, stays below `2^63` -/
  small : start + size + 32768 + align < 2^63

theorem FreshLegal.bounds {vm : VMConsts} {ka km kx start size align offset : Nat}
    (H : FreshLegal vm ka km kx start size align offset) :
    start + align < 2^63 ∧ size < 2^63 ∧ size + align < 2^64 ∧ size + 32767 < 2^64 ∧
      size + align - vm.minAlign + 32767 < 2^64 := by
  have := H.small
  omega

/-- About `acquireBlockOld`, the `acquire_block` of mmtk-core before commit 6e7a2da (as are `fresh_block_fits_iff`,
`fresh_block_ok`, `fresh_block_never_panics_old`, `fresh_block_fits_offset_multiple`, `bump_align_leak`; `fresh_block_always_fits`,
`fresh_block_never_panics` are about the present one).  **The precise condition under which a fresh block fits the aligned
request**: with `bs = roundup(size, 32 KB)` (what that `acquire_block` asks the space for) and
`pad = padSpec start align offset`, it succeeds if `pad + size ≤ bs`; otherwise the
allocation falls through to `alloc_slow` *again* although the block was acquired for this very
request.  (As an equivalence: `fresh_block_fits_iff`.) -/
theorem fresh_block_cases {vm : VMConsts} (debug : Bool) {ka km kx start size align offset : Nat}
    (H : FreshLegal vm ka km kx start size align offset) :
    ∃ bs, acquireBlockSizeOld debug size = some bs ∧ bs = size + 32767 - (size + 32767) % 32768 ∧
      (start + padSpec start align offset + offset) % align = 0 ∧
      ((padSpec start align offset + size ≤ bs ∧
          acquireBlockOld vm debug size align offset start =
            .ok (start + padSpec start align offset)
              ⟨start + padSpec start align offset + size, start + bs⟩) ∨
       (bs < padSpec start align offset + size ∧
          acquireBlockOld vm debug size align offset start = .slow)) := by
  obtain ⟨b1, b2, -, b4, -⟩ := H.bounds
  obtain ⟨L, hk, hsm⟩ := H
  obtain ⟨bs, hbs, hbe, -, hlt, -⟩ := acquireBlockSize_spec debug size b4
  -- (`hbe` is kept out of `omega`'s sight: it would case on the `% 32768`)
  exact ⟨bs, hbs, hbe, acquireBlockWithOld_cases L hk hbs b1 (by clear hbe; omega) b2⟩

theorem fresh_block_fits_iff (vm : VMConsts) (debug : Bool) (ka km kx : Nat) (start size align offset : Nat)
    (H : FreshLegal vm ka km kx start size align offset) :
    (∃ res b', acquireBlockOld vm debug size align offset start = .ok res b') ↔
      padSpec start align offset + size ≤ size + 32767 - (size + 32767) % 32768 := by
  obtain ⟨bs, -, hbe, -, ⟨h1, e⟩ | ⟨h1, e⟩⟩ := fresh_block_cases debug H <;>
    rw [← hbe]
  · exact ⟨fun _ => h1, fun _ => ⟨_, _, e⟩⟩
  · rw [e]
    exact ⟨fun ⟨_, _, h⟩ => Outcome.noConfusion h, fun h => absurd h (Nat.not_le.2 h1)⟩

theorem fresh_block_ok {vm : VMConsts} {debug : Bool} {ka km kx start size align offset : Nat}
    (H : FreshLegal vm ka km kx start size align offset) {res : Nat} {b' : Bump}
    (h : acquireBlockOld vm debug size align offset start = .ok res b') :
    ∃ bs, acquireBlockSizeOld debug size = some bs ∧ (res + offset) % align = 0 ∧ start ≤ res ∧
      res + size ≤ start + bs ∧ b' = ⟨res + size, start + bs⟩ := by
  obtain ⟨bs, hbs, -, hmod, ⟨h1, e⟩ | ⟨-, e⟩⟩ := fresh_block_cases debug H
  · rw [e] at h; cases h
    exact ⟨bs, hbs, hmod, Nat.le_add_right _ _, by omega, rfl⟩
  · rw [e] at h; cases h

theorem fresh_block_never_panics_old (vm : VMConsts) (debug : Bool) (ka km kx : Nat) (start size align offset : Nat)
    (H : FreshLegal vm ka km kx start size align offset) :
    acquireBlockOld vm debug size align offset start ≠ .panic := by
  obtain ⟨_, -, -, -, ⟨-, e⟩ | ⟨-, e⟩⟩ := fresh_block_cases debug H <;>
    rw [e] <;> exact Outcome.noConfusion

/-- ordinary callers (`offset` a multiple of `align`, block starts are page- hence `align`-aligned)
never see the problem of the old `acquire_block`: no padding is needed at the start of the block -/
theorem fresh_block_fits_offset_multiple (vm : VMConsts) (debug : Bool) (ka km kx : Nat)
    (start size align offset : Nat) (H : FreshLegal vm ka km kx start size align offset)
    (hsa : align ∣ start) (hoa : align ∣ offset) :
    ∃ b', acquireBlockOld vm debug size align offset start = .ok start b' := by
  obtain ⟨bs, hbs, -, -, hc⟩ := fresh_block_cases debug H
  obtain ⟨bs', hbs', -, hle, -⟩ := acquireBlockSize_spec debug size (by have := H.small; omega)
  cases hbs.symm.trans hbs'
  rw [padSpec_eq_zero (Nat.dvd_add hsa hoa)] at hc
  rcases hc with ⟨_, e⟩ | ⟨h1, _⟩
  · exact ⟨_, e⟩
  · omega

/-- **defect `gc:bump-align-leak`, every block**: `alloc(32744, align 64, offset 8)` does NOT fit the
32 KB block `acquire_block` acquires for it, wherever the (64-byte aligned — blocks are page
aligned) block lies: `pad = 56`, `56 + 32744 = 32800 > 32768`.  What is proved is this one answer `.slow` for every
such `start`; that `alloc` then re-enters `alloc_slow`, which acquires the next fresh block with the same outcome (a
block leaked per retry until the space is exhausted), is read off bumpallocator.rs: the retry loop is not in the model. -/
theorem bump_align_leak (debug : Bool) (start : Nat) (hs : 64 ∣ start) (hsm : start + 65600 < 2^63) :
    acquireBlockOld vmDefault debug 32744 64 8 start = .slow := by
  have L : LegalAlign vmDefault 6 3 6 64 8 vmDefault.minAlign :=
    ⟨rfl, rfl, rfl, by decide, ⟨1, rfl⟩, by decide, Nat.le_refl _⟩
  have hk : vmDefault.minAlign ∣ start := Nat.dvd_trans ⟨8, rfl⟩ hs
  obtain ⟨bs, -, hbe, -, hc⟩ := fresh_block_cases debug (size := 32744) ⟨L, hk, by omega⟩
  have hp : padSpec start 64 8 = 56 := by unfold padSpec; omega
  -- the block is one 32 KB unit: `56 + 32744 ≤ 32768` is false
  rw [hp, (hbe : bs = 32768)] at hc
  exact hc.elim (fun h => absurd h.1 (by decide)) (·.2)

/-- the `decide` witness of the defect on the executable definitions (both build profiles) -/
theorem bump_align_leak_witness :
    acquireBlockSizeOld true 32744 = some 32768 ∧
    acquireBlockOld vmDefault true 32744 64 8 0x20000000000 = .slow ∧
    acquireBlockOld vmDefault false 32744 64 8 0x20000000000 = .slow ∧
    -- the same request with `offset = 0` fits, and so does one 40 bytes smaller
    acquireBlockOld vmDefault true 32744 64 0 0x20000000000 = .ok 0x20000000000 ⟨0x20000007fe8, 0x20000008000⟩ ∧
    acquireBlockOld vmDefault true 32704 64 8 0x20000000000 = .ok 0x20000000038 ⟨0x20000007ff8, 0x20000008000⟩ := by
  decide

/-- a block sized for `get_maximum_aligned_size(size, align)` (as `LargeObjectAllocator` and `mi_bin`
size theirs) always fits. -/
theorem fresh_block_with_slack_fits (vm : VMConsts) (debug : Bool) (ka km kx : Nat)
    (start size align offset m bs : Nat) (H : FreshLegal vm ka km kx start size align offset)
    (hszk : vm.minAlign ∣ size)
    (hm : maxAlignedSize vm debug size align vm.minAlign = some m)
    (hbs : m ≤ bs) (hb2 : start + bs < 2^63) :
    ∃ res b', bumpAllocAligned vm debug ⟨start, start + bs⟩ size align offset = .ok res b' ∧
      (res + offset) % align = 0 ∧ start ≤ res ∧ res + size ≤ start + bs := by
  obtain ⟨b1, -, b3, -⟩ := H.bounds
  rw [maxAlignedSize_val debug H.legal b3 hszk] at hm
  cases hm
  obtain ⟨res, b', -, h, h1, h2, h3, -⟩ :=
    bump_fits debug (b := ⟨start, start + bs⟩) H.legal H.startAligned b1 hb2
      (Nat.add_assoc start bs _ ▸ Nat.add_le_add_left (Nat.sub_le_iff_le_add.1 hbs) start)
  exact ⟨res, b', h, h1, h2, h3⟩

/-- **C03's termination clause for the bump allocator**, as far as the model goes (one call of `acquire_block`, not the
retry loop of `alloc_slow`): since commit 6e7a2da the block is sized for `get_maximum_aligned_size(size, align)`, and for
EVERY legal request the allocation into the block acquired for it succeeds — never `.slow` (no second trip through
`alloc_slow`, no leaked block), never a panic. -/
theorem fresh_block_always_fits {vm : VMConsts} (debug : Bool) {ka km kx start size align offset : Nat}
    (H : FreshLegal vm ka km kx start size align offset)
    (hszk : vm.minAlign ∣ size) :
    ∃ blockSize res b', acquireBlockSize vm debug size align = some blockSize ∧
      blockSize = (size + align - vm.minAlign) + 32767 - ((size + align - vm.minAlign) + 32767) % 32768 ∧
      acquireBlock vm debug size align offset start = .ok res b' ∧
      (res + offset) % align = 0 ∧ start ≤ res ∧ res + size ≤ start + blockSize ∧
      b' = ⟨res + size, start + blockSize⟩ ∧ res = start + padSpec start align offset := by
  obtain ⟨b1, -, b3, -, b5⟩ := H.bounds
  obtain ⟨L, hk, hsm⟩ := H
  have hm := maxAlignedSize_val debug L b3 hszk
  obtain ⟨bs, hbs, hbe, hge, hlt, -⟩ := acquireBlockSize_spec debug (size + align - vm.minAlign) b5
  have hbs' : acquireBlockSize vm debug size align = some bs :=
    (acquireBlockSizeWith_eq bumpBlockMask hm).trans hbs
  obtain ⟨res, b', hreq, h, h1, h2, h3, h4⟩ :=
    acquireBlockWith_fits (offset := offset) L hk hbs' (Nat.sub_le_iff_le_add.1 hge) b1 (by clear hbe; omega)
  exact ⟨bs, res, b', hbs', hbe, h, h1, h2, h3, h4, hreq⟩

theorem fresh_block_never_panics (vm : VMConsts) (debug : Bool) (ka km kx : Nat)
    (start size align offset : Nat) (H : FreshLegal vm ka km kx start size align offset)
    (hszk : vm.minAlign ∣ size) :
    acquireBlock vm debug size align offset start ≠ .panic ∧
    acquireBlock vm debug size align offset start ≠ .slow := by
  obtain ⟨_, _, _, -, -, e, -⟩ := fresh_block_always_fits debug H hszk
  rw [e]
  exact ⟨Outcome.noConfusion, Outcome.noConfusion⟩

theorem acquireBlockWith_eq_old {vm : VMConsts} {debug : Bool} (mask : Nat) {size align : Nat} (offset start : Nat)
    (h : maxAlignedSize vm debug size align vm.minAlign = some size) :
    acquireBlockWith vm debug mask size align offset start =
      acquireBlockWithOld vm debug mask size align offset start := by
  unfold acquireBlockWith acquireBlockWithOld
  rw [acquireBlockSizeWith_eq mask h]

/-- for `align = MIN_ALIGNMENT` (what ordinary callers ask for) `acquire_block` since commit 6e7a2da and before it agree:
same block size, same outcome, for every `offset` and `start`. -/
theorem acquireBlock_eq_old_of_min_align (vm : VMConsts) (debug : Bool) (ka km kx : Nat)
    (start size align offset : Nat) (L : LegalAlign vm ka km kx align offset vm.minAlign)
    (hmin : align = vm.minAlign) (hszk : vm.minAlign ∣ size) (hsz : size + align < 2^64) :
    acquireBlockSize vm debug size align = acquireBlockSizeOld debug size ∧
    acquireBlock vm debug size align offset start = acquireBlockOld vm debug size align offset start := by
  have hm := maxAlignedSize_val debug L hsz hszk
  rw [show size + align - vm.minAlign = size by omega] at hm
  exact ⟨acquireBlockSizeWith_eq bumpBlockMask hm,
    acquireBlockWith_eq_old bumpBlockMask offset start hm⟩

/-- **Immix hole** (`alloc_slow_hot` → `acquire_recyclable_lines` → `alloc`): a request whose
worst-case aligned size is at most one line (`get_maximum_aligned_size(size, align) ≤ Line::BYTES`,
the branch condition in `ImmixAllocator::alloc`) fits EVERY non-empty hole `[s, e)`; this is the
`debug_assert!` in `acquire_recyclable_lines`. -/
theorem immix_hole_fits {vm : VMConsts} (debug : Bool) {ka km kx base lineBytes s e size align offset : Nat}
    (hse : s < e)
    (L : LegalAlign vm ka km kx align offset vm.minAlign)
    (hbase : vm.minAlign ∣ base) (hline : vm.minAlign ∣ lineBytes)
    (hsmall : base + e * lineBytes + align < 2^63)
    (hfit : size + align ≤ lineBytes + vm.minAlign) :
    ∃ res b', res = base + s * lineBytes + padSpec (base + s * lineBytes) align offset ∧
      bumpAllocAligned vm debug (holeBump base lineBytes s e) size align offset = .ok res b' ∧
      (res + offset) % align = 0 ∧ base + s * lineBytes ≤ res ∧ res + size ≤ base + e * lineBytes ∧
      b' = ⟨res + size, base + e * lineBytes⟩ := by
  -- the hole has at least one line
  have hone : s * lineBytes + lineBytes ≤ e * lineBytes := mul_add_le_of_lt hse lineBytes
  exact bump_fits debug (b := holeBump base lineBytes s e) L
    (Nat.dvd_add hbase (Nat.dvd_mul_left_of_dvd hline s))
    (by simp only [holeBump]; omega) (Nat.lt_of_le_of_lt (Nat.le_add_right _ _) hsmall)
    (by simp only [holeBump]; omega)

/-- **Immix clean block** (`acquire_clean_block` → `alloc` / `overflow_alloc`): every request up to
`MAX_IMMIX_OBJECT_SIZE = Block::BYTES / 2` fits a fresh block of `blockBytes ≥ 2 * align` bytes. -/
theorem immix_clean_block_fits (vm : VMConsts) (debug : Bool) (ka km kx : Nat)
    (start blockBytes size align offset : Nat)
    (L : LegalAlign vm ka km kx align offset vm.minAlign) (hst : vm.minAlign ∣ start)
    (hsmall : start + blockBytes + align < 2^63)
    (hsz : 2 * size ≤ blockBytes) (hal : 2 * align ≤ blockBytes) :
    ∃ res b', bumpAllocAligned vm debug (bumpRefill start blockBytes) size align offset = .ok res b' ∧
      (res + offset) % align = 0 ∧ start ≤ res ∧ res + size ≤ start + blockBytes ∧
      b' = ⟨res + size, start + blockBytes⟩ := by
  obtain ⟨res, b', -, h⟩ :=
    bump_fits debug (b := bumpRefill start blockBytes) (size := size) L hst
      (Nat.lt_of_le_of_lt (Nat.add_le_add_right (Nat.le_add_right _ _) _) hsmall)
      (Nat.lt_of_le_of_lt (Nat.le_add_right _ _) hsmall) (by simp only [bumpRefill]; omega)
  exact ⟨res, b', h⟩

/-- a legal LOS request and the cell `allocate_pages` returned for it -/
structure LosLegal (vm : VMConsts) (ka km kx : Nat) (size align offset cell : Nat) : Prop where
  legal : LegalAlign vm ka km kx align offset vm.minAlign
  sizeAligned : vm.minAlign ∣ size
  cellAligned : vm.minAlign ∣ cell
  cellSmall : cell + align < 2^63
  sizeSmall : size + align + 4095 < 2^64

theorem le_pagesUp (x : Nat) : x ≤ (x + 4095) / 4096 * 4096 := by omega

/-- **C03, large-object allocator**: the call never panics, reserves `pages = ⌈(size + align - MIN_ALIGNMENT) / 4096⌉`
pages and returns the least admissible address in the cell, with `[res, res + size)` inside those pages. -/
theorem los_alloc_within_pages {vm : VMConsts} (debug : Bool) {ka km kx size align offset cell : Nat}
    (H : LosLegal vm ka km kx size align offset cell) :
    ∃ pages res, losAllocFull vm debug size align offset cell = some (pages, res) ∧
      pages = (size + align - vm.minAlign + 4095) / 4096 ∧
      (res + offset) % align = 0 ∧ cell ≤ res ∧ res + size ≤ cell + pages * 4096 ∧
      res = cell + padSpec cell align offset := by
  obtain ⟨L, hsk, hck, hcs, hss⟩ := H
  obtain ⟨-, hpos, hle, -⟩ := L.facts
  have hm := maxAlignedSize_val debug L (Nat.lt_of_le_of_lt (Nat.le_add_right _ _) hss) hsk
  have hpg := pagesUp_eq_ceilDiv (size + align - vm.minAlign) (by omega)
  obtain ⟨r, hr, hmod, hge, hfit, hreq⟩ :=
    alignAllocation_fits debug (room := (size + align - vm.minAlign + 4095) / 4096 * 4096) L hcs hck (Nat.sub_le_iff_le_add.1 (le_pagesUp _))
  refine ⟨_, r, ?_, rfl, hmod, hge, hfit, hreq⟩
  simp only [losAllocFull, losPages, hm, losResult, hr, hpg]

/-- **the large-object allocator without slack, whole family**: with `pages = bytes_to_pages_up(size)` (no alignment
slack) EVERY legal request whose size is a whole number of pages and whose offset is not a multiple
of the alignment runs past the end of its pages (LOS cells are page aligned). -/
theorem los_no_slack_overflows (vm : VMConsts) (debug : Bool) (ka km kx size align offset cell : Nat)
    (H : LosLegal vm ka km kx size align offset cell) (hka : ka ≤ 12)
    (hcell : 4096 ∣ cell) (hsize : 4096 ∣ size) (hoff : ¬ align ∣ offset) :
    ∃ pages res, losAllocNoSlack vm debug size align offset cell = some (pages, res) ∧
      pages * 4096 = size ∧ cell + pages * 4096 < res + size := by
  obtain ⟨L, hsk, hck, hcs, hss⟩ := H
  obtain ⟨r, hr, hge, -, hmod, -, -⟩ :=
    alignAllocation_good debug L hcs hck
  have hpg := pagesUp_eq_ceilDiv size (by omega)
  -- the cell is `align`-aligned, so `res = cell` would make `offset` a multiple of `align`
  have hal : align ∣ cell := by
    rw [L.halign]
    exact Nat.dvd_trans (Nat.pow_dvd_pow 2 hka) hcell
  have hne : r ≠ cell := fun h =>
    hoff ((Nat.dvd_add_iff_right hal).2 (Nat.dvd_of_mod_eq_zero (h ▸ hmod)))
  have hsz : (size + 4095) / 4096 * 4096 = size := by omega
  refine ⟨(size + 4095) / 4096, r, ?_, hsz,
    by rw [hsz]; exact Nat.add_lt_add_right (Nat.lt_of_le_of_ne hge (Ne.symm hne)) size⟩
  simp only [losAllocNoSlack, losPagesNoSlack, losResult, hr, hpg]

/-- mmtk-core's default `VMBinding` constants: `MIN_ALIGNMENT = 4`, `MAX_ALIGNMENT = 8` -/
def vmMmtkDefault : VMConsts := { minAlign := 4, maxAlign := 8 }

/-- kernel-evaluated witnesses on the executable definitions that dropping the alignment slack is wrong, for two VMs:
legal inputs for which `res + size > cell + pages * 4096`, although the real computation (`losAllocFull`, one page more)
keeps the object inside its pages. -/
theorem los_pages_without_slack_too_small :
    -- (a) the harness VM (MIN_ALIGNMENT 8, MAX_ALIGNMENT 64): size 8192, align 16, offset 8
    (LosLegal vmDefault 4 3 6 8192 16 8 0x30000000000 ∧
      losAllocNoSlack vmDefault true 8192 16 8 0x30000000000 = some (2, 0x30000000008) ∧
      0x30000000008 + 8192 > 0x30000000000 + 2 * 4096 ∧
      losAllocFull vmDefault true 8192 16 8 0x30000000000 = some (3, 0x30000000008) ∧
      0x30000000008 + 8192 ≤ 0x30000000000 + 3 * 4096) ∧
    -- (b) the default VMBinding constants (MIN_ALIGNMENT 4, MAX_ALIGNMENT 8): size 8192, align 8, offset 4
    (LosLegal vmMmtkDefault 3 2 3 8192 8 4 0x30000000000 ∧
      losAllocNoSlack vmMmtkDefault true 8192 8 4 0x30000000000 = some (2, 0x30000000004) ∧
      0x30000000004 + 8192 > 0x30000000000 + 2 * 4096 ∧
      losAllocFull vmMmtkDefault true 8192 8 4 0x30000000000 = some (3, 0x30000000004) ∧
      0x30000000004 + 8192 ≤ 0x30000000000 + 3 * 4096) ∧
    -- (c) release profile, size just below a page multiple
    (losAllocNoSlack vmDefault false 12280 64 8 0x30000000000 = some (3, 0x30000000038) ∧
      0x30000000038 + 12280 > 0x30000000000 + 3 * 4096) := by
  refine ⟨⟨⟨⟨rfl, rfl, rfl, by decide, ⟨1, rfl⟩, by decide, Nat.le_refl _⟩,
      Nat.dvd_of_mod_eq_zero rfl, Nat.dvd_of_mod_eq_zero rfl, by decide, by decide⟩,
      rfl, by decide, rfl, by decide⟩,
    ⟨⟨⟨rfl, rfl, rfl, by decide, ⟨1, rfl⟩, by decide, Nat.le_refl _⟩,
      Nat.dvd_of_mod_eq_zero rfl, Nat.dvd_of_mod_eq_zero rfl, by decide, by decide⟩,
      rfl, by decide, rfl, by decide⟩,
    rfl, by decide⟩

section FreeList
open Mmtk.MsBins Mmtk.Gen.Bins

theorem msVm_legal (ka align offset : Nat) (halign : align = 2^ka) (hka : 3 ≤ ka ∧ ka ≤ 6)
    (hoff : 8 ∣ offset) (hoffw : offset < 2^63) :
    LegalAlign MsBins.vm ka 3 6 align offset MsBins.vm.minAlign :=
  ⟨rfl, rfl, halign, ⟨hka.1, hka.2, by decide⟩, hoff, hoffw, Nat.le_refl _⟩

/-- `alignedSize` (C35's `get_maximum_aligned_size` for the mark-sweep VM) leaves room for the padding -/
theorem alignedSize_room {size align : Nat} (h : 8 ≤ align) : size + align ≤ alignedSize size align + 8 := by
  rcases alignedSize_cases size align with ⟨_, e⟩ | ⟨_, e⟩ <;> omega

theorem cell_alloc_fits {vm : VMConsts} (debug : Bool) {ka km kx start cell n k size align offset : Nat}
    (L : LegalAlign vm ka km kx align offset vm.minAlign)
    (hstart : vm.minAlign ∣ start) (hcell : vm.minAlign ∣ cell) (hk : k < n)
    (hend : start + n * cell + align < 2^63) (hroom : size + align ≤ cell + vm.minAlign) :
    ∃ res, alignAllocation vm debug (start + k * cell) align offset vm.minAlign = some res ∧
      (res + offset) % align = 0 ∧ start + k * cell ≤ res ∧ res + size ≤ start + k * cell + cell ∧
      start ≤ res ∧ res + size ≤ start + n * cell ∧
      res = start + k * cell + padSpec (start + k * cell) align offset := by
  have hkin : k * cell + cell ≤ n * cell := mul_add_le_of_lt hk cell
  obtain ⟨r, hr, hmod, hge, hfit, hreq⟩ :=
    alignAllocation_fits debug (region := start + k * cell) L (by omega)
      (Nat.dvd_add hstart (Nat.dvd_mul_left_of_dvd hcell k)) hroom
  exact ⟨r, hr, hmod, hge, hfit, Nat.le_trans (Nat.le_add_right _ _) hge,
    Nat.le_trans hfit (Nat.add_assoc _ _ _ ▸ Nat.add_le_add_left hkin start), hreq⟩

/-- **C03, free-list allocator**: for every request `mi_bin` accepts (C35 `bin_fits_partial`) the selected bin is a real
bin and, in EVERY cell of a block of that size class, `align_allocation` never panics and its result satisfies the
`debug_assert!` of `FreeListAllocator::alloc` (`res + size ≤ cell + cell_size`) and lies inside the block.  In `hend`, 65536 is
`blockBytes` and 64 the largest alignment (`ka ≤ 6`). -/
theorem freelist_alloc_within_cell (debug : Bool) {ka size align offset start : Nat}
    (halign : align = 2^ka) (hka : 3 ≤ ka ∧ ka ≤ 6) (hoff : 8 ∣ offset) (hoffw : offset < 2^63)
    (hs : alignedSize size align ≤ maxBinSize) (hd : debug = true → size % minAlign = 0)
    (hstart : 8 ∣ start) (hend : start + 65536 + 64 < 2^63) :
    ∃ b, miBin debug size align = some b ∧ Fits b (alignedSize size align) ∧
      ∀ k, k < blockBytes / binSize b →
        ∃ res, alignAllocation MsBins.vm debug (start + k * binSize b) align offset MsBins.vm.minAlign
            = some res ∧
          (res + offset) % align = 0 ∧ start + k * binSize b ≤ res ∧
          res + size ≤ start + k * binSize b + binSize b ∧
          start ≤ res ∧ res + size ≤ start + blockBytes ∧
          res = start + k * binSize b + padSpec (start + k * binSize b) align offset := by
  have L := msVm_legal ka align offset halign hka hoff hoffw
  obtain ⟨-, -, hal8, hal64, -⟩ := L.facts
  obtain ⟨b, hb, hfit⟩ := bin_fits_partial debug size align ⟨hal8, hal64⟩ hs hd
  refine ⟨b, hb, hfit, fun k hk => ?_⟩
  obtain ⟨-, hb2, hsz, -⟩ := hfit
  obtain ⟨-, -, hc8⟩ := bin_cell_size_legal b hb2
  -- the cells lie inside the 64 KB block …
  have hblk : blockBytes / binSize b * binSize b ≤ 65536 := Nat.div_mul_le_self 65536 (binSize b)
  -- … and `mi_bin` chose a cell with room for `get_maximum_aligned_size`
  have hroom : size + align ≤ binSize b + MsBins.vm.minAlign :=
    Nat.le_trans (alignedSize_room hal8) (Nat.add_le_add_right hsz 8)
  obtain ⟨r, hr, h1, h2, h3, h4, h5, h6⟩ :=
    cell_alloc_fits debug (n := blockBytes / binSize b) L
      hstart (Nat.dvd_of_mod_eq_zero hc8) hk (by change align ≤ 64 at hal64; omega) hroom
  exact ⟨r, hr, h1, h2, h3, h4, Nat.le_trans h5 (Nat.add_le_add_left hblk start), h6⟩

end FreeList

/-- C03 on one successful allocation, w.r.t. the memory `granted` to the allocator for it: non-zero,
`(res + offset) % align = 0`, and `[res, res + size) ⊆ granted` (same `Region` vocabulary as the C02
model, so `granted ⊆ space` carries over by `Region.sub_trans`). -/
structure ResultGood (granted : Region) (res size align offset : Nat) : Prop where
  nonzero : res ≠ 0
  aligned : (res + offset) % align = 0
  inside : (⟨res, size⟩ : Region).sub granted

theorem ResultGood.of_bounds {start len res size align offset : Nat} (hnz : start ≠ 0)
    (hal : (res + offset) % align = 0) (hlo : start ≤ res) (hhi : res + size ≤ start + len) :
    ResultGood ⟨start, len⟩ res size align offset :=
  ⟨fun h => hnz (Nat.le_zero.1 (h ▸ hlo)), hal, hlo, hhi⟩

/-- **bump allocator / Immix bump pointers**: every fast-path success is good w.r.t. the thread-local
buffer `[cursor, limit)`; the buffer that remains is inside the old one and disjoint from the object. -/
theorem bump_alloc_result_good {vm : VMConsts} {debug : Bool} {ka km kx : Nat} {b : Bump}
    {size align offset : Nat} (H : BumpLegal vm ka km kx b size align offset) (hnz : b.cursor ≠ 0)
    {res : Nat} {b' : Bump} (h : bumpAllocAligned vm debug b size align offset = .ok res b') :
    ResultGood b.region res size align offset ∧ b'.region.sub b.region ∧
      (⟨res, size⟩ : Region).disjoint b'.region := by
  obtain ⟨-, h1, -, h2, -, h3, rfl⟩ := bump_fast_ok H h
  obtain ⟨p1, p2, p3⟩ := bump_pieces (b' := ⟨res + size, b.limit⟩) h2 rfl rfl h3
  exact ⟨⟨fun e => hnz (Nat.le_zero.1 (e ▸ h2)), h1, p1⟩, p2, p3⟩

/-- **bump allocator, slow path of mmtk-core before commit 6e7a2da**: when `acquireBlockOld` succeeds the result is good w.r.t. the
acquired block `[start, start + block_size)`. -/
theorem acquire_block_result_good_old (vm : VMConsts) (debug : Bool) (ka km kx : Nat)
    (start size align offset : Nat) (H : FreshLegal vm ka km kx start size align offset)
    (hnz : start ≠ 0) (res : Nat) (b' : Bump)
    (h : acquireBlockOld vm debug size align offset start = .ok res b') :
    ∃ bs, acquireBlockSizeOld debug size = some bs ∧ ResultGood ⟨start, bs⟩ res size align offset ∧
      b' = ⟨res + size, start + bs⟩ := by
  obtain ⟨bs, hbs, h1, h2, h3, h4⟩ := fresh_block_ok H h
  exact ⟨bs, hbs, .of_bounds hnz h1 h2 h3, h4⟩

/-- **bump allocator, slow path**: `acquire_block` ALWAYS succeeds on a legal request and
the result is good w.r.t. the acquired block `[start, start + block_size)`. -/
theorem acquire_block_result_good (vm : VMConsts) (debug : Bool) (ka km kx : Nat)
    (start size align offset : Nat) (H : FreshLegal vm ka km kx start size align offset)
    (hszk : vm.minAlign ∣ size) (hnz : start ≠ 0) :
    ∃ bs res b', acquireBlockSize vm debug size align = some bs ∧
      acquireBlock vm debug size align offset start = .ok res b' ∧
      ResultGood ⟨start, bs⟩ res size align offset ∧ b' = ⟨res + size, start + bs⟩ := by
  obtain ⟨bs, res, b', hbs, -, h, h1, h2, h3, h4, -⟩ :=
    fresh_block_always_fits debug H hszk
  exact ⟨bs, res, b', hbs, h, .of_bounds hnz h1 h2 h3, h4⟩

/-- **Immix, recycled hole**: the allocation into a fresh hole is good w.r.t. the hole's lines. -/
theorem immix_hole_result_good (vm : VMConsts) (debug : Bool) (ka km kx : Nat)
    (base lineBytes s e size align offset : Nat) (hse : s < e)
    (L : LegalAlign vm ka km kx align offset vm.minAlign)
    (hbase : vm.minAlign ∣ base) (hnz : base ≠ 0) (hline : vm.minAlign ∣ lineBytes)
    (hsmall : base + e * lineBytes + align < 2^63) (hsz : size < 2^63)
    (hfit : size + align ≤ lineBytes + vm.minAlign) :
    ∃ res b', bumpAllocAligned vm debug (holeBump base lineBytes s e) size align offset = .ok res b' ∧
      ResultGood (holeRegion base lineBytes (s, e)) res size align offset := by
  obtain ⟨res, b', -, h, h1, h2, h3, -⟩ :=
    immix_hole_fits debug hse L hbase hline hsmall hfit
  have hcap : s * lineBytes + (e - s) * lineBytes = e * lineBytes := by
    rw [← Nat.add_mul, Nat.add_sub_cancel' (Nat.le_of_lt hse)]
  exact ⟨res, b', h, .of_bounds (fun e => hnz (Nat.eq_zero_of_add_eq_zero_right e)) h1 h2
    (by rw [Nat.add_assoc, hcap]; exact h3)⟩

/-- **large-object allocator**: every call is good w.r.t. the page run reserved for it. -/
theorem los_alloc_result_good (vm : VMConsts) (debug : Bool) (ka km kx size align offset cell : Nat)
    (H : LosLegal vm ka km kx size align offset cell) (hnz : cell ≠ 0) :
    ∃ pages res, losAllocFull vm debug size align offset cell = some (pages, res) ∧
      ResultGood (losAlloc cell pages 4096) res size align offset := by
  obtain ⟨pages, res, h, -, h1, h2, h3, -⟩ := los_alloc_within_pages debug H
  exact ⟨pages, res, h, .of_bounds hnz h1 h2 h3⟩

section FreeList
open Mmtk.MsBins Mmtk.Gen.Bins

/-- **free-list allocator**: on a block of the size class `mi_bin(size, align)` whose free list holds
cell indices of the block, `alloc` either finds the list empty or pops a cell and returns an address
that is good w.r.t. that cell; `pad + size ≤ cell_size` is the premise `hfit` of C02's `cell_guard`.
(`hend` as in `freelist_alloc_within_cell`.) -/
theorem freelist_alloc_result_good (debug : Bool) (ka size align offset b : Nat) (blk : CellBlock)
    (halign : align = 2^ka) (hka : 3 ≤ ka ∧ ka ≤ 6) (hoff : 8 ∣ offset) (hoffw : offset < 2^63)
    (hs : alignedSize size align ≤ maxBinSize) (hd : debug = true → size % minAlign = 0)
    (hbin : miBin debug size align = some b) (hcell : blk.cell = binSize b)
    (hbase : 8 ∣ blk.base) (hnz : blk.base ≠ 0) (hend : blk.base + 65536 + 64 < 2^63)
    (hfl : ∀ k, k ∈ blk.freeList → k < blockBytes / binSize b) :
    (blk.freeList = [] ∧ cellAllocAligned MsBins.vm debug blk align offset = some none) ∨
    ∃ k cell res blk', cellAlloc blk = some (cell, blk') ∧ cell = blk.base + k * blk.cell ∧
      cellAllocAligned MsBins.vm debug blk align offset = some (some (cell, res, blk')) ∧
      ResultGood (cellRegion blk.base blk.cell k) res size align offset ∧
      (res - cell) + size ≤ blk.cell := by
  obtain ⟨b0, hb0, -, hall⟩ :=
    freelist_alloc_within_cell debug halign hka hoff hoffw hs hd hbase hend
  cases hbin.symm.trans hb0
  cases hl : blk.freeList with
  | nil => exact .inl ⟨rfl, by simp only [cellAllocAligned, cellAlloc, hl]⟩
  | cons k rest =>
    obtain ⟨res, hr, h1, h2, h3, -⟩ := hall k (hfl k (hl ▸ List.mem_cons_self))
    rw [← hcell] at hr h2 h3
    exact .inr ⟨k, _, res, { blk with freeList := rest }, by simp only [cellAlloc, hl], rfl,
      by simp only [cellAllocAligned, cellAlloc, hl, hr],
      .of_bounds (fun e => hnz (Nat.eq_zero_of_add_eq_zero_right e)) h1 h2 h3,
      by rw [← Nat.sub_add_comm h2]; exact Nat.sub_le_iff_le_add'.2 h3⟩

end FreeList

/-- the three allocator families side by side: whenever the bump pointer (BumpAllocator, ImmixAllocator), the
large-object allocator or the free-list allocator returns an address for a legal request, it is non-zero (given a
non-zero buffer / cell / block), satisfies `(res + offset) % align = 0`, and `[res, res + size)` lies inside the memory
granted for it. -/
theorem alloc_result_good :
    (∀ (vm : VMConsts) (debug : Bool) (ka km kx : Nat) (b : Bump) (size align offset : Nat),
      BumpLegal vm ka km kx b size align offset → b.cursor ≠ 0 →
      ∀ (res : Nat) (b' : Bump), bumpAllocAligned vm debug b size align offset = .ok res b' →
        ResultGood b.region res size align offset) ∧
    (∀ (vm : VMConsts) (debug : Bool) (ka km kx size align offset cell : Nat),
      LosLegal vm ka km kx size align offset cell → cell ≠ 0 →
      ∃ pages res, losAllocFull vm debug size align offset cell = some (pages, res) ∧
        ResultGood (losAlloc cell pages 4096) res size align offset) ∧
    (∀ (debug : Bool) (ka size align offset b : Nat) (blk : CellBlock),
      align = 2^ka → 3 ≤ ka ∧ ka ≤ 6 → 8 ∣ offset → offset < 2^63 →
      Mmtk.MsBins.alignedSize size align ≤ Mmtk.Gen.Bins.maxBinSize →
      (debug = true → size % Mmtk.Gen.Bins.minAlign = 0) →
      Mmtk.MsBins.miBin debug size align = some b → blk.cell = Mmtk.MsBins.binSize b →
      8 ∣ blk.base → blk.base ≠ 0 → blk.base + 65536 + 64 < 2^63 →
      (∀ k, k ∈ blk.freeList → k < Mmtk.Gen.Bins.blockBytes / Mmtk.MsBins.binSize b) →
      ∀ cell res blk', cellAllocAligned Mmtk.MsBins.vm debug blk align offset = some (some (cell, res, blk')) →
        ∃ k, cell = blk.base + k * blk.cell ∧
          ResultGood (cellRegion blk.base blk.cell k) res size align offset) := by
  refine ⟨fun vm debug ka km kx b size align offset H hnz res b' h =>
      (bump_alloc_result_good H hnz h).1,
    los_alloc_result_good, ?_⟩
  intro debug ka size align offset b blk h1 h2 h3 h4 h5 h6 h7 h8 h9 h10 h11 h12 cell res blk' h
  rcases freelist_alloc_result_good debug ka size align offset b blk h1 h2 h3 h4 h5 h6 h7 h8 h9 h10 h11 h12
    with ⟨_, e⟩ | ⟨k, cell0, res0, blk0, _, hc, e, hg, _⟩
  · rw [e] at h; cases h
  · rw [e] at h
    cases h
    exact ⟨k, hc, hg⟩

example : BumpLegal vmDefault 5 3 6 ⟨0x20000000010, 0x20000008000⟩ 152 32 8 :=
  ⟨⟨rfl, rfl, rfl, by decide, ⟨1, rfl⟩, by decide, Nat.le_refl _⟩, Nat.dvd_of_mod_eq_zero (by decide),
    by decide, by decide⟩
example : bumpAllocAligned vmDefault true ⟨0x20000000010, 0x20000008000⟩ 152 32 8 =
    .ok 0x20000000018 ⟨0x200000000b0, 0x20000008000⟩ := by decide
example : padSpec 0x20000000010 32 8 = 8 := by decide
/-- the last 152 bytes of the buffer: fits exactly; one more byte of padding would not -/
example : bumpAllocAligned vmDefault true ⟨0x20000007f68, 0x20000008000⟩ 152 8 0 =
    .ok 0x20000007f68 ⟨0x20000008000, 0x20000008000⟩ := by decide
example : bumpAllocAligned vmDefault true ⟨0x20000007f68, 0x20000008000⟩ 152 16 0 = .slow := by decide
/-- an illegal offset trips the debug assertion -/
example : bumpAllocAligned vmDefault true ⟨0x20000000010, 0x20000008000⟩ 152 32 4 = .panic := by decide
example : FreshLegal vmDefault 6 3 6 0x20000000000 32744 64 8 :=
  ⟨⟨rfl, rfl, rfl, by decide, ⟨1, rfl⟩, by decide, Nat.le_refl _⟩, Nat.dvd_of_mod_eq_zero (by decide), by decide⟩
/-- the request of `gc:bump-align-leak` succeeds: the block is 64 KB (`32744 + 64 - 8 = 32800`
rounded up), the object sits 56 bytes into it; `acquireBlockOld` answers `.slow` -/
example : acquireBlockSize vmDefault true 32744 64 = some 65536 ∧
    acquireBlock vmDefault true 32744 64 8 0x20000000000 =
      .ok 0x20000000038 ⟨0x20000008020, 0x20000010000⟩ ∧
    acquireBlock vmDefault false 32744 64 8 0x20000000000 =
      .ok 0x20000000038 ⟨0x20000008020, 0x20000010000⟩ ∧
    acquireBlockOld vmDefault true 32744 64 8 0x20000000000 = .slow := by decide
/-- with the minimum alignment the two agree -/
example : acquireBlock vmDefault true 32744 8 0 0x20000000000 =
    acquireBlockOld vmDefault true 32744 8 0 0x20000000000 := by decide
example : LosLegal vmDefault 6 3 6 65536 64 8 0x30000000000 :=
  ⟨⟨rfl, rfl, rfl, by decide, ⟨1, rfl⟩, by decide, Nat.le_refl _⟩, Nat.dvd_of_mod_eq_zero (by decide),
    Nat.dvd_of_mod_eq_zero (by decide), by decide, by decide⟩
example : losAllocFull vmDefault true 65536 64 8 0x30000000000 = some (17, 0x30000000038) := by decide
/-- Immix: a 1-line hole (lines 3..4 of the block at `0x20000008000`) serves a 200-byte, 64-aligned request -/
example : bumpAllocAligned vmDefault true (holeBump 0x20000008000 256 3 4) 200 64 0 =
    .ok 0x20000008300 ⟨0x200000083c8, 0x20000008400⟩ := by decide
/-- free-list: hypotheses of `freelist_alloc_result_good` for `(24, 16, 8)` on a block of bin 4 (32-byte cells) -/
example : Mmtk.MsBins.alignedSize 24 16 ≤ Mmtk.Gen.Bins.maxBinSize ∧
    Mmtk.MsBins.miBin true 24 16 = some 4 ∧ Mmtk.MsBins.binSize 4 = 32 ∧
    (match cellAllocAligned Mmtk.MsBins.vm true ⟨0x40000000000, 32, [5, 2]⟩ 16 8 with
      | some (some (c, r, b')) => (c, r, b'.base, b'.cell, b'.freeList)
      | _ => (0, 0, 0, 0, [])) = (0x400000000a0, 0x400000000a8, 0x40000000000, 32, [2]) := by decide +kernel

end Mmtk.AllocArith
